/-
  C20 — Same design, same font through every entry point and container.
  Property theorems; the lemmas they rest on live in FontcProofs/Plist{Value,Lex,Parse,Canon,Bare,Package}.lean
  and FontcProofs/EntryPath.lean.

  Setting.
  * `Plist.parse` models `glyphs_reader::Plist::parse` (glyphs-reader/src/plist.rs) over `List Char`.
    A `PVal` is a plist value; a dictionary is the list of its entries in *written* order.
    `Plist.canon v` is what the reader's `BTreeMap` makes of it (keys sorted, last duplicate wins).
    `Plist.print v st` is the text of `v` in style `st : Style = List Nat → NodeStyle`: every function is a
    style; it fixes, for every node of the value, the whitespace before/after it, before `=`, `;`/`,` and
    the closing bracket, whether a string/key is written bare when that is allowed, how each character of
    a quoted string is rendered (raw / `\"`-style / octal / `\Uhhhh` incl. surrogate pairs, hex case),
    the case of data hex digits and a trailing comma.
    `Plist.valid v` states the invariants of the Rust types (integers are `i64`, floats come from float
    text); strings range over *all* Unicode scalar values (Lean `Char`), including NUL, `"`, `\`, controls
    and characters outside the BMP.
  * `Entry` models the dispatch of `fontc::Input`, `Args → Options`, the flag merge and the two entry
    points `fontc::run` / `fontc::generate_font`.
-/
import FontcModel.Plist
import FontcModel.Entry
import FontcProofs.PlistParse
import FontcProofs.PlistCanon
import FontcProofs.PlistBare
import FontcProofs.PlistPackage
import FontcProofs.EntryPath

namespace Fontc.C20
open Fontc Fontc.Plist

/-- The reader reads every valid value back from every style — as its canonical form.  No hypothesis on
    keys: with repeated keys the result is still determined (`duplicate_key_last_wins`). -/
theorem parse_print_reads_canon (v : PVal) (hv : valid v = true) (st : Style) :
    parse (print v st) = some (canon v) :=
  parse_print v hv st

/-- `hc`: the dictionaries of `v` are in key order (hence have distinct keys), as the reader returns them. -/
theorem parse_print_any_style (v : PVal) (hv : valid v = true) (hc : canonical v = true) (st : Style) :
    parse (print v st) = some v := by
  rw [parse_print v hv st, canon_of_canonical v hc]

/-- Whitespace, quoting, escapes, hex case and trailing commas are insignificant. -/
theorem style_insensitive (v : PVal) (hv : valid v = true) (st st' : Style) :
    parse (print v st) = parse (print v st') := by
  rw [parse_print v hv st, parse_print v hv st']

/-- Dictionary key order is insignificant, at every depth, as long as keys are distinct: `w` is `v` with
    dictionary entries reordered anywhere (`KeyPerm`), each printed in its own style. -/
theorem key_order_insensitive (v w : PVal) (h : KeyPerm v w) (hd : distinctKeys v = true)
    (hv : valid v = true) (hw : valid w = true) (st st' : Style) :
    parse (print v st) = parse (print w st') := by
  rw [parse_print v hv st, parse_print w hw st', (canon_keyPerm h hd).1]

/-- Every value in the reader's own order, written with its keys in any order and in any style, reads
    back as itself. -/
theorem parse_print_any_key_order (v w : PVal) (hc : canonical v = true) (h : KeyPerm v w)
    (hd : distinctKeys v = true) (hw : valid w = true) (st : Style) :
    parse (print w st) = some v := by
  rw [parse_print w hw st, ← (canon_keyPerm h hd).1, canon_of_canonical v hc]

/-- With a repeated key the *last* entry wins … -/
theorem duplicate_key_last_wins (pre post : List (Key × PVal)) (k : Key) (x : PVal)
    (hlast : ∀ kv ∈ post, kv.1 ≠ k) (kvs : List (Key × PVal))
    (h : canon (.dict (pre ++ (k, x) :: post)) = .dict kvs) :
    lookupKV k kvs = some (canon x) := by
  simp only [canon] at h
  cases h
  exact lookup_canonE_last pre post k x [] hlast

/-- `key_order_insensitive` without its `distinctKeys` hypothesis (false) -/
def KeyOrderNeverMatters : Prop := ∀ v w : PVal, KeyPerm v w → valid v = true → canon v = canon w

/-- … so with repeated keys the written order *is* significant: `{a = 1; a = 2;}` and `{a = 2; a = 1;}`
    are reorderings of each other and read back differently (the `distinctKeys` hypothesis of
    `key_order_insensitive` cannot be dropped). -/
theorem duplicate_keys_order_significant : ¬ KeyOrderNeverMatters := by
  intro h
  have := h (.dict [(['a'], .int 1), (['a'], .int 2)]) (.dict [(['a'], .int 2), (['a'], .int 1)])
    (KeyPerm.reorder (List.Perm.swap _ _ _)) (by decide)
  exact absurd this (by decide +kernel)

/-- A string value may be written without quotes exactly when it is `bareOk`: non-empty, all characters in
    `[0-9A-Za-z_$/:.-]` (plist.rs:92 `is_alnum`), and not something `parse_atom` turns into a number
    (`looksNumeric`).  `r` is the text that follows (it must not continue the bare word). -/
theorem unquoted_iff_safe (s r : List Char) (f : Nat) (hr : Stop r) :
    parseRec (f + 1) (s ++ r) = some (.str s, r) ↔ bareOk s = true :=
  bare_reads_back_iff s r f hr

/-- The printer leaves quotes out only there (so it is safe), and may always put them. -/
theorem printer_quotes_when_needed (s : List Char) (n : NodeStyle) (h : bareOk s = false) :
    printStr s n = printQuoted s n.esc := by
  simp [printStr, h]

/-- Strings that look like numbers: `123` and `"123"` are *different* values for the untyped reader
    (`Plist::Integer(123)` vs `Plist::String("123")`), likewise `1e5`, `-inf`.  So number-like
    strings need their quotes, and the style space never removes them.  `numeric_ok` (plist.rs:118) keeps
    `007` (leading zero), `inf` and `1E5` (only digits and `A`–`F`, not all digits) strings. -/
theorem number_like_strings_need_quotes :
    parse "123".toList = some (.int 123) ∧ parse "\"123\"".toList = some (.str "123".toList) ∧
    parse "1e5".toList = some (.flt "1e5".toList) ∧ parse "\"1e5\"".toList = some (.str "1e5".toList) ∧
    parse "-inf".toList = some (.flt "-inf".toList) ∧ parse "inf".toList = some (.str "inf".toList) ∧
    parse "007".toList = some (.str "007".toList) ∧ parse "1E5".toList = some (.str "1E5".toList) ∧
    bareOk "123".toList = false ∧ bareOk "007".toList = true := by
  -- a literal is `String.ofList` of its characters: rewritten so, the kernel does not decode each through its UTF-8 bytes
  simp -index only [String.toList_ofList]
  decide +kernel

/-- Outside the grammar: comments are not recognised (`/` is a bare-word character, and `Plist::parse`
    does not look at what follows the first value); a trailing comma is accepted, an empty element is
    not; `\U` takes up to four hex digits; a lone surrogate is an error; whitespace inside `<…>` data is an error. -/
theorem outside_the_grammar :
    parse "/* c */ 1".toList = some (.str "/".toList) ∧ (parse "{a = /* c */ 1;}".toList).isNone = true ∧
    parse "1 2 3 trailing { garbage".toList = some (.int 1) ∧
    parse "(a, b,)".toList = some (.arr [.str "a".toList, .str "b".toList]) ∧ parse "(a,,)".toList = none ∧
    parse "\"\\U41\"".toList = some (.str "A".toList) ∧ parse "\"\\U00411\"".toList = some (.str "A1".toList) ∧
    parse "\"\\UD83D\"".toList = none ∧ parse "<0a 0b>".toList = none := by
  simp -index only [String.toList_ofList]
  decide +kernel

/-- Value level: split the top-level dictionary of a single-file source (keys in reader order) into
    `fontinfo.plist` (everything but `glyphs`), one file per glyph and `order.plist` (the glyph names);
    then `load_package` (font.rs:2254) — whatever order the directory listing yields the glyph files in —
    rebuilds exactly the single-file value.  Forced hypotheses: every glyph has a non-empty string
    `glyphname` (`namesOf`), and the names are pairwise distinct (a package keys glyphs by name). -/
theorem package_reassembly_eq (kvs : List (Key × PVal)) (gs : List PVal) (names : List Key) (files : List PVal)
    (hsorted : sortedKeys kvs = true) (hglyphs : lookupKV kGlyphs kvs = some (.arr gs))
    (hnames : namesOf gs = some names) (hnd : names.Nodup) (hfiles : files.Perm gs) :
    split (.dict kvs) = some ⟨.dict (eraseKV kGlyphs kvs), some (.arr (names.map .str)), gs⟩ ∧
    reassemble ⟨.dict (eraseKV kGlyphs kvs), some (.arr (names.map .str)), files⟩ = some (.dict kvs) :=
  package_reassembly kvs gs names files hsorted hglyphs hnames hnd hfiles

open Fontc.Entry

/-- The command-line entry (`fontc::run`, given an output file) and the library entry
    (`fontc::generate_font`) make the *same* internal call — same source reader, same merged flags, same
    version stamp — for equal `Options`. -/
theorem entry_points_same_call (version : List Char) (sourceFlags : SourceSpec → Flags) (input : Input)
    (o : Options) (out : List Char) (hout : o.outputFile = some out) :
    run version sourceFlags input o = .ok (generateFont version sourceFlags input.createSource o, out) := by
  simp [run, generateFont, hout]

/-- … and without an output file the command-line entry refuses (`Error::NoOutputFile`). -/
theorem run_requires_output (version : List Char) (sourceFlags : SourceSpec → Flags) (input : Input)
    (o : Options) (hout : o.outputFile = none) : run version sourceFlags input o = .error .noOutputFile := by
  simp [run, hout]

/-- The bytes cannot depend on where they are written: the internal call ignores `output_file` and
    `timing_file`. -/
theorem internal_call_ignores_output_paths (version : List Char) (sourceFlags : SourceSpec → Flags)
    (src : SourceSpec) (o : Options) (a b : Option (List Char)) :
    internalCall version sourceFlags src { o with outputFile := a, timingFile := b } =
      internalCall version sourceFlags src o := rfl

/-- A bare `fontc <path>` command line gives the library's default `Options` (up to the output path):
    `Args::flags()` of the defaults is `Flags::default()`. -/
theorem cli_default_is_library_default (path : List Char) :
    ({ path := path } : Args).toOptions = { Options.default with outputFile := some "build/font.ttf".toList } := by
  simp -index only [Args.toOptions, String.toList_ofList]
  rfl

/-- Hence the whole command line `fontc <path>` and `generate_font(Input::new(path).create_source(), Options::default())`
    make the same internal call. -/
theorem cli_main_same_call (version : List Char) (sourceFlags : SourceSpec → Flags) (path : List Char)
    (input : Input) (hin : Input.new true path = .ok input) :
    (cliMain version sourceFlags true { path := path }).map (·.1) =
      .ok (generateFont version sourceFlags input.createSource Options.default) := by
  simp only [cliMain, hin]
  rfl

/-- The flag merge: a flag the options disable is off; otherwise it is on iff the options or the source
    enable it (lib.rs:199). -/
theorem merge_flags_spec (o : Options) (s : Flags) :
    (mergeFlags o s).flattenComponents = ((o.flags.flattenComponents || s.flattenComponents) && !o.flagsToDisable.flattenComponents) ∧
    (mergeFlags o s).eraseOpenCorners = ((o.flags.eraseOpenCorners || s.eraseOpenCorners) && !o.flagsToDisable.eraseOpenCorners) ∧
    (mergeFlags o s).propagateAnchors = ((o.flags.propagateAnchors || s.propagateAnchors) && !o.flagsToDisable.propagateAnchors) :=
  ⟨rfl, rfl, rfl⟩

/-- `.ufo` and `.designspace` go to the same reader, `.glyphs` and `.glyphspackage` to the same reader;
    the extension is matched exactly (`X.GLYPHS` is not recognised). -/
theorem input_dispatch (dir : List Char) :
    Input.new true (dir ++ '/' :: "x.ufo".toList) = .ok (.designSpacePath (dir ++ '/' :: "x.ufo".toList)) ∧
    Input.new true (dir ++ '/' :: "x.designspace".toList) = .ok (.designSpacePath (dir ++ '/' :: "x.designspace".toList)) ∧
    Input.new true (dir ++ '/' :: "x.glyphs".toList) = .ok (.glyphsPath (dir ++ '/' :: "x.glyphs".toList)) ∧
    Input.new true (dir ++ '/' :: "x.glyphspackage".toList) = .ok (.glyphsPath (dir ++ '/' :: "x.glyphspackage".toList)) ∧
    Input.new true (dir ++ '/' :: "X.GLYPHS".toList) = .error .unrecognizedSource ∧
    Input.new false (dir ++ '/' :: "x.glyphs".toList) = .error .fileExpected := by
  -- the statement's literals first, while they are plain arguments: under the `if`s of `Input.new` unfolded, `simp` checks
  -- each rewritten branch against the original, and that compares a literal with its list of characters through the bytes
  simp -index only [String.toList_ofList]
  simp -index only [Input.new, String.toList_ofList]
  refine ⟨?_, ?_, ?_, ?_, ?_, rfl⟩
  · rw [fileName_append dir _ (by decide)]; rfl
  · rw [fileName_append dir _ (by decide)]; rfl
  · rw [fileName_append dir _ (by decide)]; rfl
  · rw [fileName_append dir _ (by decide)]; rfl
  · rw [fileName_append dir _ (by decide)]; rfl

/-! Non-vacuity: the hypotheses of the theorems above are met by values and styles that use every freedom of the
    grammar, and the conclusions are evaluated on them. -/

/-- a value with nested dictionaries (keys out of order), strings that force quoting and escapes
    (quote, backslash, newline, NUL, Latin-1, BMP, astral), a number-like string, numbers, data -/
def exWritten : PVal :=
  .dict [("name".toList, .str "a \"b\"\\\n\x00é’💩".toList),
         ("glyphs".toList, .arr [.dict [("unicode".toList, .str "0041".toList), ("glyphname".toList, .str "A".toList)],
                                 .int (-42), .flt "1.5e3".toList, .data [0, 255], .str "123".toList, .str "".toList]),
         (".formatVersion".toList, .int 3)]

/-- the same value in the reader's key order -/
def exCanon : PVal :=
  .dict [(".formatVersion".toList, .int 3),
         ("glyphs".toList, .arr [.dict [("glyphname".toList, .str "A".toList), ("unicode".toList, .str "0041".toList)],
                                 .int (-42), .flt "1.5e3".toList, .data [0, 255], .str "123".toList, .str "".toList]),
         ("name".toList, .str "a \"b\"\\\n\x00é’💩".toList)]

/-- a style that uses every freedom: whitespace everywhere, alternating bare/quoted, all escape forms,
    mixed hex case, trailing commas -/
def exStyle : Style := fun p =>
  { pre := " \n".toList, post := "\t".toList, bare := p.length % 2 == 0,
    esc := [.uni true, .octal, .short, .raw, .short, .uni false, .short, .octal, .octal, .uni false, .uni true],
    upper := [true, false, false, true], close := "\r\n ".toList, trailingComma := true,
    keyPre := "\n  ".toList, keyBare := p.length % 2 == 1, keyEsc := [.uni false, .octal], eqPre := " ".toList }

theorem exWritten_valid : valid exWritten = true := by decide +kernel
theorem exCanon_valid : valid exCanon = true := by decide +kernel
theorem exCanon_canonical : canonical exCanon = true := by
  unfold exCanon
  simp -index only [String.toList_ofList]
  decide +kernel
theorem exWritten_canon : canon exWritten = exCanon := by
  unfold exWritten exCanon
  simp -index only [String.toList_ofList]
  decide +kernel

example : parse (print exCanon exStyle) = some exCanon :=
  parse_print_any_style exCanon exCanon_valid exCanon_canonical exStyle
example : parse (print exWritten exStyle) = some exCanon := by
  rw [parse_print_reads_canon exWritten exWritten_valid exStyle, exWritten_canon]
example : parse (print exCanon exStyle) = parse (print exCanon (fun _ => {})) :=
  style_insensitive exCanon exCanon_valid _ _

/-- key order at two depths: `{a = {x = 1; y = 2;}; b = 3;}` written as `{b = 3; a = {y = 2; x = 1;};}` -/
def exV : PVal := .dict [(['a'], .dict [(['x'], .int 1), (['y'], .int 2)]), (['b'], .int 3)]
def exW : PVal := .dict [(['b'], .int 3), (['a'], .dict [(['y'], .int 2), (['x'], .int 1)])]

theorem exV_keyPerm_exW : KeyPerm exV exW :=
  KeyPerm.trans
    (KeyPerm.inEntry (pre := []) (post := [(['b'], .int 3)]) (k := ['a'])
      (KeyPerm.reorder (List.Perm.swap (['y'], PVal.int 2) (['x'], PVal.int 1) [])))
    (KeyPerm.reorder (List.Perm.swap _ _ []))

example : parse (print exV exStyle) = parse (print exW (fun _ => {})) :=
  key_order_insensitive exV exW exV_keyPerm_exW (by decide +kernel) (by decide +kernel) (by decide +kernel) _ _
example : parse (print exW exStyle) = some exV :=
  parse_print_any_key_order exV exW (by decide +kernel) exV_keyPerm_exW (by decide +kernel) (by decide +kernel) _

/-- `unquoted_iff_safe`, both ways: `A.alt` may stay bare, `1e5` and `a b` may not -/
example : parseRec 1 "A.alt;".toList = some (.str "A.alt".toList, ";".toList) := by
  have h := unquoted_iff_safe "A.alt".toList ";".toList 0 (stop_cons _ (by decide))
  simp -index only [String.toList_ofList] at h ⊢
  exact h.2 (by decide +kernel)
example : parseRec 1 "1e5;".toList ≠ some (.str "1e5".toList, ";".toList) := by
  have h := unquoted_iff_safe "1e5".toList ";".toList 0 (stop_cons _ (by decide))
  simp -index only [String.toList_ofList] at h ⊢
  exact fun e => absurd (h.1 e) (by decide +kernel)
example : parseRec 1 "a b;".toList ≠ some (.str "a b".toList, ";".toList) := by
  have h := unquoted_iff_safe "a b".toList ";".toList 0 (stop_cons _ (by decide))
  simp -index only [String.toList_ofList] at h ⊢
  exact fun e => absurd (h.1 e) (by decide +kernel)

/-- a two-glyph source as a package whose directory lists the glyph files in the other order -/
def exGlyphA : PVal := .dict [("glyphname".toList, .str "A".toList), ("unicode".toList, .str "0041".toList)]
def exGlyphB : PVal := .dict [("glyphname".toList, .str "B".toList)]
def exFont : List (Key × PVal) :=
  [(".formatVersion".toList, .int 3), ("familyName".toList, .str "X".toList), ("glyphs".toList, .arr [exGlyphA, exGlyphB])]

example : reassemble ⟨.dict (eraseKV kGlyphs exFont), some (.arr (["A".toList, "B".toList].map .str)), [exGlyphB, exGlyphA]⟩
    = some (.dict exFont) := by
  unfold exFont exGlyphA exGlyphB
  simp -index only [String.toList_ofList]
  refine (package_reassembly_eq _ [_, _] [_, _] _ ?_ ?_ ?_ ?_ (List.Perm.swap _ _ [])).2 <;> decide +kernel

/-- entry points: `fontc x.glyphs -o out.ttf --flatten-components=false` vs the library with the same options -/
example : run [] (fun _ => { flattenComponents := true, eraseOpenCorners := true }) (.glyphsPath "x.glyphs".toList)
      ({ path := "x.glyphs".toList, outputFile := some "out.ttf".toList, flattenComponents := .off } : Entry.Args).toOptions
    = .ok (generateFont [] (fun _ => { flattenComponents := true, eraseOpenCorners := true }) (.glyphsFile "x.glyphs".toList)
        ({ path := "x.glyphs".toList, outputFile := some "out.ttf".toList, flattenComponents := .off } : Entry.Args).toOptions,
        "out.ttf".toList) :=
  entry_points_same_call _ _ _ _ _ rfl

/-! ## F-C20-1 — the *typed* reader of a glyph's `unicode` entry depends on the layout

  `glyphs-reader` rewrites, before parsing, every line that matches
  `(?m)^\s*unicode\s*=\s*[(]?[0-9a-zA-Z,]+[)]?;\s*$` into `unicode = "…";` (font.rs:3798) and then reads the
  field as a string (font.rs:1522).  `typedUnicodeRaw entry` models both steps for the text of one entry. -/

/-- the text of a dictionary holding the entry -/
def entryDict (entry : List Char) : List Char := '{' :: entry ++ ['}']

/-- Full statement (false of the code): entry texts that the untyped reader reads as the same value are
    read the same by the typed reader. -/
def UnicodeEntryLayoutInsensitive : Prop :=
  ∀ e₁ e₂ : List Char, (parse (entryDict e₁)).isSome = true → parse (entryDict e₁) = parse (entryDict e₂) →
    typedUnicodeRaw e₁ = typedUnicodeRaw e₂

def exUni : PVal := .dict [("unicode".toList, .arr [.int 1619, .int 1764])]
def exUniStyle₁ : Style := fun p => if p == [0] then { pre := " ".toList, eqPre := " ".toList } else {}
def exUniStyle₂ : Style := fun p =>
  if p == [0] then { pre := " ".toList, eqPre := " ".toList } else if p == [0, 1] then { pre := " ".toList } else {}

/-- What the typed reader makes of some entry texts; the first two are the two styles of one value that
    `unicode_entry_layout_counterexample` uses. -/
theorem unicode_entry_layout_witness :
    typedUnicodeRaw "unicode = (1619,1764);".toList = some "1619,1764".toList ∧
    typedUnicodeRaw "unicode = (1619, 1764);".toList = none ∧
    typedUnicodeRaw "\"unicode\" = (1619,1764);".toList = none ∧
    typedUnicodeRaw "unicode = (\n1619,1764\n);".toList = none ∧
    typedUnicodeRaw "unicode = (1619,1764); note = x;".toList = none ∧
    typedUnicodeRaw "unicode = 0041;".toList = some "0041".toList ∧
    typedUnicodeRaw "\"unicode\"=\n0041 ;".toList = some "0041".toList := by
  simp -index only [String.toList_ofList]
  decide +kernel

/-- Witness: `unicode = (1619,1764);` and `unicode = (1619, 1764);` are two styles of one value, the first
    is read as the string `1619,1764`, the second makes the source unreadable. -/
theorem unicode_entry_layout_counterexample : ¬ UnicodeEntryLayoutInsensitive := by
  intro h
  have h1 : print exUni exUniStyle₁ = entryDict "unicode = (1619,1764);".toList := by
    simp -index only [String.toList_ofList]; decide +kernel
  have h2 : print exUni exUniStyle₂ = entryDict "unicode = (1619, 1764);".toList := by
    simp -index only [String.toList_ofList]; decide +kernel
  have hv : valid exUni = true := by decide +kernel
  have e := style_insensitive exUni hv exUniStyle₁ exUniStyle₂
  have s : (parse (print exUni exUniStyle₁)).isSome = true := by
    rw [parse_print_reads_canon exUni hv]; rfl
  rw [h1] at s
  rw [h1, h2] at e
  have r := h _ _ s e
  rw [unicode_entry_layout_witness.1, unicode_entry_layout_witness.2.1] at r
  cases r

/-- the text of the entry `unicode = <string s>;` in style `st` -/
def unicodeEntryText (s : List Char) (st : Style) : List Char := printEntries [("unicode".toList, .str s)] st 0

/-- Partial statement (true): a *scalar* `unicode` entry is read as its string in every style, as long
    as the rewriting step leaves the text alone (`hpre`; it only ever touches lines of the shape above). -/
theorem unicode_scalar_entry_partial (s : List Char) (st : Style)
    (hpre : preprocessUnicode (unicodeEntryText s st) = unicodeEntryText s st) :
    typedUnicodeRaw (unicodeEntryText s st) = some s :=
  typedUnicodeRaw_printEntries s st hpre

/-- the partial statement applies (quoted key, line breaks: the rewriting step does not fire) -/
example : typedUnicodeRaw (unicodeEntryText "0041".toList (fun _ => { keyBare := false, eqPre := " \n".toList, pre := "\t".toList })) =
    some "0041".toList :=
  unicode_scalar_entry_partial _ _ (by decide +kernel)

end Fontc.C20
