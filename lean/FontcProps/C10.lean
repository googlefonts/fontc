/-
  C10 — Mark attachment in the font places marks on the source's anchors.

  Setting (model: FontcModel/Marks.lean, tied to fontir/src/ir.rs and fontbe/src/features/marks.rs by the `c10`
  stream, and to whole compiled fonts by the `c10e2e` stream).

  * `anchorKind n` models `AnchorKind::new(n)`; `NameSpec` is the naming convention written down declaratively.
  * `gs : List (Glyph α)` are the glyphs of the final glyph order (glyph id, GDEF category of the source if any,
    anchors in source order with their parsed kind; `α` is whatever an anchor carries — its positions).
  * `sourcePairs gs` is the quantifier domain of the property: every attaching anchor `n` (base glyph, mark glyph,
    or `n_i` on a ligature) × every mark glyph with `_n`.  A glyph counts as a *mark glyph* when it is a GDEF mark
    (or the source has no categories at all) and has an `_x` anchor whose group is used; as a *base* when it is not
    a mark glyph and is a GDEF base (or there are no categories); as a *ligature* when it is a GDEF ligature (or
    there are no categories) and has `n_i` anchors.  This is fontc's (= ufo2ft's) reading of the source; the points
    it leaves out are listed after `every_pair_covered`.
  * `allLookups gs` is what `MarkLookupBuilder::build` hands to fea-rs for the `mark`/`mkmk` features: one lookup per
    (lookup type, anchor group).
  * `resolveAnchor n positions` models `resolve_anchor_once`; `AnchorOut.at` evaluates the emitted default + deltas
    at a location the way OpenType does; `attach`/`placed` is the positioning rule of GPOS lookup types 4/5/6.
-/
import FontcProofs.MarksKind
import FontcProofs.MarksCover
import FontcProofs.MarksValue

namespace Fontc.C10
open Fontc Fontc.Marks Fontc.VarModel

local instance : DecidableEq (Except BadAnchor Kind) := fun a b =>
  match a, b with
  | .ok x, .ok y => if h : x = y then isTrue (by rw [h]) else isFalse (fun e => h (Except.ok.inj e))
  | .error x, .error y => if h : x = y then isTrue (by rw [h]) else isFalse (fun e => h (Except.error.inj e))
  | .ok _, .error _ => isFalse (fun e => by cases e)
  | .error _, .ok _ => isFalse (fun e => by cases e)

/-- The model of `AnchorKind::new` is total (it is a function) and is exactly the naming convention `NameSpec`:
    its result satisfies the convention, and the convention determines the result. -/
theorem anchor_kind_total_and_spec (n : Name) :
    NameSpec n (anchorKind n) ∧ ∀ r, NameSpec n r → r = anchorKind n :=
  ⟨anchorKind_spec n, fun r h => (anchorKind_complete h).symm⟩

theorem anchor_kind_iff_spec (n : Name) (r : Except BadAnchor Kind) : anchorKind n = r ↔ NameSpec n r :=
  ⟨fun h => h ▸ anchorKind_spec n, anchorKind_complete⟩

/-- Ligature anchors that come out of the parser always have a component index ≥ 1
    (this discharges hypothesis `hlig` of `every_pair_covered` for parsed anchors). -/
theorem parsed_ligature_index_pos (n g : Name) (i : Nat) (h : anchorKind n = .ok (.ligature g i)) : 1 ≤ i := by
  have hs := anchorKind_spec n
  rw [h] at hs
  cases hs with
  | ligature g t k _ _ hk => exact hk

-- non-vacuity: the convention on concrete names (each line is an instance of `anchor_kind_iff_spec`)
example : anchorKind "top".toList = .ok (.base "top".toList) := by decide +kernel
example : anchorKind "_top".toList = .ok (.mark "top".toList) := by decide +kernel
example : anchorKind "top_right_2".toList = .ok (.ligature "top_right".toList 2) := by
  -- a literal is `String.ofList` of its characters: rewritten so, the kernel does not decode each through its UTF-8 bytes
  simp -index only [String.toList_ofList]
  decide +kernel
example : anchorKind "top_+2".toList = .ok (.ligature "top".toList 2) := by decide +kernel
example : anchorKind "top_0".toList = .error .zeroIndex := by decide +kernel
example : anchorKind "_top_3".toList = .error .numberedMarkAnchor := by decide +kernel
example : anchorKind "_".toList = .error .nilMarkGroup := by decide +kernel
example : anchorKind "_3".toList = .ok (.componentMarker 3) := by decide +kernel
example : anchorKind "caret_x".toList = .ok (.caret 1) := by decide +kernel
example : anchorKind "top_18446744073709551616".toList = .ok (.base "top_18446744073709551616".toList) := by
  simp -index only [String.toList_ofList]
  decide +kernel
example : NameSpec "top_2".toList (.ok (.ligature "top".toList 2)) :=
  (anchor_kind_iff_spec _ _).mp (by decide +kernel)

/-- **Every source pair is carried by exactly one emitted lookup, with exactly its two anchors.**

    Hypotheses (all about the input; none about the lookups):
    * `hgid`  glyph ids are pairwise distinct (they are positions in the glyph order);
    * `hkind` no glyph has two anchors of the same kind.  Anchor *names* are unique per glyph in the IR, but
      `top_1`, `top_+1` and `top_01` all parse to the same kind; fontc then keeps the later anchor
      (`component_anchors[i-1] = Some(anchor)` overwrites), so the earlier one is not carried;
    * `hlig`  ligature component indices are ≥ 1 (true of every parsed anchor: `parsed_ligature_index_pos`).

    Conclusion: exactly one lookup of `allLookups gs` carries the pair (`carries`: same lookup type, same group,
    the lookup's mark record for the mark glyph is the pair's mark anchor and its base/ligature-component/mark2
    record for the attaching glyph is the pair's attaching anchor), and that lookup is named. -/
theorem every_pair_covered {α : Type} [DecidableEq α] (gs : List (Glyph α))
    (hgid : (gs.map (·.gid)).Pairwise (· ≠ ·))
    (hkind : ∀ g ∈ gs, (g.anchors.map (·.kind)).Pairwise (· ≠ ·))
    (hlig : ∀ g ∈ gs, ∀ a ∈ g.anchors, ∀ n i, a.kind = .ligature n i → 1 ≤ i)
    (p : Pair α) (hp : p ∈ sourcePairs gs) :
    ((allLookups gs).filter (·.carries p)).length = 1 ∧
    ∃ l ∈ allLookups gs, l.kind = p.kind ∧ l.name = p.name ∧
      l.markAnchor p.mark = some p.markVal ∧ l.baseAnchor p.base (p.comp - 1) = some p.baseVal := by
  obtain ⟨hone, hmem, hma, hba⟩ := pair_carried hgid hkind hlig hp
  exact ⟨by rw [hone]; rfl, _, hmem, rfl, rfl, hma, hba⟩

/-- Conversely, every glyph a lookup attaches as a mark is a mark glyph of the source: a GDEF mark whenever the
    source has categories at all. -/
theorem lookup_marks_are_source_marks {α : Type} (gs : List (Glyph α)) (l : Lookup α) (hl : l ∈ allLookups gs)
    (x : Nat × α) (hx : x ∈ l.marks) :
    ∃ g ∈ gs, g.gid = x.1 ∧ (classesEmpty gs = true ∨ g.cls = some .mark) := by
  obtain ⟨k, n, _, _, _, rfl⟩ := (mem_allLookups gs l).mp hl
  obtain ⟨g, hg, hx⟩ := List.mem_flatMap.mp (marksFor_eq gs n ▸ mem_marksFor_of_mem_msOf hx)
  obtain ⟨hmark, v, _, rfl⟩ := mem_perGlyph.mp hx
  obtain ⟨g0, hg0, h1, h2, _⟩ := exists_of_mem_pruned hg
  refine ⟨g0, hg0, h1.symm, ?_⟩
  simp only [isMarkGlyph, Bool.and_eq_true, Bool.or_eq_true, beq_iff_eq] at hmark
  rw [← h2]
  exact hmark.1

/-! What `sourcePairs` leaves out (each point is produced by the `c10` generator, tags in brackets, and the
    behaviour of the real code there is what the model says — the stream agrees):
    * a GDEF-mark glyph with an attaching anchor `top` but no retained `_x` anchor is not a mark glyph for fontc;
      being a GDEF mark it is not a base either: its `top` is in no lookup [gdefmark-without-markanchor];
    * a glyph with both `top` and `_top` and no categories is a mark: its `top` only takes part in mark-to-mark
      [top-and-_top];
    * a `_top` anchor on a glyph that is not a mark glyph (e.g. GDEF base) is ignored [markanchor-on-nonmark];
    * a mark with several `_x` anchors is in one lookup per group (fontc builds one lookup per group, so there is
      no "first mark class wins" exclusion as in ufo2ft's single lookup) [multi-markclass];
    * duplicate kinds on one glyph (`hkind`) [dupkind]. -/

section Example
/-- a base `a` (gid 1, `top`, `bottom`), a mark `acute` (gid 2, `_top`, and `top` for stacking), a ligature `f_i`
    (gid 3, `top_1`, `top_2`); payloads are just numbers -/
def exGlyphs : List (Glyph Nat) :=
  [ { gid := 1, cls := some .base, anchors := [⟨.base "top".toList, 10⟩, ⟨.base "bottom".toList, 11⟩] },
    { gid := 2, cls := some .mark, anchors := [⟨.mark "top".toList, 20⟩, ⟨.base "top".toList, 21⟩] },
    { gid := 3, cls := some .ligature, anchors := [⟨.ligature "top".toList 1, 30⟩, ⟨.ligature "top".toList 2, 31⟩] } ]

theorem exGlyphs_gids : (exGlyphs.map (·.gid)).Pairwise (· ≠ ·) := by decide +kernel
theorem exGlyphs_kinds : ∀ g ∈ exGlyphs, (g.anchors.map (·.kind)).Pairwise (· ≠ ·) := by decide +kernel
theorem exGlyphs_lig : ∀ g ∈ exGlyphs, ∀ a ∈ g.anchors, ∀ n i, a.kind = .ligature n i → 1 ≤ i := by
  intro g hg a ha n i h
  have : ∀ g ∈ exGlyphs, ∀ a ∈ g.anchors, ∀ j ∈ a.kind.ligatureIndex?, 1 ≤ j := by decide +kernel
  exact this g hg a ha i (by rw [h]; rfl)

/-- the pairs of the example: base, mark-to-mark and both ligature components -/
theorem exGlyphs_pairs : sourcePairs exGlyphs =
    [ ⟨.base, "top".toList, 1, 1, 10, 2, 20⟩, ⟨.mkmk, "top".toList, 2, 1, 21, 2, 20⟩,
      ⟨.lig, "top".toList, 3, 1, 30, 2, 20⟩, ⟨.lig, "top".toList, 3, 2, 31, 2, 20⟩ ] := by decide +kernel

/-- `every_pair_covered` applies to the second ligature component … -/
example : ((allLookups exGlyphs).filter (·.carries ⟨.lig, "top".toList, 3, 2, 31, 2, 20⟩)).length = 1 :=
  (every_pair_covered exGlyphs exGlyphs_gids exGlyphs_kinds exGlyphs_lig _
    (by rw [exGlyphs_pairs]; decide +kernel)).1
/-- … and the model really emits three lookups here (`bottom` has no mark, so no lookup). -/
example : (allLookups exGlyphs).map (fun l => (l.kind, l.name)) =
    [(LKind.base, "top".toList), (LKind.lig, "top".toList), (LKind.mkmk, "top".toList)] := by decide +kernel
example : (allLookups exGlyphs).map (·.marks) = [[(2, 20)], [(2, 20)], [(2, 20)]] := by decide +kernel
example : (allLookups exGlyphs).map (·.bases) =
    [[(1, [some 10])], [(3, [some 30, some 31])], [(2, [some 21])]] := by decide +kernel
end Example

/-- A source anchor is well formed for `n` axes: every location has `n` coordinates, locations are pairwise
    distinct, and the default location is among them (the IR refuses anchors without a default position). -/
def WellFormed (n : Nat) (p : Positions) : Prop :=
  (∀ q ∈ p, q.1.length = n) ∧ (p.map (·.1)).Pairwise (· ≠ ·) ∧ List.replicate n 0 ∈ p.map (·.1)

/-- Each emitted anchor coordinate, evaluated at a location where the source defines the anchor, is within 1/2 of
    the rounded source coordinate, and equal to it at the default location.
    (The emitted default+deltas evaluate to the model's `interpolate`, `resolveMetric_eval`; of that C07 says this.) -/
theorem anchor_value_at_master (n : Nat) (p : Positions) (hp : WellFormed n p)
    (loc : Loc) (x y : Rat) (hl : (loc, x, y) ∈ p) :
    ratAbs (((resolveAnchor n p).at loc).1 - ((otRound x : Int) : Rat)) ≤ 1/2 ∧
    ratAbs (((resolveAnchor n p).at loc).2 - ((otRound y : Int) : Rat)) ≤ 1/2 ∧
    (loc = List.replicate n 0 →
      (resolveAnchor n p).at loc = (((otRound x : Int) : Rat), ((otRound y : Int) : Rat))) := by
  obtain ⟨hlen, hnd, hz⟩ := hp
  obtain ⟨hx, hx0⟩ := resolveCoord_at hlen hnd hz Prod.fst hl
  obtain ⟨hy, hy0⟩ := resolveCoord_at hlen hnd hz Prod.snd hl
  exact ⟨hx, hy, fun h => Prod.ext (hx0 h) (hy0 h)⟩

/-- the emitted anchor of source positions `p`, evaluated at `loc` as OpenType evaluates it -/
def emittedAt (n : Nat) (p : Positions) (loc : Loc) : Rat × Rat := (resolveAnchor n p).at loc

/-- a source position rounded to font units (`ot_round` per coordinate) -/
def rounded (x y : Rat) : Rat × Rat := (((otRound x : Int) : Rat), ((otRound y : Int) : Rat))

theorem placed_attach (B M : Rat × Rat) : placed (attach B M) M = B :=
  Prod.ext (by simp only [placed, attach]; grind) (by simp only [placed, attach]; grind)

/-- One coordinate: if the emitted anchors `B`, `M` are within 1/2 of `b`, `m`, the offset `B - M` puts `m` within 1
    of `b`. -/
theorem coord_within_one (B M b m : Rat) (hB : ratAbs (B - b) ≤ 1/2) (hM : ratAbs (M - m) ≤ 1/2) :
    ratAbs ((B - M) + m - b) ≤ 1 := by
  rw [ratAbs_le_iff] at *
  constructor <;> grind

/-- **Placing the mark by the emitted anchors makes the source anchors coincide.**
    `B = emittedAt n pb loc`, `M = emittedAt n pm loc`: the emitted base and mark anchors evaluated at a location
    `loc` where the source defines both (`(xb, yb)` on the attaching glyph, `(xm, ym)` on the mark).  With the GPOS
    offset `attach B M`:
    1. the emitted anchors coincide exactly;
    2. each emitted anchor is within 1/2 of the rounded source anchor, so the mark's rounded source anchor lands
       within 1 unit (1/2 + 1/2) of the attaching glyph's rounded source anchor in each coordinate;
    3. at the default location it lands exactly on it. -/
theorem attachment_coincides (n : Nat) (pb pm : Positions) (hb : WellFormed n pb) (hm : WellFormed n pm)
    (loc : Loc) (xb yb xm ym : Rat) (hlb : (loc, xb, yb) ∈ pb) (hlm : (loc, xm, ym) ∈ pm) :
    placed (attach (emittedAt n pb loc) (emittedAt n pm loc)) (emittedAt n pm loc) = emittedAt n pb loc ∧
    ratAbs ((placed (attach (emittedAt n pb loc) (emittedAt n pm loc)) (rounded xm ym)).1 - (rounded xb yb).1) ≤ 1 ∧
    ratAbs ((placed (attach (emittedAt n pb loc) (emittedAt n pm loc)) (rounded xm ym)).2 - (rounded xb yb).2) ≤ 1 ∧
    (loc = List.replicate n 0 →
      placed (attach (emittedAt n pb loc) (emittedAt n pm loc)) (rounded xm ym) = rounded xb yb) := by
  obtain ⟨b1, b2, b3⟩ := anchor_value_at_master n pb hb loc xb yb hlb
  obtain ⟨m1, m2, m3⟩ := anchor_value_at_master n pm hm loc xm ym hlm
  refine ⟨placed_attach _ _, coord_within_one _ _ _ _ b1 m1, coord_within_one _ _ _ _ b2 m2, ?_⟩
  intro hloc
  rw [show rounded xm ym = emittedAt n pm loc from (m3 hloc).symm,
    show rounded xb yb = emittedAt n pb loc from (b3 hloc).symm]
  exact placed_attach _ _

section Example
/-- one axis, masters at 0, 1 and 1/2; the base anchor moves non-linearly and has a half-integer coordinate -/
def exBase : Positions := [([0], 250, 700), ([1], 301/2, 720), ([1/2], 260, 705)]
def exMark : Positions := [([0], 100, 0), ([1], 120, -10)]

theorem exBase_wf : WellFormed 1 exBase := by
  refine ⟨by decide +kernel, by decide +kernel, by decide +kernel⟩
theorem exMark_wf : WellFormed 1 exMark := by
  refine ⟨by decide +kernel, by decide +kernel, by decide +kernel⟩

/-- `attachment_coincides` applies at the master `[1]`, which both anchors define. -/
example :
    ratAbs ((placed (attach (emittedAt 1 exBase [1]) (emittedAt 1 exMark [1])) (rounded 120 (-10))).1
      - (rounded (301/2) 720).1) ≤ 1 :=
  (attachment_coincides 1 exBase exMark exBase_wf exMark_wf [1] (301/2) 720 120 (-10)
    (by decide +kernel) (by decide +kernel)).2.1
end Example

/-- **Glyphs the source classifies as marks are GDEF marks**, and only those: the GDEF class value fontc writes
    for a glyph is 3 exactly when the source category is `mark`, whether categories are used as they are
    (`public.openTypeCategories`) or recomputed after anchor propagation (GlyphData). -/
theorem source_marks_are_gdef_marks (inferFromAnchors : Bool) (c : Option GClass) (kinds : List Kind) :
    gdefClassValue (finalCategory inferFromAnchors c kinds) = 3 ↔ c = some .mark := by
  cases inferFromAnchors
  · -- categories used as they are
    cases c with
    | none => simp [finalCategory, gdefClassValue]
    | some c => cases c <;> simp [finalCategory, gdefClassValue, GClass.toNat]
  · -- recomputed: the anchors decide only between `base`/`ligature` and no class, never for or against `mark`
    by_cases h : kinds.any (fun k => !k.isMark) = true
    all_goals
      cases c with
      | none => simp [finalCategory, gdefClassValue, GClass.toNat, h]
      | some c => cases c <;> simp [finalCategory, gdefClassValue, GClass.toNat, h]

example : gdefClassValue (finalCategory true (some .mark) [.mark "top".toList]) = 3 :=
  (source_marks_are_gdef_marks true _ _).mpr rfl

end Fontc.C10
