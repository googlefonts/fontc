/-
  C14 — Writing intermediate state to disk is transparent and faithful.
  Property theorems only; helper lemmas live in FontcProofs/Paths*.lean.

  Models: FontcModel/Paths.lean  (fontdrasil/src/paths.rs `string_to_filename`, fontir/src/paths.rs and
          fontbe/src/paths.rs `target_file`), FontcModel/Persist.lean (ContextItem / ContextMap with
          optional on-disk storage). Strings are lists of code points; every theorem holds for all lists.

  Outside the model (monitored by the c14emit stream instead): the codecs (`Persistable::read/write`:
  serde_yaml, bincode, write-fonts), the file system itself, Unicode (non-ASCII) case folding and
  normalisation done by some file systems, Windows device-name handling of names with extensions.
-/
import FontcModel.Paths
import FontcModel.Persist
import FontcProofs.PathsStf
import FontcProofs.PathsKern
import FontcProofs.PathsTarget
import FontcProofs.PathsPersist

namespace Fontc.C14
open Fontc Fontc.Paths Fontc.Persist

/-- Two names never share a file name (same suffix). No hypothesis on the suffix is needed: it may
    even contain the separator '^'. -/
theorem stf_injective (n₁ n₂ suffix : List Nat)
    (h : stringToFilename n₁ suffix = stringToFilename n₂ suffix) : n₁ = n₂ :=
  stf_inj h

/-- Two names never share a file name even on a file system that folds ASCII case: names that differ
    only in ASCII case get different case codes after '^'. Case folding of non-ASCII letters (É/é) is
    not modelled and not handled by the code (see the advisory tag of stream c14names). -/
theorem stf_ascii_caseless_injective (n₁ n₂ suffix : List Nat)
    (h : asciiFold (stringToFilename n₁ suffix) = asciiFold (stringToFilename n₂ suffix)) : n₁ = n₂ :=
  (stf_fold_inj_suffix rfl h).1

/-- Different suffixes in one directory (".glyf" / ".gvar"): the exact hypothesis the proof needs is
    that the suffixes have the same length. -/
theorem stf_injective_two_suffixes (n₁ n₂ s₁ s₂ : List Nat) (hlen : s₁.length = s₂.length)
    (h : stringToFilename n₁ s₁ = stringToFilename n₂ s₂) : n₁ = n₂ ∧ s₁ = s₂ :=
  stf_inj_suffix hlen h

/-- … and that hypothesis cannot be dropped: with suffixes of different lengths two different
    (name, suffix) pairs give one file name. (No call site in fontc mixes such suffixes in a directory.) -/
theorem stf_two_suffixes_needs_equal_length :
    stringToFilename (lit "a.yml") (lit "") = stringToFilename (lit "a") (lit ".yml") ∧ lit "a.yml" ≠ lit "a" := by
  decide +kernel

example : stringToFilename (lit "Aa") (lit ".yml") = lit "Aa^1.yml" := by decide +kernel
example : stringToFilename (lit "a_a") (lit ".yml") = lit "a_a.yml" := by decide +kernel
example : stringToFilename (lit "con") (lit ".yml") = lit "con^0.yml" := by decide +kernel
example : stringToFilename (lit ".notdef") (lit ".yml") = lit "%2Enotdef.yml" := by
  -- the literals read through `lit_ofList`, so that the kernel does not decode each through its UTF-8 bytes
  simp -index only [lit_ofList]
  decide +kernel
example : (lit ".glyf").length = (lit ".gvar").length := by
  simp -index only [lit_ofList]
  decide

/-- `string_to_filename` never produces a path separator (the suffix aside), so glyph, anchor and
    kerning files land in their directory whatever the glyph or the axis is called. -/
theorem stf_no_path_separator (n suffix : List Nat) (hs : 0x2F ∉ suffix) :
    0x2F ∉ stringToFilename n suffix :=
  stf_no_slash hs

/-! ## FE ids (`fontir::paths::Paths::target_file`, current code: after fix 75d720d)

  The f64 `Display` printer is a parameter `pr` of the model; what is assumed of it
  (`PrintInjective`: different values print differently — it prints the shortest text that parses back
  to the same value; `PrintNoUnderscore`) is part of the trusted base and is checked by the driver on
  every case of stream c14paths against the texts the real printer produced. -/

/-- The property at full strength: distinct FE work ids are written to distinct files. -/
def FullStatement (pr : Rat → List Nat) : Prop :=
  ∀ a b : FeId, a.printable → b.printable → feTarget pr a = feTarget pr b → a = b

/-- It holds for the current code (axis tags as produced by `Tag::from_str`: printable ASCII). -/
theorem fe_target_file_injective (pr : Rat → List Nat) (hi : PrintInjective pr) (hu : PrintNoUnderscore pr) :
    FullStatement pr :=
  fun _ _ => fe_target_inj hi hu

/-- The kerning file is directly in the build directory whatever the axis tags are. -/
theorem kern_file_flat (pr : Rat → List Nat) (l : Loc) : 0x2F ∉ kernFileName pr l :=
  kernFileName_no_slash pr l

def wght : Tag := ⟨0x77, 0x67, 0x68, 0x74⟩

/-- non-vacuity: a printer with both assumed properties exists -/
example : ∃ pr : Rat → List Nat, PrintInjective pr ∧ PrintNoUnderscore pr :=
  ⟨prWitness, prWitness_injective, prWitness_noUnderscore⟩

example : feTarget prWitness (.kernInstance [(wght, 1)]) = lit "kern_wght_1%2F1.yml" := by
  simp -index only [lit_ofList]
  decide +kernel

example : (FeId.kernInstance [(wght, 0)]).printable := by
  intro e he
  simp at he
  subst he
  decide

/-! ## the kerning file as it was before 75d720d (record of the defects F-C14-1 and F-C14-2 of known_findings.json) -/

/-- Old naming, equal file names ⇔ same axes and same coordinates after rounding to two decimals. -/
theorem kern_file_name_old_collides_iff (l1 l2 : Loc) (p1 : l1.printable) (p2 : l2.printable) :
    kernFileNameOld l1 = kernFileNameOld l2 ↔ l1.key = l2.key :=
  ⟨kernFileNameOld_key p1 p2, kernFileNameOld_of_key⟩

/-- Kerning masters at wght 699 and 700 on a 400–700 axis (normalised 299/300 and 1) were both
    written to `kern_wght_1.00.yml`. -/
theorem kern_file_name_old_counterexample :
    kernFileNameOld [(wght, (299 : Rat) / 300)] = kernFileNameOld [(wght, 1)] ∧
    ([(wght, (299 : Rat) / 300)] : Loc) ≠ [(wght, 1)] := by
  decide +kernel

example : kernFileNameOld [(wght, (299 : Rat) / 300)] = lit "kern_wght_1.00.yml" := by
  simp -index only [lit_ofList]
  decide +kernel

/-- Old naming stayed in the build directory only when no axis tag contained '/' … -/
theorem kern_file_old_flat_partial (l : Loc) (p : l.printable) (hn : ∀ e ∈ l, e.1.noSlash) :
    0x2F ∉ kernFileNameOld l :=
  kernFileNameOld_no_slash p hn

/-- … axis tag `a/b ` asked for a file in a directory `kern_a` that nobody creates. -/
theorem kern_file_old_flat_counterexample :
    ¬ ∀ l : Loc, l.printable → 0x2F ∉ kernFileNameOld l := by
  intro h
  have := h [(⟨0x61, 0x2F, 0x62, 0x20⟩, 0)] (by intro e he; simp at he; subst he; decide)
  revert this
  decide +kernel

example : kernFileNameOld [(⟨0x61, 0x2F, 0x62, 0x20⟩, 0)] = lit "kern_a/b _0.00.yml" := by
  simp -index only [lit_ofList]
  decide +kernel
example : wght.noSlash := by unfold Tag.noSlash; decide

/-- Distinct BE work ids are written to distinct files (`fontbe::paths::Paths::target_file`). -/
theorem be_target_file_injective (a b : BeId) (h : beTarget a = beTarget b) : a = b :=
  be_target_inj a b h

/-- FE and BE items share the build directory: no FE file is a BE file. -/
theorem fe_be_target_files_disjoint (pr : Rat → List Nat) (a : FeId) (b : BeId) : feTarget pr a ≠ beTarget b :=
  fe_be_disjoint

/-- All ids of one build together. -/
theorem any_target_file_injective (pr : Rat → List Nat) (hi : PrintInjective pr) (hu : PrintNoUnderscore pr)
    (a b : AnyId) (hp : ∀ x, a = .fe x ∨ b = .fe x → x.printable)
    (h : anyTarget pr a = anyTarget pr b) : a = b := by
  cases a with
  | fe x =>
    cases b with
    | fe y => rw [fe_target_inj hi hu (hp x (Or.inl rfl)) (hp y (Or.inr rfl)) h]
    | be y => exact absurd h fe_be_disjoint
  | be x =>
    cases b with
    | fe y => exact absurd h.symm fe_be_disjoint
    | be y => rw [be_target_inj x y h]

section
variable {Id V Path Bytes : Type} [DecidableEq Id] [DecidableEq V] [DecidableEq Path]

/-- With injective paths, starting from a fresh process and a fresh build directory, every `get` /
    `try_get` answers exactly as in the run without on-disk storage, and memory ends up the same:
    every job sees the same values, hence computes the same font. -/
theorem persist_refines (c : Cfg Id V Path Bytes) (hinj : ∀ a b, c.path a = c.path b → a = b)
    (hact : c.active = true) (ops : List (Op Id V)) :
    (run c empty ops).2 = (run c.off empty ops).2 ∧ (run c.off empty ops).1.mem = (run c empty ops).1.mem := by
  obtain ⟨h1, h2, _⟩ := run_refines hinj hact ops inv_empty rfl
  exact ⟨h1, h2⟩

/-- … and the build directory is faithful: every value in memory reads back from its file
    (codec with read ∘ write = id), and every file belongs to an id that is in memory. -/
theorem persist_faithful (c : Cfg Id V Path Bytes) (hinj : ∀ a b, c.path a = c.path b → a = b)
    (hact : c.active = true) (hcodec : ∀ v, c.dec (c.enc v) = v) (ops : List (Op Id V)) :
    (∀ id v, (run c empty ops).1.mem id = some v → ((run c empty ops).1.disk (c.path id)).map c.dec = some v) ∧
    (∀ p b, (run c empty ops).1.disk p = some b → ∃ id v, p = c.path id ∧ (run c empty ops).1.mem id = some v) := by
  obtain ⟨_, _, hI⟩ := run_refines hinj hact ops inv_empty rfl
  refine ⟨?_, fun _ _ => hI.owner⟩
  intro id v h
  rw [hI.1 id, h]
  simp [hcodec]

/-- Without injective paths faithfulness is lost: two ids, one file, the first value cannot be
    read back (`set A 1; set B 2` with `path A = path B`). -/
theorem persist_unfaithful_on_collision :
    let c : Cfg Bool Nat Unit Nat := { active := true, path := fun _ => (), enc := id, dec := id }
    let s := (run c empty [.set true 1, .set false 2]).1
    s.mem true = some 1 ∧ (s.disk (c.path true)).map c.dec = some 2 := by
  decide +kernel

/-- Transparency alone survives a collision: if no `get` comes before its `set` in the run without
    storage (which the job graph guarantees, C02), the run with storage gives the same answers for any
    path function and any initial directory content — the font is byte-identical even where two
    items overwrite each other's file. -/
theorem persist_transparent_without_injectivity (c : Cfg Id V Path Bytes) (ops : List (Op Id V))
    (s s' : Store Id V Path Bytes) (hm : s'.mem = s.mem) (hit : AllHit c.off s ops) :
    (run c s' ops).2 = (run c.off s ops).2 :=
  run_same_of_allHit hm hit
end

/-- The BE table instantiates `persist_refines` outright. -/
theorem persist_refines_be {V Bytes : Type} [DecidableEq V] (enc : V → Bytes) (dec : Bytes → V)
    (ops : List (Op BeId V)) :
    let c : Cfg BeId V (List Nat) Bytes := { active := true, path := beTarget, enc := enc, dec := dec }
    (run c empty ops).2 = (run c.off empty ops).2 :=
  (persist_refines _ be_target_inj rfl ops).1

/-- non-vacuity: a run in which storage is exercised (set, get hit, get miss) -/
example :
    let c : Cfg Nat Nat Nat Nat := { active := true, path := id, enc := id, dec := id }
    (run c empty [.set 1 10, .get 1, .get 2, .tryGet 2]).2 = [.done, .value 10, .panic, .absent] := by
  decide

end Fontc.C14
