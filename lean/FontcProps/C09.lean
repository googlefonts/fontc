/-
  C09 — Kerning in the font equals the source kerning at every master.

  Setting (FontcModel/Kern.lean).  `srcs : List Source` are the kerning masters (per master: side-1 groups, side-2 groups,
  kerning pairs, as `ir::KerningInstance` carries them).  `ufoLookup s g₁ g₂` is the UFO3 kerning value lookup
  (glyph,glyph → glyph,group₂ → group₁,glyph → group₁,group₂ → 0), written from the UFO specification.
  `build srcs` is the model of `build_variable_kern_adjustments` (fontbe/src/features/kern.rs:583): the emitted
  glyph/glyph, class/glyph and class/class adjustments with one value per master.  `evalPairs ps i g₁ g₂` is the
  adjustment (font units, at master `i`) that the compiled kern lookup applies to the ordered glyph pair (g₁, g₂):
  rounded master values, the sort of kern.rs:836, `PairPosBuilder`'s first-glyph-pair-wins and class-subtable
  splitting, and the OpenType PairPos rule that the first class subtable covering g₁ decides.

  RESULT.  The property as stated (for every UFO3-valid source) is FALSE of the code: `reconcile_counterexample`.
  It holds (`reconcile_correct_partial`) when every glyph whose group differs between masters is, in every master,
  in a group that master's kerning references (`KernedWhereDivergent`), and more generally whenever the emitted
  classes of each side are pairwise equal or disjoint (`reconcile_correct_of_partition`; of the masters only the one in
  question need be valid, `reconcile_correct_at_valid_master`) — which is exactly what fails in the counterexample
  (`classes_partition_counterexample`).
-/
import FontcModel.Kern
import FontcModel.VarModel
import FontcProofs.KernBasic
import FontcProofs.KernBuild
import FontcProofs.KernPartition
import FontcProofs.KernEval
import FontcProofs.Rounding
import FontcProofs.VarModelAlg
import FontcProofs.VarModelTri

namespace Fontc.C09
open Fontc Fontc.Kern

/-- For a source whose groups are UFO3-valid (a glyph in at most one group per side), the code's
    `lookup_kerning_value` on a glyph pair, with the per-source maps `KernSource::new` builds, is the UFO lookup. -/
theorem lookup_is_ufo (s : Source) (hv : s.valid = true) (g₁ g₂ : Nat) :
    lookupKerningValue (.glyph g₁, .glyph g₂) s.kerns (s.groupOf .first) (s.groupOf .second) = ufoLookup s g₁ g₂ :=
  lookup_eq_ufoLookup hv g₁ g₂

/-- The property at full strength: every UFO3-valid multi-master source, every master, every ordered glyph pair. -/
def ReconcileFull : Prop :=
  ∀ (srcs : List Source), (∀ s ∈ srcs, s.valid = true) →
    ∀ (i : Nat) (s : Source), srcs[i]? = some s → ∀ g₁ g₂ : Nat,
      evalPairs (build srcs) i g₁ g₂ = otRound (ufoLookup s g₁ g₂)

/-- The classes `build_variable_kern_adjustments` emits (`refined_groups`) partition the glyphs of each side. -/
def ClassesPartitionFull : Prop :=
  ∀ (srcs : List Source), (∀ s ∈ srcs, s.valid = true) → ∀ (side : Side) (c c' : List Nat),
    c ∈ outputClasses srcs side → c' ∈ outputClasses srcs side → ∀ g, g ∈ c → g ∈ c' → c = c'

/-- The extra hypothesis (also available as the executable `kernedWhereDivergent`, which the drivers evaluate on every
    generated case): a glyph whose group differs between masters is, in every master, in a group that master's
    kerning references on that side — or in no group. -/
abbrev Hyp (srcs : List Source) : Prop := KernedWhereDivergent srcs

theorem hyp_iff_check (srcs : List Source) : kernedWhereDivergent srcs = true ↔ Hyp srcs :=
  kernedWhereDivergent_iff srcs

/-- Under `Hyp`, the emitted classes of one side that share a glyph are equal: the classes are pairwise disjoint. -/
theorem classes_partition_partial (srcs : List Source) (hK : Hyp srcs) (side : Side) (c c' : List Nat)
    (hc : c ∈ outputClasses srcs side) (hc' : c' ∈ outputClasses srcs side) (g : Nat) (hg : g ∈ c) (hg' : g ∈ c') :
    c = c' := by
  obtain ⟨G, u, hu, hue⟩ := outputClasses_unit hc
  obtain ⟨G', u', hu', hue'⟩ := outputClasses_unit hc'
  exact units_class_eq hK hu hu' hue hue' g hg hg'

/-- At one master whose own groups are UFO3-valid (the other masters may be anything), the emitted pairs evaluate to that
    master's rounded UFO lookup, whenever the classes of the emitted pairs are pairwise equal or disjoint on each side.
    The evaluator picks a surviving pair of least level that covers (g₁, g₂) (`evalPairs_spec`); the pair carries the lookup
    entered at its level (`Emitted.val`); and below that level the master defines nothing, or a pair would stand there
    (`void_below`). -/
theorem reconcile_correct_at_valid_master (srcs : List Source) (hpart : Compat (build srcs)) (i : Nat) (s : Source)
    (hs : srcs[i]? = some s) (hv : s.valid = true) (g₁ g₂ : Nat) :
    evalPairs (build srcs) i g₁ g₂ = otRound (ufoLookup s g₁ g₂) := by
  have hsm : s ∈ srcs := List.mem_of_getElem? hs
  rw [ufoLookup_eq_cascade hv]
  rcases evalPairs_spec hpart i g₁ g₂ with ⟨p, hp, _, hcov, hmin, he⟩ | ⟨hno, he⟩ <;> rw [he]
  · have hpe := emitted_of_mem_build hp
    rw [hpe.roundedAt hcov hs]
    exact congrArg otRound (cascade_eq_of_void _ _ hpe.shape
      (void_below hsm g₁ g₂ p.level hmin (level_le_two _ _))).symm
  · -- no surviving pair covers (g₁, g₂): nothing below class/class is defined, and class/class rounds to 0
    rw [cascade_eq_of_void true true (fun h => h)
      (void_below hsm g₁ g₂ 2 (fun q hq hl hc => absurd hc (hno q hq hl)) (Nat.le_refl 2))]
    exact (otRound_cc_eq_zero hsm hno).symm

/-- Reconciliation is correct whenever the classes of the emitted pairs are pairwise equal or disjoint on each side. -/
theorem reconcile_correct_of_partition (srcs : List Source) (hvalid : ∀ s ∈ srcs, s.valid = true)
    (hpart : Compat (build srcs)) (i : Nat) (s : Source) (hs : srcs[i]? = some s) (g₁ g₂ : Nat) :
    evalPairs (build srcs) i g₁ g₂ = otRound (ufoLookup s g₁ g₂) :=
  reconcile_correct_at_valid_master srcs hpart i s hs (hvalid s (List.mem_of_getElem? hs)) g₁ g₂

/-- Reconciliation is correct under `Hyp`: for every UFO3-valid source satisfying it (any number of masters, groups
    that differ between masters, glyphs grouped in one master only, pairs defined in only some masters, zero-valued
    pairs, exceptions), every master and every ordered glyph pair, the emitted pairs evaluate to that master's own
    rounded UFO lookup. -/
theorem reconcile_correct_partial (srcs : List Source) (hvalid : ∀ s ∈ srcs, s.valid = true) (hK : Hyp srcs)
    (i : Nat) (s : Source) (hs : srcs[i]? = some s) (g₁ g₂ : Nat) :
    evalPairs (build srcs) i g₁ g₂ = otRound (ufoLookup s g₁ g₂) :=
  reconcile_correct_of_partition srcs hvalid (compat_build hK) i s hs g₁ g₂

/-! The witness: glyphs 0,1,2 = a,b,c; two masters.
    Master 0: kern1.G0 = [a]; kern2.H0 = [a], kern2.H1 = [b, c];  (G0,H0) = 13, (G0,H1) = −115.
    Master 1: kern1.G0 = [a]; kern2.H0 = [a, b];                   (c,c) = 1.
    Glyph b is in H1 in master 0 and in H0 in master 1, where H0 is not referenced by any pair.
    `refine_divergent_groups` splits H0 into {a},{b} and H1 into {b,c}: two overlapping side-2 classes.
    The pairs ({a},{a}), ({a},{b}), ({a},{b,c}) go to two class subtables; the first covers `a`, has no class for `c`,
    and so yields 0 for (a,c), where master 0 says −115. -/
def wM0 : Source :=
  ⟨[(0, [0])], [(0, [0]), (1, [1, 2])], [((.group 0, .group 0), 13), ((.group 0, .group 1), -115)]⟩
def wM1 : Source := ⟨[(0, [0])], [(0, [0, 1])], [((.glyph 2, .glyph 2), 1)]⟩
def wSrcs : List Source := [wM0, wM1]

theorem witness_valid : ∀ s ∈ wSrcs, s.valid = true := by decide +kernel
theorem witness_font_value : evalPairs (build wSrcs) 0 0 2 = 0 := by decide +kernel
theorem witness_source_value : otRound (ufoLookup wM0 0 2) = -115 := by decide +kernel
theorem witness_hyp_fails : kernedWhereDivergent wSrcs = false := by decide +kernel

/-- The full statement is false of the code as it is. -/
theorem reconcile_counterexample : ¬ ReconcileFull := by
  intro h
  have := h wSrcs witness_valid 0 wM0 rfl 0 2
  rw [witness_font_value, witness_source_value] at this
  exact absurd this (by decide)

/-- … because the emitted classes overlap: side-2 classes [b] and [b,c]. -/
theorem classes_partition_counterexample : ¬ ClassesPartitionFull := by
  intro h
  have := h wSrcs witness_valid .second [1] [1, 2] (by decide +kernel) (by decide +kernel) 1 (by decide) (by decide)
  exact absurd this (by decide)

/-- Two emitted adjustments for the same two sides carry the same values (the `debug_assert` in `insert_resolved`,
    kern.rs:704, cannot fire; overwriting is benign and independent of hash-set iteration order). No hypothesis. -/
theorem colliding_inserts_equal (srcs : List Source) (p q : EPair) (hp : p ∈ build srcs) (hq : q ∈ build srcs)
    (h₁ : p.e₁ = q.e₁) (h₂ : p.e₂ = q.e₂) : p.vals = q.vals := by
  -- the values are the lookups entered at the level of the two sides, for any glyph pair they cover
  have ep := emitted_of_mem_build hp
  obtain ⟨g₁, g₂, hc⟩ := ep.covers
  rw [ep.val g₁ g₂ hc, (emitted_of_mem_build hq).val g₁ g₂ ⟨h₁ ▸ hc.1, h₂ ▸ hc.2⟩, h₁, h₂]

open Fontc.VarModel in
/-- `resolve_variable_metric` (fontbe/src/features.rs:196) feeds the rounded master values of an adjustment to
    the variation model of the kerning locations (`n` axes, locations `locs`, pairwise distinct) with ties-even delta
    rounding.  At every kerning master the interpolated value — what the font's value record plus its GDEF variation
    deltas give there — is within 1/2 of that master's rounded UFO lookup.
    `srcOf[j]` is the index in `srcs` of the master located at the model's `j`-th location. -/
theorem kern_master_reproduced (srcs : List Source) (hvalid : ∀ s ∈ srcs, s.valid = true) (hK : Hyp srcs)
    (n : Nat) (locs : List Loc) (hlen : ∀ l ∈ locs, l.length = n) (hnd : locs.Pairwise (· ≠ ·))
    (M : Model) (hM : M = Model.new n locs) (g₁ g₂ : Nat)
    (srcOf : List Nat) (hsrcOf : srcOf.length = M.locations.length)
    (vals : Values) (hvals : vals = srcOf.map fun i => some ((evalPairs (build srcs) i g₁ g₂ : Int) : Rat))
    (j i : Nat) (loc : Loc) (s : Source)
    (hloc : M.locations[j]? = some loc) (hj : srcOf[j]? = some i) (hs : srcs[i]? = some s) :
    ratAbs (interpolate M.influence (M.deltas Rounding.tiesEven.apply vals) loc
      - ((otRound (ufoLookup s g₁ g₂) : Int) : Rat)) ≤ 1/2 := by
  subst hM
  have hv : vals[j]? = some (some ((otRound (ufoLookup s g₁ g₂) : Int) : Rat)) := by
    rw [hvals, List.getElem?_map, hj]
    simp only [Option.map]
    rw [reconcile_correct_partial srcs hvalid hK i s hs g₁ g₂]
  have hvl : vals.length = (Model.new n locs).locations.length := by
    rw [hvals, List.length_map, hsrcOf]
  exact VarModel.deltas_reproduce_rounding .tiesEven (Model.triangular n locs) hvl hloc hv

/-! Non-vacuity: a two-master source with divergent groups that satisfies every hypothesis. -/

/-- Glyphs 0..3.  Master 0: kern1.G0 = [0,1]; kern2.H0 = [2,3]; (G0,H0) = −50, (0,2) = 10.
    Master 1: kern1.G0 = [0], kern1.G1 = [1]; kern2.H0 = [2,3]; (G0,H0) = −40, (G1,H0) = −20, (G1,3) = 5.
    Glyph 1 changes group between the masters; both its groups are kerned where it is in them. -/
def exSrcs : List Source :=
  [ ⟨[(0, [0, 1])], [(0, [2, 3])], [((.group 0, .group 0), -50), ((.glyph 0, .glyph 2), 10)]⟩,
    ⟨[(0, [0]), (1, [1])], [(0, [2, 3])],
      [((.group 0, .group 0), -40), ((.group 1, .group 0), -20), ((.group 1, .glyph 3), 5)]⟩ ]

theorem ex_valid : ∀ s ∈ exSrcs, s.valid = true := by decide +kernel
theorem ex_hyp : Hyp exSrcs := (hyp_iff_check exSrcs).mp (by decide +kernel)

example : isDivergent exSrcs .first 1 = true := by decide +kernel
example : evalPairs (build exSrcs) 0 1 2 = -50 := by decide +kernel
example : evalPairs (build exSrcs) 1 1 2 = -20 := by decide +kernel
example : evalPairs (build exSrcs) 1 1 3 = 5 := by decide +kernel
example : evalPairs (build exSrcs) 0 0 2 = 10 := by decide +kernel
example : evalPairs (build exSrcs) 1 0 2 = -40 := by decide +kernel
/-- the theorem applies to it (hypotheses are satisfiable) and agrees with direct evaluation -/
example : evalPairs (build exSrcs) 1 1 3 = otRound (ufoLookup (exSrcs[1]) 1 3) :=
  reconcile_correct_partial exSrcs ex_valid ex_hyp 1 _ rfl 1 3
example : (outputClasses exSrcs .first) = [[0], [1]] := by decide +kernel
example : ∀ c ∈ outputClasses exSrcs .first, ∀ c' ∈ outputClasses exSrcs .first, ∀ g, g ∈ c → g ∈ c' → c = c' :=
  fun c hc c' hc' g hg hg' => classes_partition_partial exSrcs ex_hyp .first c c' hc hc' g hg hg'
example : lookupKerningValue (.glyph 1, .glyph 3) (exSrcs[1]).kerns ((exSrcs[1]).groupOf .first)
    ((exSrcs[1]).groupOf .second) = 5 := by decide +kernel

#print axioms lookup_is_ufo
#print axioms classes_partition_partial
#print axioms reconcile_correct_of_partition
#print axioms reconcile_correct_partial
#print axioms reconcile_counterexample
#print axioms classes_partition_counterexample
#print axioms colliding_inserts_equal
#print axioms kern_master_reproduced

end Fontc.C09
