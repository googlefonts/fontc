/-
  C02 — Task-graph safety: every read is ordered after its producer in all schedules.
  Property theorems only; helper lemmas live in FontcProofs/Sched*.lean.

  Setting (FontcModel/Sched.lean).  A `State` mirrors `Workload` (workload.rs): `pending` = `jobs_pending`,
  `counters` = `count_pending`, `success`, `also`, `jobCount`, plus `inflight` = completion messages sent by
  workers and not yet handled.  Events: `insert` (bookkeeping), `launch` (guard = `can_run`), `finish` (the WORKER
  decrements counters, before sending), `deliver` (`handle_success`: `complete_one`, `mark_also_completed`, then the
  script's effects for that id: jobs added, read-access rewrites, BE-glyph skips).  `step … = none` = the scheduler
  would not do this, or the real code panics.  A `Script` is the source-dependent data: initial jobs and the effects
  of every delivery; it is *extracted from the running compiler* on every check (stream c02).

  (FontcProofs/SchedSpec.lean: `Reach`, `ReachInit`, `State.active`, `State.slots`, `happened`, `TableHolds`, `WaitsFor`)
  `Reach sc s`     : `s` is reachable from the empty workload by any admitted events (inserts anywhere).
  `ReachInit sc s` : `s` is reachable from the state after `Workload::new` (all `sc.init` inserted) by
                     launch / finish / deliver events — i.e. along any interleaving the scheduler admits.
  History variables of `State` (`inserted`, `launched`, `finished`, `delivered`, `skipped`) are written by `step`
  and never read by it; they let the theorems speak about the past.

  All theorems quantify over every script, every state reachable by every trace: no bound on jobs or steps.
-/
import FontcModel.Sched
import FontcModel.SchedCheck
import FontcProofs.SchedSpec
import FontcProofs.SchedBasic
import FontcProofs.SchedAtoms
import FontcProofs.SchedInv
import FontcProofs.SchedSafety
import FontcProofs.SchedScript
import FontcProofs.SchedCheckSound
import FontcProofs.SchedFresh
import FontcProofs.SchedProgress
import FontcProofs.SchedProgressStatic

namespace Fontc.C02
open Fontc Fontc.Sched

/-- **counter_inv.**  In every reachable state in which no id has been inserted twice, the counter of discriminant `d`
    equals the number of *slots* of discriminant `d` owned by jobs whose worker has not finished: one slot for the id of
    every pending real/nop job that is not in flight, and one for each of its also-completes ids
    (`State.slots`; placeholder entries and skipped jobs contribute nothing). -/
theorem counter_inv {sc : Script} {s : State} (r : Reach sc s) (fresh : s.inserted.Nodup) (d : String) :
    ctrGet s.counters d = s.slots.count d :=
  (r.inv fresh).wf.counters d

/-- The same for every interleaving of a script whose ids are statically distinct (`freshIds`, decidable on the script). -/
theorem counter_inv_static {sc : Script} (hf : freshIds sc = true) {s : State} (r : ReachInit sc s) (d : String) :
    ctrGet s.counters d = s.slots.count d :=
  (r.inv (fresh_sound hf r)).wf.counters d

/-- What a zero counter means for pending entries (placeholders included): the worker of the owning job has finished. -/
theorem counter_zero {sc : Script} {s : State} (r : Reach sc s) (fresh : s.inserted.Nodup) (d : String)
    (h0 : ctrGet s.counters d = 0) : ∀ e ∈ s.pending, e.id.disc = d → e.owner ∈ s.inflight :=
  (r.inv fresh).wf.counter_zero h0

/-- **no_double_completion.**  Under the static well-formedness condition `freshIds`, in every interleaving, handling the
    completion message of a job that was launched and whose worker finished never hits "completed but isn't pending",
    "Multiple completions" or "Repeat signals" (the bookkeeping half of `handle_success` succeeds). -/
theorem no_double_completion {sc : Script} (hf : freshIds sc = true) {s : State} (r : ReachInit sc s) {id : Id}
    (hin : id ∈ s.inflight) : ∃ s', s.receive id = some s' :=
  receive_isSome (r.inv (fresh_sound hf r)).wf hin

/-- The worker's decrements never miss a counter or underflow: a running job can always finish. -/
theorem finish_admitted {sc : Script} (hf : freshIds sc = true) {s : State} (r : ReachInit sc s) {e : Entry}
    (he : e ∈ s.pending) (hrun : e.running = true) (hni : e.id ∉ s.inflight) : ∃ s', s.finish e.id = some s' :=
  finish_isSome (r.inv (fresh_sound hf r)).wf he hrun hni

/-- `freshIds` really is a static guarantee: in every interleaving no id is inserted twice. -/
theorem fresh_in_every_schedule {sc : Script} (hf : freshIds sc = true) {s : State} (r : ReachInit sc s) :
    s.inserted.Nodup :=
  fresh_sound hf r

/-- **specific_dep_safe.**  If `launch j` is admitted and `SpecificInstanceOfVariant(k)` is in `j`'s read access, then `k` is
    complete — some job `o` that completes `k` (`k = o` or `k` is an also-completes id of `o`) has been *delivered*, i.e. its
    `handle_success` effects have been applied, or was skipped — **or `k` was never inserted**: `!jobs_pending.contains_key`
    is also true for an id that will only be inserted later.  That second disjunct is the "late producer" hole. -/
theorem specific_dep_safe {sc : Script} {s s' : State} (r : Reach sc s) (fresh : s.inserted.Nodup) {j : Id}
    (hl : s.launch j = some s') :
    ∃ e ∈ s.pending, e.id = j ∧ ∀ ds, e.reads = .set ds → ∀ k, Dep.specific k ∈ ds →
      (∃ o, (o ∈ s.delivered ∨ o ∈ s.skipped) ∧ (k = o ∨ k ∈ s.alsoOf o)) ∨ k ∉ s.inserted := by
  obtain ⟨e, he, hid, _, _, hcan, _⟩ := launch_canRun hl
  refine ⟨e, he, hid, ?_⟩
  intro ds hr k hk
  rcases specific_dep_ok (r.inv fresh).wf hcan hr hk with h | h
  · exact Or.inl ((r.inv fresh).hist.succ_char k h)
  · exact Or.inr h

/-- **variant_dep_safe.**  If `launch j` is admitted and `Variant(d)` is in `j`'s read access, then every id of discriminant
    `d` inserted SO FAR is complete or is pending with the worker of its owning job finished.  Nothing is said about ids of
    discriminant `d` inserted later: see `variant_dep_race` below. -/
theorem variant_dep_safe {sc : Script} {s s' : State} (r : Reach sc s) (fresh : s.inserted.Nodup) {j : Id}
    (hl : s.launch j = some s') :
    ∃ e ∈ s.pending, e.id = j ∧ ∀ ds, e.reads = .set ds → ∀ d, Dep.variant d ∈ ds →
      ∀ k ∈ s.inserted, k.disc = d → k ∈ s.success ∨ ∃ x ∈ s.pending, x.id = k ∧ x.owner ∈ s.finished := by
  obtain ⟨e, he, hid, _, _, hcan, _⟩ := launch_canRun hl
  refine ⟨e, he, hid, ?_⟩
  intro ds hr d hd k hk hkd
  exact variant_dep_done (r.inv fresh).wf (r.inv fresh).hist hcan hr hd hk hkd

def raceP : Id := ⟨"d", "p"⟩
def raceK : Id := ⟨"d", "k"⟩
def raceR : Id := ⟨"r", "r"⟩
def variantRaceScript : Script :=
  { init := [{ id := raceP, reads := .none, writes := .none, also := [], kind := .real },
             { id := raceR, reads := .set [.variant "d"], writes := .none, also := [], kind := .real }],
    onDeliver := [(raceP, [.add { id := raceK, reads := .none, writes := .none, also := [], kind := .real }])] }

def endState (sc : Script) (evs : List Event) : Option State := (initState sc).bind (run sc · evs)

/-- A concrete script and admitted trace in which a job with a `Variant(d)` dependency is launched and an id of discriminant
    `d` is inserted (and would run) afterwards: the counter of `d` hits 0 when the worker of `P` finishes, the reader `R` is
    launched, and only then `handle_success(P)` spawns `K` of discriminant `d` (fontc issues 647 / 655 / 1436 in miniature). -/
theorem variant_dep_race :
    ∃ s, endState variantRaceScript [.launch raceP, .finish raceP, .launch raceR, .deliver raceP] = some s ∧
      (raceR, Access.set [.variant "d"]) ∈ s.launched ∧ s.isPending raceK = true ∧ raceK ∉ s.finished := by
  decide +kernel

/-- Soundness of `checkTable` (the engine behind `checkScript` and the must-precede relation): every fact of a locally
    justified table is true in every interleaving: whenever `f.job` has been launched under access `f.acc`,
    `f.ev` (a delivery, or the end of a job) had already happened. -/
theorem mustPrecede_sound {sc : Script} {t : Table} (hc : checkTable sc t = true) (hf : freshIds sc = true)
    {s : State} (r : ReachInit sc s) {f : Fact} (hmem : f ∈ t) (hl : (f.job, f.acc) ∈ s.launched) :
    happened s f.ev :=
  checkTable_sound hc r (fresh_sound hf r) f hmem hl

/-- **No late producer.**  If the checker accepts the script then in every interleaving: when a job has been launched under
    access `a`, every delivery that spawns a job producing an id `a` can read has already been handled — the producer is
    already inserted. -/
theorem no_late_producer {sc : Script} {t : Table} (hc : checkScriptWith sc t = true) (hf : freshIds sc = true)
    {s : State} (r : ReachInit sc s) {j : Id} {a : Access} (hl : (j, a) ∈ s.launched)
    {q : Id} {k : Job} (hk : Effect.add k ∈ sc.effects q) {w : Id} (hw : w ∈ k.ids) (hcheck : a.check w = true) :
    q ∈ s.delivered := by
  simp only [checkScriptWith, Bool.and_eq_true, List.all_eq_true, List.contains_iff_mem] at hc
  have fresh := fresh_sound hf r
  have hs := r.scr
  have hneed : (⟨.del q, j, a⟩ : Fact) ∈ sc.needs := by
    simp only [Script.needs, List.mem_flatMap, List.mem_map, List.mem_filter]
    refine ⟨(q, k), add_mem_spawns hk, ?_⟩
    obtain ⟨job, hjob, _, rfl⟩ := mem_owners_iff.1 (hs.launched_job _ hl).isjob
    refine ⟨job, hjob, a, ⟨(hs.launched_acc _ hl).version, ?_⟩, rfl⟩
    simp only [List.any_eq_true]
    exact ⟨w, hw, hcheck⟩
  exact checkTable_sound hc.1 r fresh _ (hc.2 _ hneed) hl

/-- the job that produces `w` is over: `w` is complete, or it is pending and the worker of its owning job has finished -/
def ProducerDone (s : State) (w : Id) : Prop :=
  w ∈ s.success ∨ ∃ x ∈ s.pending, x.id = w ∧ x.owner ∈ s.finished

/-- **Every read is after its producer.**  If `checkScript` accepts the script (and its ids are distinct), then for every
    interleaving and every admitted `launch j`: every id `w ≠ j` that `j`'s read access allows it to read and that is
    inserted in ANY reachable state of the script (earlier, later, or on another branch) (i) is already inserted now, and
    (ii) its producer is done: completed, or its worker has finished. -/
theorem every_read_after_producer {sc : Script} (hc : checkScript sc = true) (hf : freshIds sc = true)
    {s s' : State} (r : ReachInit sc s) {j : Id} (hl : s.launch j = some s') :
    ∃ e ∈ s.pending, e.id = j ∧ (j, e.reads) ∈ s'.launched ∧
      ∀ w, e.reads.check w = true → w ≠ j →
        (∀ s'', ReachInit sc s'' → w ∈ s''.inserted → w ∈ s.inserted) ∧ (w ∈ s.inserted → ProducerDone s w) := by
  have hcw : checkScriptWith sc (checkScriptFull sc).table = true := by
    simpa [checkScript, checkScriptFull] using hc
  obtain ⟨e, he, hid, hkind, hrun, hcan, hlaunched⟩ := launch_canRun hl
  have fresh := fresh_sound hf r
  have w0 := (r.inv fresh).wf
  have hh := (r.inv fresh).hist
  have hmem' : (j, e.reads) ∈ s'.launched := by rw [hlaunched]; simp
  refine ⟨e, he, hid, hmem', ?_⟩
  intro w hcheck hne
  have r' : ReachInit sc s' := ReachInit.launch j r hl
  constructor
  · intro s'' r'' hw
    rcases r''.mem_inserted.1 hw with h | ⟨q, _, hq⟩
    · exact r.init_inserted w h
    · -- `w` is inserted by `Deliver(q)`: that delivery precedes the launch
      obtain ⟨k, heff, hweff⟩ := mem_addedIds.1 hq
      have hq' : q ∈ s'.delivered := no_late_producer hcw hf r' hmem' heff hweff hcheck
      have : s'.delivered = s.delivered := by
        obtain ⟨_, rfl, _⟩ := launch_spec hl; rfl
      rw [this] at hq'
      exact r.added_inserted q hq' w hq
  · exact fun hw => canRun_reads_done w0 hh hcan hcheck (fun h => hne (h.trans hid)) hw

/-! ## The GlyphOrder / BE-glyph race (known_findings.json F-C02-1) and why the repaired scheduler is safe

  `update_be_glyph_work`, called from `handle_success(Glyph X)` on the main thread, re-reads IR glyph `X` from the context
  to decide the dependencies of the BE job `GlyfFragment(X)`.  `GlyphOrder` (which rewrites glyphs) is launchable as soon as
  the IrGlyph *counter* is 0, i.e. before those completion messages are handled.  Without the repair (in /repo the function
  returns while `GlyphOrder` is running and `handle_success(GlyphOrder)` revisits the blocked BE jobs), a main thread that
  sees the glyph already rewritten to a component-less one installs an access without `GlyphOrder`, and the BE job is
  launched while `GlyphOrder` is still running.  In miniature: -/

def fG : Id := ⟨"IrGlyph", "x"⟩
def fGO : Id := ⟨"IrGlyphOrder", "go"⟩
def fBE : Id := ⟨"BeGlyf", "x"⟩
def fJobs : List Job :=
  [{ id := fG, reads := .none, writes := .none, also := [], kind := .real },
   { id := fGO, reads := .set [.variant "IrGlyph"], writes := .none, also := [], kind := .real },
   { id := fBE, reads := .unknown, writes := .none, also := [], kind := .real }]

/-- the script of a run of the UNFIXED scheduler in which `handle_success(Glyph x)` saw the rewritten glyph -/
def racyScript : Script := { init := fJobs, onDeliver := [(fG, [.rewrite fBE (.set []) false])] }

/-- the script of the REPAIRED scheduler in the same situation: the refinement is deferred to `handle_success(GlyphOrder)` -/
def fixedScript : Script :=
  { init := fJobs, onDeliver := [(fG, [.guard fGO .running]), (fGO, [.rewrite fBE (.set []) false])] }

/-- the claim "the BE job is launched only after GlyphOrder is over" -/
def beAfterGlyphOrder : Fact := ⟨.fin fGO, fBE, .set []⟩

/-- In the racy script the claim is FALSE: an admitted interleaving launches the BE glyph job while GlyphOrder is running. -/
theorem racy_script_unsafe :
    ∃ s, endState racyScript [.launch fG, .finish fG, .launch fGO, .deliver fG, .launch fBE] = some s ∧
      (beAfterGlyphOrder.job, beAfterGlyphOrder.acc) ∈ s.launched ∧ fGO ∉ s.finished ∧ fGO ∉ s.skipped := by
  decide +kernel

/-- … and accordingly no table containing the claim is justified for the racy script (here: the singleton table). -/
theorem racy_script_rejected : checkTable racyScript [beAfterGlyphOrder] = false := by decide +kernel

/-- In the repaired script the claim is justified, hence TRUE in every interleaving. -/
theorem fixed_script_safe {s : State} (r : ReachInit fixedScript s)
    (hl : (fBE, Access.set []) ∈ s.launched) : fGO ∈ s.finished ∨ fGO ∈ s.skipped :=
  mustPrecede_sound (t := [beAfterGlyphOrder]) (f := beAfterGlyphOrder) (by decide +kernel) (by decide +kernel) r (by simp) hl

/-! ## Progress: `Error::UnableToProceed` never happens for scripts the progress checker accepts

  `checkProgress sc cert` (decidable; the certificate = a rank per job and a resolver per job that starts `Unknown` is found
  by an unverified search and only checked) verifies: `onDeliver` keys distinct; no rewrite installs `Unknown`; every job
  added with `Unknown` is resolved later in the same `handle_success` and by no other; also-completes ids are not job ids;
  the creator of a spawned job is a never-skipped job of lower rank; in every access version every dependency
  (`Specific`: the owners of the id; `Variant(d)`: the owners of every id of discriminant `d`; `All`: every other job) has lower
  rank; every job that starts `Unknown` has a never-skipped resolver of lower rank. -/

/-- **no_unable_to_proceed.**  For every script accepted by `checkProgress` (any certificate) with distinct ids, and every
    interleaving: the scheduler's give-up condition (not done, nothing launchable, nothing running) is never true. -/
theorem no_unable_to_proceed {sc : Script} {cert : ProgCert} (hc : checkProgress sc cert = true) (hf : freshIds sc = true)
    {s : State} (r : ReachInit sc s) : s.unableToProceed = false := by
  have fresh := fresh_sound hf r
  cases hst : s.unableToProceed with
  | false => rfl
  | true =>
    exfalso
    obtain ⟨e0, he0, hk0⟩ := (unable_to_proceed_cases (r.inv fresh) hst).1
    -- every pending job has a pending job of lower rank below it (`stuck_lower`): impossible, by induction on the rank
    induction hn : cert.rkOf e0.id using Nat.strongRecOn generalizing e0 with
    | ind n ih =>
      subst hn
      obtain ⟨p, hp, hpk, hlt⟩ := stuck_lower (progFacts hc) r fresh hst he0 hk0
      exact ih _ hlt p hp hpk rfl

/-- non-vacuity: the miniature repaired script is accepted -/
example : checkProgress fixedScript { rk := [(fG, 0), (fGO, 1), (fBE, 2)], res := [(fBE, fGO)] } = true := by decide +kernel

/-- For ANY script with distinct ids (accepted or not): a stuck scheduler always has a pending job, each of which has an
    unresolved `Unknown` access or waits (`WaitsFor`) for a pending job — a deadlock is always a dependency cycle among pending
    jobs or an `Unknown` that nobody resolved, never a lost completion or a counter that fails to reach zero. -/
theorem unable_to_proceed_cases {sc : Script} (hf : freshIds sc = true) {s : State} (r : ReachInit sc s)
    (hstuck : s.unableToProceed = true) :
    (∃ e ∈ s.pending, e.kind ≠ .alsoComplete) ∧
    ∀ e ∈ s.pending, e.kind ≠ .alsoComplete →
      e.reads = .unknown ∨ ∃ p ∈ s.pending, p.kind ≠ .alsoComplete ∧ WaitsFor s e p :=
  Sched.unable_to_proceed_cases (r.inv (fresh_sound hf r)) hstuck

/-- `job_count` bookkeeping is exact in every interleaving, for any script with distinct ids: `job_count = |success| + |pending|`. -/
theorem job_count_exact {sc : Script} (hf : freshIds sc = true) {s : State} (r : ReachInit sc s) :
    s.jobCount = s.success.length + s.pending.length :=
  (r.inv (fresh_sound hf r)).hist.jobCount_eq

/-- the hypotheses of `every_read_after_producer` are satisfiable and its conclusion is about a real launch -/
example : checkScript fixedScript = true ∧ freshIds fixedScript = true ∧
    ∃ s s', endState fixedScript [.launch fG, .finish fG, .launch fGO, .finish fGO, .deliver fGO] = some s ∧
      s.launch fBE = some s' := by
  refine ⟨by decide, by decide, _, _, rfl, rfl⟩

end Fontc.C02
