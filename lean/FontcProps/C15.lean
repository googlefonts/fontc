/-
  C15 — Bad input ends in a reported error, never a crash, hang or bogus font (model: FontcModel/CompGraph.lean).

  What a theorem can say about this property is its logical core: the component graph walks.
  * `depth_sorted_composite_glyphs` (fontdrasil/src/util.rs:18), the one walk that is written as rounds, always
    terminates, after at most (number of glyphs + 1) rounds (`depthSort_terminates`), what it places is a topological
    order with `depth` a rank function (`depthSort_sound`), and what it leaves over is exactly "the pruned graph is not
    acyclic" (`gate_sound`, `gate_complete`) — so it is a sound and complete cycle gate (the fix
    fixes/C15-component-cycle.patch turns the leftover into an error instead of a warning).
  * every recursive descent through components returns when a rank function exists (`walk_terminates_of_acyclic`,
    uniform bound `gate_makes_walks_total`) and NEVER returns from a glyph on a cycle, whatever the fuel
    (`cycle_makes_walk_diverge`) — the formal counterpart of defect F1: on the unchanged tree no gate exists, so
    `FullStatement` (all walks return on every pruned graph) is false (`fullStatement_false`, witness: two glyphs
    referring to each other), and true under the gate (`walks_total_partial`).
  * `main`: an `Err` anywhere (source, a job's error, a caught panic, nothing launchable, file I/O) gives exit code 1,
    a diagnostic and no font written; exit code 0 iff the font was written (`no_font_on_error`).
  Stack depth, wall time, memory, the three source parsers and the FEA parser are outside any model: they are
  monitored by the child-process streams `c15graph` / `c15mut` (lean/Driver/C15.lean).
-/
import FontcProofs.CompGraphWalk

namespace Fontc.C15
open Fontc Fontc.CompGraph

variable {α : Type} [DecidableEq α]

/-- **Termination of the round loop.** Any fuel ≥ (number of glyphs + 1) is enough for the `while progress > 0` loop
    of `depth_sorted_composite_glyphs` to stop, and the result does not depend on the fuel: it is the `depthCore g`
    that `depthSort` and `rejectCycles` use. (Progress measure: every round but the last shrinks `indeterminate_depth`.) -/
theorem depthSort_terminates (g : Graph α) (fuel : Nat) (h : g.length + 1 ≤ fuel) :
    depthCoreFuel fuel g = some (depthCore g) :=
  (depthCore_spec (fun _ _ => True) (fun _ _ _ => trivial) g trivial).2 fuel h

/-- **Soundness of the depth sort.** Every glyph reported as placed is a glyph of the graph, each of its components
    is placed too, with a strictly smaller depth, and stands earlier in the output (topological order); every glyph
    is either placed or left over, never both. -/
theorem depthSort_sound (nlt : α → α → Bool) (g : Graph α) (hnd : (names g).Nodup) :
    (∀ n d, (n, d) ∈ (depthSort nlt g).placed →
        n ∈ names g ∧ n ∉ (depthSort nlt g).leftover ∧
        ∀ c ∈ compsOf g n, ∃ dc, (c, dc) ∈ (depthSort nlt g).placed ∧ dc < d ∧
          ∃ pre post, (depthSort nlt g).placed = pre ++ (n, d) :: post ∧ (c, dc) ∈ pre) ∧
    (∀ n ∈ names g, n ∈ (depthSort nlt g).leftover ∨ ∃ d, (n, d) ∈ (depthSort nlt g).placed) := by
  have hI := depthCore_inv g hnd
  constructor
  · intro n d hn
    have hd := (mem_placed_iff nlt hnd).mp hn
    refine ⟨hI.known hd, hI.disjoint hnd hd, fun c hc => ?_⟩
    obtain ⟨dc, h1, h2⟩ := hI.rank n d hd c hc
    have hc' := (mem_placed_iff nlt hnd).mpr h1
    exact ⟨dc, hc', h2, before_of_sorted (pairwise_sortByDepth nlt _) hn hc' h2⟩
  · intro n hn
    rcases hI.cover hn with h | h
    · obtain ⟨d, hd⟩ := Option.isSome_iff_exists.mp h
      exact .inr ⟨d, (mem_placed_iff nlt hnd).mpr (depthOf_mem hd)⟩
    · exact .inl h

/-- **The gate is sound**: if the gate lets a graph through, the graph every later walk sees (dangling references
    pruned) is acyclic — there is a rank that strictly decreases along every component edge — and has no dangling
    reference. -/
theorem gate_sound (g : Graph α) (hnd : (names g).Nodup) (h : rejectCycles g = false) :
    Acyclic (prune g) ∧ NoDangling (prune g) := by
  refine ⟨?_, prune_noDangling g⟩
  apply acyclic_of_leftover_nil (prune g) (by rw [names_prune]; exact hnd)
  simpa [rejectCycles] using h

/-- **The gate is complete**: it rejects nothing but cycles. If the pruned graph is acyclic the gate lets it through;
    in particular (`gate_complete'`) an acyclic graph without dangling references passes. -/
theorem gate_complete (g : Graph α) (hnd : (names g).Nodup) (h : Acyclic (prune g)) : rejectCycles g = false := by
  have := leftover_nil_of_acyclic (prune g) (by rw [names_prune]; exact hnd) h (prune_noDangling g)
  simp [rejectCycles, this]

theorem gate_complete' (g : Graph α) (hnd : (names g).Nodup) (hac : Acyclic g) (hdg : NoDangling g) :
    rejectCycles g = false := by
  apply gate_complete g hnd
  rw [prune_eq_self hnd hdg]; exact hac

/-- **Walks return on ranked graphs.** With a rank function (for instance the depths computed by the depth sort),
    the recursive descent from `n` returns with fuel `rank n + 1`, and more fuel does not change what it returns.
    Holds for every walk of this shape, in particular `flatten`, `resolveDepth`, `compositeLimits`. -/
theorem walk_terminates_of_acyclic {β : Type} (leaf : α → β) (node : α → List β → β) (g : Graph α)
    (rank : α → Nat) (hrank : ∀ n c, c ∈ compsOf g n → rank c < rank n) (n : α) :
    ∃ r, ∀ fuel, rank n < fuel → walk leaf node fuel g n = some r := by
  -- by induction on the rank: the children return the same values from every fuel above their ranks on
  induction hk : rank n using Nat.strongRecOn generalizing n with
  | _ k ih =>
    subst hk
    cases hcs : compsOf g n with
    | nil =>
      refine ⟨leaf n, fun fuel hf => ?_⟩
      obtain ⟨i, rfl⟩ := Nat.exists_eq_add_of_lt hf
      rw [walk_succ, hcs]
    | cons c cs =>
      obtain ⟨rs, hrs⟩ := walkAll_eventually (fun j x => walk leaf node j g x) rank (c :: cs)
        fun x hx => ih (rank x) (hrank n x (hcs ▸ hx)) x rfl
      refine ⟨node n rs, fun fuel hf => ?_⟩
      obtain ⟨i, rfl⟩ := Nat.exists_eq_add_of_lt hf
      rw [walk_succ, hcs]
      simp only
      rw [hrs _ fun x hx => Nat.lt_add_right i (hrank n x (hcs ▸ hx))]
      rfl

theorem flatten_terminates_of_acyclic (g : Graph α) (rank : α → Nat)
    (hrank : ∀ n c, c ∈ compsOf g n → rank c < rank n) (n : α) :
    ∃ r, ∀ fuel, rank n < fuel → flatten fuel g n = some r :=
  walk_terminates_of_acyclic _ _ g rank hrank n

theorem resolveDepth_terminates_of_acyclic (g : Graph α) (rank : α → Nat)
    (hrank : ∀ n c, c ∈ compsOf g n → rank c < rank n) (n : α) :
    ∃ r, ∀ fuel, rank n < fuel → resolveDepth fuel g n = some r :=
  walk_terminates_of_acyclic _ _ g rank hrank n

theorem compositeLimits_terminates_of_acyclic (own : α → Nat × Nat) (g : Graph α) (rank : α → Nat)
    (hrank : ∀ n c, c ∈ compsOf g n → rank c < rank n) (n : α) :
    ∃ r, ∀ fuel, rank n < fuel → compositeLimits own fuel g n = some r :=
  walk_terminates_of_acyclic _ _ g rank hrank n

/-- **The gate makes every later walk total**, with one recursion bound for the whole font. -/
theorem gate_makes_walks_total {β : Type} (leaf : α → β) (node : α → List β → β) (g : Graph α)
    (hnd : (names g).Nodup) (h : rejectCycles g = false) :
    ∃ B, ∀ n, (walk leaf node B (prune g) n).isSome := by
  obtain ⟨rank, hrank⟩ := (gate_sound g hnd h).1
  -- the largest rank of a glyph of the graph; a name outside the graph has no components
  refine ⟨((names (prune g)).map rank).max?.getD 0 + 1, fun n => ?_⟩
  by_cases hn : n ∈ names (prune g)
  · obtain ⟨r, hr⟩ := walk_terminates_of_acyclic leaf node (prune g) rank hrank n
    rw [hr _ (Nat.lt_succ_of_le (List.le_max?_getD_of_mem (List.mem_map_of_mem hn)))]
    rfl
  · rw [walk_succ, compsOf_eq_nil_of_not_mem hn]; rfl

/-- **A closed set of glyphs** (every member has a component in the set) **makes every walk diverge**: self loops, long
    cycles, and glyphs that merely lead into a cycle (the glyphs from which a cycle can be reached form such a set). -/
theorem closed_set_makes_walk_diverge {β : Type} (leaf : α → β) (node : α → List β → β) (g : Graph α) (P : α → Prop)
    (hP : ∀ n, P n → ∃ c ∈ compsOf g n, P c) (fuel : Nat) (n : α) (hn : P n) :
    walk leaf node fuel g n = none := by
  induction fuel generalizing n with
  | zero => rfl
  | succ fuel ih =>
    obtain ⟨c, hc, hpc⟩ := hP n hn
    rw [walk_succ]
    split
    · rename_i hcs; rw [hcs] at hc; simp at hc
    · rename_i c' cs hcs
      rw [walkAll_none_of_mem _ _ c (hcs ▸ hc) (ih c hpc)]
      rfl

/-- **A cycle makes every walk diverge**: two glyphs referring to each other (defect F1: `bar → plus → bar`).
    No amount of fuel lets a walk from either glyph return — in the implementation: unbounded recursion / an endless
    work list. Pruning does not help (both glyphs exist), and the gate rejects exactly this graph. -/
theorem cycle_makes_walk_diverge {β : Type} (leaf : α → β) (node : α → List β → β) (a b : α) (hab : a ≠ b) (fuel : Nat) :
    walk leaf node fuel (prune [(a, [b]), (b, [a])]) a = none ∧
    walk leaf node fuel (prune [(a, [b]), (b, [a])]) b = none ∧
    rejectCycles [(a, [b]), (b, [a])] = true := by
  have hba : b ≠ a := fun e => hab e.symm
  have hp : prune [(a, [b]), (b, [a])] = [(a, [b]), (b, [a])] := by
    simp [prune, names, List.filter]
  rw [hp]
  have hclosed : ∀ n, (n = a ∨ n = b) → ∃ c ∈ compsOf [(a, [b]), (b, [a])] n, (c = a ∨ c = b) := by
    intro n hn
    rcases hn with hn | hn
    · subst hn; exact ⟨b, by simp [compsOf], Or.inr rfl⟩
    · subst hn; exact ⟨a, by simp [compsOf, hab], Or.inl rfl⟩
  refine ⟨closed_set_makes_walk_diverge leaf node _ _ hclosed fuel a (Or.inl rfl),
          closed_set_makes_walk_diverge leaf node _ _ hclosed fuel b (Or.inr rfl), ?_⟩
  simp [rejectCycles, hp, depthCore, depthCoreFuel, simples, composites, List.filter, loop]

/-- The statement one would like of the unchanged tree (no cycle check anywhere): whatever the source's component
    graph, once missing components are pruned every recursive walk returns. -/
def FullStatement : Prop :=
  ∀ (g : Graph Nat), (names g).Nodup → ∀ n, ∃ fuel, (resolveDepth fuel (prune g) n).isSome

/-- … it holds for the graphs the gate lets through … -/
theorem walks_total_partial (g : Graph Nat) (hnd : (names g).Nodup) (hgate : rejectCycles g = false) (n : Nat) :
    ∃ fuel, (resolveDepth fuel (prune g) n).isSome := by
  obtain ⟨B, hB⟩ := gate_makes_walks_total (fun _ => 0) (fun _ rs => 1 + rs.foldl max 0) g hnd hgate
  exact ⟨B, hB n⟩

/-- … and is false without the gate: witness glyph 0 ↔ glyph 1 (replayed on the real compiler by stream `c15graph`:
    stack overflow, SIGABRT). -/
theorem fullStatement_false : ¬ FullStatement := by
  intro h
  obtain ⟨fuel, hf⟩ := h [(0, [1]), (1, [0])] (by decide) 0
  have := (cycle_makes_walk_diverge (fun _ : Nat => 0) (fun _ rs => 1 + rs.foldl max 0) 0 1 (by decide) fuel).1
  unfold resolveDepth at hf
  rw [this] at hf; cases hf

/-- **No font on error.** The process exits with 0 or 1. Exit 1 ⇒ nothing was written and a diagnostic was printed;
    exit 0 ⇒ the source loaded, every job succeeded, nothing was stuck, and exactly the font was written.
    A job that panicked (caught by the workload, `Error::Panic`) or a stuck workload always gives exit 1. -/
theorem no_font_on_error (i : RunInput) :
    ((mainModel i).exitCode = 0 ∨ (mainModel i).exitCode = 1) ∧
    ((mainModel i).exitCode ≠ 0 → (mainModel i).written = none ∧ (mainModel i).diagnostic = true) ∧
    ((mainModel i).exitCode = 0 → (mainModel i).written = some i.font ∧ i.source = .ok () ∧
        (∀ j ∈ i.jobs, j = JobResult.ok) ∧ i.pending = 0 ∧ i.writable = true) ∧
    (∀ m, JobResult.panic m ∈ i.jobs → (mainModel i).exitCode = 1) ∧
    (0 < i.pending → (mainModel i).exitCode = 1) := by
  unfold mainModel run
  cases hs : i.source with
  | error m => simp
  | ok u =>
    cases hw : workload i.jobs i.pending with
    | error e => simp
    | ok u' =>
      obtain ⟨h1, h2⟩ := workload_ok hw
      cases hwr : i.writable with
      | false => simp
      | true =>
        simp only [if_true, true_and, ne_eq, not_true_eq_false, false_implies, forall_const, true_or, and_true]
        refine ⟨⟨h2, h1⟩, ?_, ?_⟩
        · intro m hm
          cases h2 _ hm
        · intro hp; omega

/-! Non-vacuity: the hypotheses are satisfiable and the conclusions are not trivially true. -/

/-- a concrete graph: `3 → 2 → {0, 1}`, a dangling reference in `2`, a 2-cycle `4 ↔ 5`, and `6` leading into the cycle -/
def exG : Graph Nat := [(0, []), (1, []), (2, [0, 1, 9]), (3, [2]), (4, [5]), (5, [4]), (6, [4, 0])]
def exAcyclic : Graph Nat := [(0, []), (1, []), (2, [0, 1, 9]), (3, [2, 0])]

example : (names exG).Nodup := by decide
example : depthCoreFuel (exG.length + 1) (prune exG) = some (depthCore (prune exG)) := depthSort_terminates _ _ (Nat.le_refl _)
-- placed with depths (sorted by depth, then name), and what is left over: the cycle and what leads into it
example : (depthSort (fun a b => decide (a < b)) (prune exG)).placed = [(0, 0), (1, 0), (2, 1), (3, 2)] := by decide
example : (depthSort (fun a b => decide (a < b)) (prune exG)).leftover = [4, 5, 6] := by decide
-- without pruning, the dangling reference keeps `2` and `3` indeterminate too ("cycles or bad refs")
example : (depthSort (fun a b => decide (a < b)) exG).leftover = [2, 3, 4, 5, 6] := by decide
example : rejectCycles exG = true := by decide
example : rejectCycles exAcyclic = false := by decide
example : Acyclic (prune exAcyclic) := (gate_sound exAcyclic (by decide) (by decide)).1
-- walks: return on the acyclic part, never from the cycle or from what leads into it
example : flatten 3 (prune exG) 3 = some [0, 1] := by decide
example : resolveDepth 3 (prune exG) 3 = some 2 := by decide
example : resolveDepth 2 (prune exG) 3 = none := by decide
example : compositeLimits (fun n => (n + 3, 1)) 3 (prune exG) 3 = some ⟨7, 2, 2⟩ := by decide
example : resolveDepth 50 (prune exG) 6 = none := by decide
example : mainModel ⟨.ok (), [.ok, .panic "boom", .ok], 0, [1, 2], true⟩ = ⟨1, none, true⟩ := by decide
example : mainModel ⟨.ok (), [.ok, .ok], 0, [1, 2], true⟩ = ⟨0, some [1, 2], false⟩ := by decide
example : mainModel ⟨.ok (), [.ok], 2, [1, 2], true⟩ = ⟨1, none, true⟩ := by decide

end Fontc.C15
