/-
  C16 — Conditional substitutions fire exactly where the source rules say.
  Property theorems only; the model is FontcModel/FeatVars.lean (fontir/src/feature_variations.rs),
  helper lemmas live in FontcProofs/FeatVars*.lean.

  Reading guide.  `overlayCore ops n cs` is `overlay_feature_variations` after its two merge passes, run on
  the rule list `cs` over `n` axes with the rank representation `ops` (`natOps` = the Python int of fontTools,
  `wordOps` = the `SmallVec<[u64;4]>` emulation of the unchanged tree, `wordOpsFixed` = the same after
  fixes/C16-rank.patch, which is what /repo has: `count_ones` sort key, `|=` aligned at the low end).
  `firstMatch out p` is what a font built from the output does at `p` (first record whose condition set holds).
  `activeSubs cs p` is the specification `T(p)`: the substitution maps of the rules whose region contains `p`, in
  rule order.
  The proofs are for `natOps`; a representation whose operations refine it (`RefinesNat`) gives the same output
  (`overlayCore_eq_nat`), and that carries the theorems to the word vectors.
-/
import FontcProofs.FeatVarsWitness

namespace Fontc.C16
open Fontc Fontc.FeatVars

/-- **`overlay_onto` is sound.**  For boxes as `NBox::insert` builds them (ranges inside [-1,1]) over the same
    axes, and every point `p`:
    * the intersection box is exactly the set intersection;
    * "no intersection" is only answered when the common points (if any) lie on a face where the two boxes
      touch or one of them has zero width;
    * the remainder lies inside `other` and covers `other ∖ self` (also when the difference is not a box: then
      it is `other` itself);
    * "no remainder" is only answered when `self` covers `other`. -/
theorem overlay_onto_sound (self other : NBox) (p : Point) (hs : BoxOk self) (ho : BoxOk other)
    (hl : self.length = other.length) (hp : p.length = other.length) :
    (∀ i, (overlayOnto self other).1 = some i →
        (contains i p = true ↔ contains self p = true ∧ contains other p = true)) ∧
    ((overlayOnto self other).1 = none → contains self p = true → contains other p = true →
        OnTouchingBoundary [self, other] p) ∧
    (∀ r, (overlayOnto self other).2 = some r →
        (contains r p = true → contains other p = true) ∧
        (contains other p = true → contains self p = false → contains r p = true)) ∧
    ((overlayOnto self other).2 = none → contains other p = true → contains self p = true) := by
  refine ⟨?_, ?_, ?_, ?_⟩
  · intro i hi
    rw [overlayOnto_fst_eq_some hi, contains_inter hs ho hl hp, Bool.and_eq_true]
  · exact fun hnone hcs hco => overlayOnto_inter_none_touch hs ho hl hp hnone hcs hco
  · intro r hr
    obtain ⟨_, _, hsub⟩ := overlayOnto_rem_shape hs ho hl hr
    refine ⟨hsub p, fun hco hcs => ?_⟩
    obtain ⟨r', hr', hg⟩ := step_rem (L := fun _ _ => True) (H := fun _ _ => True)
      (good_of_contains hco) hcs hs ho hl hp
    rw [hr] at hr'; cases hr'
    exact hg.contains
  · exact fun hnone hco => overlayOnto_rem_none hs ho hl hp hnone hco

/-- **The overlay invariant.**  After all rules have been overlaid, for every point `p` that is not on a
    degenerate touching boundary: every box that contains `p` carries only rules that are active at `p`, and
    some box that contains `p` carries exactly the active rules. -/
theorem overlay_invariant (n : Nat) (cs : List Rule) (hok : RulesOk n cs) (p : Point) (hp : p.length = n)
    (hnt : ¬ OnTouchingBoundary (cs.flatMap (·.1)) p) :
    let boxmap := overlayLoop natOps n (cs.map (·.1)) 0 (initMap natOps n)
    (∀ e ∈ boxmap, contains e.1 p = true →
        ∀ j, e.2.testBit j = true → ∃ h : j < cs.length, regionContains cs[j].1 p = true) ∧
    (∃ e ∈ boxmap, contains e.1 p = true ∧
        ∀ j, e.2.testBit j = true ↔ ∃ h : j < cs.length, regionContains cs[j].1 p = true) := by
  obtain ⟨hsound, w, hw, hgood, hbits⟩ := overlay_invariant_nat hok hp hnt
  exact ⟨hsound, w, hw, hgood.contains, hbits⟩

/-- **`first_match_is_T`.**  For every rule list whose regions are non-empty (boxes over `n` axes, ranges
    inside [-1,1]) the function returns normally, and at every point that is not on a degenerate touching
    boundary the first box of the output that contains the point carries exactly the substitutions of the
    rules active there, in rule order.  (Where no rule is active the statement does not tell "no box" from "a box
    without substitutions"; `FeatVars.first_match_nat` does: no box.) -/
theorem first_match_is_T (n : Nat) (cs : List Rule) (hok : RulesOk n cs) :
    ∃ out, overlayCore natOps n cs = some out ∧
      ∀ p : Point, p.length = n → ¬ OnTouchingBoundary (cs.flatMap (·.1)) p →
        (firstMatch out p).getD [] = activeSubs cs p := by
  obtain ⟨out, hout, h⟩ := first_match_nat hok
  exact ⟨out, hout, fun p hp hnt => by rw [h p hp hnt, getD_ite_nil]⟩

/-- The hypothesis about touching boundaries cannot be dropped (inherited from fontTools): two rules whose
    boxes share the face `x = 1/2` are both active on that face, the first matching box has only one. -/
theorem boundary_counterexample :
    RulesOk 1 touchRules ∧ OnTouchingBoundary (touchRules.flatMap (·.1)) [1/2] ∧
    activeSubs touchRules [1/2] = [[(1, 11)], [(2, 12)]] ∧
    (firstMatch ((overlayCore natOps 1 touchRules).getD []) [1/2]).getD [] = [[(2, 12)]] :=
  ⟨touchRules_ok, touch_on_boundary, touch_first_match.1, touch_first_match.2⟩

/-- The word-vector operations implement the natural-number ones (`val` = the number a vector denotes). -/
def RankOpsRefine (a b : WRank) : Prop :=
  (WRank.bitor a b).val = a.val ||| b.val ∧
  (WRank.bitorAssign a b).val = a.val ||| b.val ∧
  (wordOps.le a b = natOps.le a.val b.val)

/-- `rank_words_refine_nat`, full statement: for all word vectors. **False**
    (`rank_words_refine_nat_counterexample`). -/
def FullStatement : Prop := ∀ a b : WRank, RankOpsRefine a b

/-- `&a | &b` is right for all lengths; `a |= &b` is right when `a` is not longer than `b`; the sort key
    `count_zeros` orders like the number of set bits when both vectors have the same number of words. -/
theorem rank_words_refine_nat_partial (a b : WRank) (hlen : a.length = b.length) : RankOpsRefine a b :=
  ⟨val_bitor a b, val_bitorAssign_of_le (by omega), wordOps_le_of_length_eq hlen⟩

/-- `&a | &b` alone needs no hypothesis. -/
theorem rank_bitor_refines (a b : WRank) : (WRank.bitor a b).val = a.val ||| b.val := val_bitor a b

/-- `count_zeros` depends on the number of allocated words: a one-word rank with one bit sorts before a
    two-word rank with two bits. -/
theorem rank_count_zeros_counterexample :
    wordOps.le [1] [1, 1] = true ∧ natOps.le (WRank.val [1]) (WRank.val [1, 1]) = false := by
  decide +kernel

/-- `|=` aligns at the high end: or-ing the one-word rank {0} into the two-word rank {0, 65} sets bit 64. -/
theorem rank_bitor_assign_counterexample :
    WRank.bitorAssign [2, 1] [1] = [3, 1] ∧
    (WRank.bitorAssign [2, 1] [1]).val ≠ WRank.val [2, 1] ||| WRank.val [1] := by
  decide +kernel

theorem rank_words_refine_nat_counterexample : ¬ FullStatement := by
  intro h
  have := (h [1] [1, 1]).2.2
  have hc := rank_count_zeros_counterexample
  rw [hc.1, hc.2] at this
  cases this

/-- **With at most 64 rules the word vectors of the unchanged tree give the same guarantee** as the natural-number
    rank. -/
theorem first_match_is_T_words_partial (n : Nat) (cs : List Rule) (hok : RulesOk n cs) (h64 : cs.length ≤ 64) :
    ∃ out, overlayCore wordOps n cs = some out ∧
      ∀ p : Point, p.length = n → ¬ OnTouchingBoundary (cs.flatMap (·.1)) p →
        (firstMatch out p).getD [] = activeSubs cs p := by
  rw [overlayCore_eq_nat (wordRefines64 h64)]
  exact first_match_is_T n cs hok

/-- the same statement without the bound on the number of rules -/
def WordsFullStatement : Prop :=
  ∀ (n : Nat) (cs : List Rule), RulesOk n cs →
    ∃ out, overlayCore wordOps n cs = some out ∧
      ∀ p : Point, p.length = n → ¬ OnTouchingBoundary (cs.flatMap (·.1)) p →
        (firstMatch out p).getD [] = activeSubs cs p

/-- **65 rules break it** (DESIGN.md §7 F5, a defect of the unchanged tree, repaired in /repo;
    `vharness c16 directed --from 5 --n 1` runs fontc on this rule list):
    rule 0 box wght∈[1/2,1], 63 filler rules far away, rule 64 box wdth∈[1/2,1] × wght∈[1/4,3/4];
    at wdth 0.7, wght 0.6 rules 0 and 64 are active, the first matching box carries rule 0 only. -/
theorem first_match_words_counterexample : ¬ WordsFullStatement := by
  intro h
  obtain ⟨out, hout, hall⟩ := h 2 (manyRules 63) manyRules_ok
  have := hall probe (by decide) probe_off_boundary
  rw [manyRules_spec, manyRules_words hout] at this
  exact absurd this (by decide)

/-- **The property for the whole function**, for source rules whose substitution maps are maps (unique keys):
    the function returns normally, and at every point `p` of the cube that is not on a degenerate touching
    boundary and where the active rules do not substitute the same glyph differently, the glyph map applied by
    the first matching box (earlier map wins) equals the glyph map of the rules whose region contains `p`,
    combined in rule order with earlier rules taking precedence. -/
theorem overlay_effective (n : Nat) (rules : List Rule) (hok : RulesOk n rules) (hu : ∀ r ∈ rules, SubsUniq r.2) :
    ∃ out, overlayFeatureVariations natOps n rules = some out ∧
      ∀ p : Point, p.length = n → InCube p → ¬ OnTouchingBoundary (rules.flatMap (·.1)) p → NoConflict rules p →
        ∀ g, effective ((firstMatch out p).getD []) g = effective (activeSubs rules p) g :=
  overlay_effective_nat hok hu

/-- the same with the word-vector rank of the unchanged tree, when at most 64 rules remain after the two merge
    passes -/
theorem overlay_effective_words_partial (n : Nat) (rules : List Rule) (hok : RulesOk n rules)
    (hu : ∀ r ∈ rules, SubsUniq r.2) (h64 : (mergedRules rules).length ≤ 64) :
    ∃ out, overlayFeatureVariations wordOps n rules = some out ∧
      ∀ p : Point, p.length = n → InCube p → ¬ OnTouchingBoundary (rules.flatMap (·.1)) p → NoConflict rules p →
        ∀ g, effective ((firstMatch out p).getD []) g = effective (activeSubs rules p) g := by
  rw [overlayFeatureVariations_eq_nat (wordRefines64 h64)]
  exact overlay_effective n rules hok hu

/-- The `NoConflict` hypothesis cannot be dropped: "earlier rules take precedence" is **not** kept when two
    simultaneously active rules substitute the same glyph (genuine, inherited from fontTools):
    rules A: 1→11 on [0,1], B: 1→12 on [-1/2,1/2], C: 2→13 on [0,1].  `merge_same_region_rules` files A+C at C's
    position, after B, so at 1/4 the first matching box lists B before A and glyph 1 becomes 12, not 11. -/
theorem precedence_counterexample :
    RulesOk 1 precRules ∧ ¬ OnTouchingBoundary (precRules.flatMap (·.1)) [1/4] ∧
    effective (activeSubs precRules [1/4]) 1 = some 11 ∧
    effective ((firstMatch ((overlayFeatureVariations natOps 1 precRules).getD []) [1/4]).getD []) 1 = some 12 :=
  ⟨precRules_ok, prec_off_boundary, prec_first_match.1, prec_first_match.2.2⟩

/-- The hypothesis "every region has at least one box" (`RulesOk.nonempty`) cannot be dropped either: a rule
    without any condition set makes the function forget every rule before it (genuine, inherited from
    fontTools): here rule 0 is active at 1/2 but the output is empty. -/
theorem empty_region_counterexample :
    activeSubs emptyRegionRules [1/2] = [[(1, 11)]] ∧
    (overlayFeatureVariations natOps 1 emptyRegionRules).map List.length = some 0 := by
  decide +kernel

/-- With the operations as `/verif/fixes/C16-rank.patch` leaves them (`count_ones` sort key, `|=` aligned at the
    low end; model: FontcModel/FeatVarsFixed.lean) the three equations of `RankOpsRefine`, read with the patched `|=`
    and comparison, hold for **all** word vectors. -/
theorem rank_fixed_refines (a b : WRank) :
    (WRank.bitor a b).val = a.val ||| b.val ∧
    (WRank.bitorAssignFixed a b).val = a.val ||| b.val ∧
    (wordOpsFixed.le a b = natOps.le a.val b.val) :=
  ⟨val_bitor a b, val_bitorAssignFixed a b, wordOpsFixed_le a b⟩

/-- … and `first_match_is_T` holds for the patched word-vector rank for every number of rules. -/
theorem first_match_is_T_words_fixed (n : Nat) (cs : List Rule) (hok : RulesOk n cs) :
    ∃ out, overlayCore wordOpsFixed n cs = some out ∧
      ∀ p : Point, p.length = n → ¬ OnTouchingBoundary (cs.flatMap (·.1)) p →
        (firstMatch out p).getD [] = activeSubs cs p := by
  rw [overlayCore_eq_nat wordRefinesFixed]
  exact first_match_is_T n cs hok

/-- the whole function with the patched rank, no bound on the number of rules -/
theorem overlay_effective_words_fixed (n : Nat) (rules : List Rule) (hok : RulesOk n rules)
    (hu : ∀ r ∈ rules, SubsUniq r.2) :
    ∃ out, overlayFeatureVariations wordOpsFixed n rules = some out ∧
      ∀ p : Point, p.length = n → InCube p → ¬ OnTouchingBoundary (rules.flatMap (·.1)) p → NoConflict rules p →
        ∀ g, effective ((firstMatch out p).getD []) g = effective (activeSubs rules p) g := by
  rw [overlayFeatureVariations_eq_nat wordRefinesFixed]
  exact overlay_effective n rules hok hu

/-! Non-vacuity: the hypotheses of each theorem are satisfiable. -/

example : BoxOk [some (0, 1/2)] ∧ BoxOk [none] ∧ [some ((0 : Rat), (1/2 : Rat))].length = [(none : Option Range)].length :=
  ⟨boxOkB_sound (by decide +kernel), boxOkB_sound (by decide +kernel), rfl⟩
example : RulesOk 1 touchRules ∧ ([1/4] : Point).length = 1 ∧ ¬ OnTouchingBoundary (touchRules.flatMap (·.1)) [1/4] :=
  ⟨touchRules_ok, rfl, touch_off_boundary⟩
example : RulesOk 1 touchRules ∧ touchRules.length ≤ 64 := ⟨touchRules_ok, by decide⟩
example : ([1] : WRank).length = ([2] : WRank).length := rfl

example : RulesOk 1 touchRules ∧ (∀ r ∈ touchRules, SubsUniq r.2) ∧ InCube [1/4] ∧
    ¬ OnTouchingBoundary (touchRules.flatMap (·.1)) [1/4] ∧ NoConflict touchRules [1/4] := by
  refine ⟨touchRules_ok, ?_, ?_, touch_off_boundary, ?_⟩
  · intro r hr
    simp [touchRules] at hr
    rcases hr with rfl | rfl <;> simp [SubsUniq]
  · intro x hx
    have : x = 1/4 := by simpa using hx
    subst this
    constructor <;> decide +kernel
  · rintro g x y ⟨r, hr, ha, hx⟩ ⟨r', hr', ha', hy⟩
    simp [touchRules] at hr hr'
    have e2 : regionContains [[some ((1/2 : Rat), (1 : Rat))]] [1/4] = false := by decide +kernel
    rcases hr with rfl | rfl <;> rcases hr' with rfl | rfl
    · rw [hx] at hy; cases hy; rfl
    · rw [e2] at ha'; cases ha'
    · rw [e2] at ha; cases ha
    · rw [hx] at hy; cases hy; rfl

end Fontc.C16
