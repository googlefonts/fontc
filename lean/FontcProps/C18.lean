/-
  C18 — "Names referenced from other tables exist and say what the source says".

  Model: FontcModel/Names.lean — literal transcription of `NameBuilder::build`, `StaticMetadata::new`'s name-id
  allocation (the `HashMap` iteration order is the explicit parameter `order`), fvar's `reusable_name_id`, STAT's axis
  name lookup, FEA name-id shifting, **as of /repo 6370354**, i.e. with the three fixes this check produced:
    c4dd162  the default instance's reuse decision looks at the smallest matching id (was: first match in hash order, F2)
    ba69b97  allocation starts after the largest id the source already uses (was: always from 256)
    6370354  fvar reuses the smallest id only if it is 2 / 17, else the first id ≥ 256 (was: the smallest id whatever it is)
  Every theorem is for all naming configurations, no bounds. `IsIteration` and the unique keys of the builder are
  representation invariants of a `HashMap`, not restrictions on the source; restrictions on the source are `LabelsNonempty`,
  `GroupsNonempty` and the distinct keys of the feature file's records in `fea_merge_loses_nothing`, each explained where it occurs.
  The code before the fixes is kept as `allocOld` / `reusableNameIdOld` with three kernel-checked counterexamples
  (`f2_two_results`, `reserved_id_old_and_new`, `source_id_clash_old_and_new`), whose witnesses are the directed cases
  0, 1, 2 of stream `c18`.
-/
import FontcProofs.NamesMain
import FontcProofs.NamesFallback
import FontcProofs.NamesFea

namespace Fontc.C18
open Fontc.Names

/-- **Order independence of the name-id allocation, full strength.** For every input and every two iteration orders of
    the `names` map that are permutations of each other, `StaticMetadata::new` produces the same name table. -/
theorem alloc_perm_invariant (x : Input) (order₁ order₂ : List NameKey) (h : order₁.Perm order₂) :
    alloc order₁ x = alloc order₂ x :=
  alloc_perm x order₁ order₂ h

/-- The second hash iteration in the same function (`reusable_names.into_iter()` feeding `names.extend`) does not
    matter either: inserting the allocated entries in any other order gives the same map. -/
theorem extend_order_irrelevant (order : List NameKey) (x : Input) (r' : List (Str × NameKey))
    (h : r'.Perm (allocState order x).reusable) (k : NameKey) :
    alookup k (extend x.names r') = alookup k (alloc order x) :=
  alookup_extend_congr (reusable_inj order x) (fun _ => h.mem_iff) k

/-- The same for two iterations proper: any two permutations of the key list of `names` give the same table. -/
theorem name_allocation_order_independent (x : Input) (order₁ order₂ : List NameKey)
    (p₁ : order₁.Perm (akeys x.names)) (p₂ : order₂.Perm (akeys x.names)) : alloc order₁ x = alloc order₂ x :=
  alloc_perm_invariant x order₁ order₂ (p₁.trans p₂.symm)

/-- What has to hold of the table `T` the allocation produces: every lookup fvar / STAT make (axis label; instance
    subfamily name; instance PostScript name) succeeds — the Rust `unwrap()`s do not panic — and returns the id of a
    record whose string is exactly the source's label. -/
def RefsResolve (x : Input) (T : Table) : Prop :=
  (∀ l ∈ x.labels, ∃ id k, reusableNameId T l false = some id ∧ statAxisId T l = some id ∧ (k, l) ∈ T ∧ k.id = id) ∧
  (∀ ni ∈ effInsts x, ∃ id k, reusableNameId T ni.name ni.atDefault = some id ∧ (k, ni.name) ∈ T ∧ k.id = id) ∧
  (∀ ni ∈ effInsts x, ∀ p, ni.ps = some p → ∃ id k, reusableNameId T p false = some id ∧ (k, p) ∈ T ∧ k.id = id)

/-- `names` is a `HashMap` (unique keys) and `order` is an iteration of it (visits every key): representation
    invariants of the data structure, not restrictions on the source. -/
def IsIteration (order : List NameKey) (x : Input) : Prop :=
  (akeys x.names).Nodup ∧ ∀ k ∈ akeys x.names, k ∈ order

theorem referenced_ids_exist (order : List NameKey) (x : Input) (hit : IsIteration order x) :
    RefsResolve x (alloc order x) := by
  refine ⟨?_, ?_, ?_⟩
  · intro l hl
    obtain ⟨id, k, h1, h2, h3⟩ := resolve_of_request (mem_requests.mpr (.inl hl)) false
    exact ⟨id, k, h1, by rw [statAxisId_eq]; exact h1, h2, h3⟩
  · intro ni hni
    exact resolve_inst_name hit.1 hit.2 hni
  · intro ni hni p hp
    exact resolve_of_request (mem_requests.mpr (.inr ⟨ni, hni, .inr hp⟩)) false

def LabelsNonempty (x : Input) : Prop :=
  (∀ l ∈ x.labels, l ≠ []) ∧ (∀ ni ∈ x.insts, ni.name ≠ [] ∧ ∀ p, ni.ps = some p → p ≠ [])

/-- `RefsResolve` together with the non-emptiness of the labels it speaks of (the hypothesis, restricted to the effective
    instances): a referenced record carries exactly such a label, so it is non-empty. The conjuncts after the first do
    not mention the table. The hypothesis is the property's own domain: a record cannot both "say what the source
    says" and be non-empty when the source's label is the empty string (directed case 9 of stream `c18`: the real
    code then writes an empty record, no failure). -/
theorem referenced_ids_exist_nonempty (order : List NameKey) (x : Input) (hit : IsIteration order x)
    (hne : LabelsNonempty x) :
    RefsResolve x (alloc order x) ∧
    (∀ l ∈ x.labels, l ≠ []) ∧ (∀ ni ∈ effInsts x, ni.name ≠ [] ∧ ∀ p, ni.ps = some p → p ≠ []) := by
  refine ⟨referenced_ids_exist order x hit, hne.1, ?_⟩
  exact fun ni h => hne.2 ni ((effInsts_sublist x).subset h)

/-- Source records survive the allocation unchanged (nothing the source says is overwritten). -/
theorem source_records_survive (order : List NameKey) (x : Input)
    (k : NameKey) (v : Str) (h : alookup k x.names = some v) : alookup k (alloc order x) = some v := by
  rw [alloc_eq, alookup_append, h, Option.some_or]

/-- OpenType fvar: "values of 2 or 17 can be used [for the default instance]; otherwise values must be greater than
    255". Holds of every table `T` whatsoever: it is a property of fvar's lookup rule. -/
theorem reserved_ids_only_where_allowed (T : Table) (s : Str) (atDefault : Bool) (id : Nat)
    (h : reusableNameId T s atDefault = some id) : 256 ≤ id ∨ (atDefault = true ∧ isSub id = true) :=
  (reusableNameId_some h).2

/-- Axis names (fvar and STAT) and instance PostScript names never use an id below 256. -/
theorem axis_and_psname_ids_font_specific (T : Table) (s : Str) (id : Nat) :
    (reusableNameId T s false = some id → 256 ≤ id) ∧ (statAxisId T s = some id → 256 ≤ id) := by
  have h : ∀ {id}, reusableNameId T s false = some id → 256 ≤ id := fun h =>
    (reusableNameId_some h).2.resolve_right fun h' => Bool.false_ne_true h'.1
  exact ⟨h, fun hs => h (statAxisId_eq T s ▸ hs)⟩

/-- Everything the allocator adds has an id ≥ 256, and records with an id below 256 are exactly the source's. -/
theorem allocated_ids_font_specific (order : List NameKey) (x : Input) (k : NameKey) (s : Str)
    (h : (k, s) ∈ alloc order x) : (k, s) ∈ x.names ∨ 256 ≤ k.id := by
  rcases mem_alloc.mp h with h | ⟨i, _, rfl⟩
  · exact .inl h
  · exact .inr (lt_new_id x.names i)

/-- Two allocated records never carry the same string, and no string is allocated that a source record with a
    font-specific id already carries. -/
theorem same_string_same_id (order : List NameKey) (x : Input) (hit : IsIteration order x) (k₁ : NameKey) (s : Str)
    (h₁ : (k₁, s) ∈ alloc order x) (n₁ : k₁ ∉ akeys x.names) :
    (∀ k₂, (k₂, s) ∈ alloc order x → k₂ ∉ akeys x.names → k₁ = k₂) ∧
    (∀ k', (k', s) ∈ x.names → k'.id ≤ 255) :=
  ⟨fun _ h₂ n₂ => fresh_same_string h₁ h₂ n₁ n₂, fun _ hs => source_id_le_of_fresh hit.1 hit.2 h₁ n₁ hs⟩

/-- `NameBuilder::build`, statement by statement, computes the declarative fallback rules: for every name id the final
    record is what `fallbackSpec` says (`none` = no record) of `src := b.get`, what the source supplied. -/
theorem fallback_chain_spec (b : Builder) (vendor : Str) (hn : (akeys b.names).Nodup) (id : Nat) :
    alookup id (b.build vendor) = (fallbackSpec b.get b.major b.minor vendor).get b.get id :=
  build_lookup b vendor hn id

/-- the hypothesis of `fallback_chain_spec` holds for whatever sequence of `add` calls a front end makes -/
theorem front_end_ids_unique (adds : List (Nat × Str)) (major : Int) (minor : Nat) :
    (akeys (Builder.ofAdds adds major minor).names).Nodup := ofAdds_nodup adds major minor

/-- FEA-declared font-specific ids are moved above every existing id; reserved ids stay; the shift is injective. -/
theorem fea_ids_disjoint_after_shift (T : Table) (id : Nat) :
    (256 ≤ id → ∀ p ∈ T, p.1.id < feaShift T id) ∧ (id ≤ 255 → feaShift T id = id) ∧
    (∀ id', feaShift T id = feaShift T id' → id = id') := by
  exact ⟨fun hid p hp => Nat.lt_of_le_of_lt (le_maxId hp) (lt_feaShift hid), feaShift_of_le, fun _ => feaShift_inj⟩

/-! Names supplied through feature code: fea-rs `NameBuilder` (compile/tables/name.rs), fontbe `merge_name_records`. -/

/-- every anonymous name block (featureNames, cvParameters entries, sizemenuname, STAT names) has a non-empty name -/
def GroupsNonempty (groups : List (List FeaSpec)) : Prop := ∀ g ∈ groups, ∃ e ∈ g, e.str ≠ []

theorem nonEmptySpecs_ne {groups : List (List FeaSpec)} (h : GroupsNonempty groups) :
    ∀ g ∈ groups, nonEmptySpecs g ≠ [] := by
  intro g hg hnil
  obtain ⟨e, he, hs⟩ := h g hg
  have : e ∈ nonEmptySpecs g := mem_nonEmptySpecs.mpr ⟨he, hs⟩
  rw [hnil] at this; simp at this

/-- Anonymous ids never collide with explicit `nameid N` records — for EVERY order of the explicit records, ascending or
    not — nor with each other: there is one id per group, each is ≥ 256 and larger than every explicit id, and they are
    strictly increasing in build order. -/
theorem fea_anon_ids_fresh (expl : List (Nat × FeaSpec)) (groups : List (List FeaSpec)) (hne : GroupsNonempty groups) :
    (feaCompile expl groups).2.length = groups.length ∧
    (∀ id ∈ (feaCompile expl groups).2, 256 ≤ id ∧ ∀ e ∈ expl, e.1 < id) ∧
    (feaCompile expl groups).2.Pairwise (· < ·) := by
  obtain ⟨h255, hle, _⟩ := feaExplicit_last expl
  refine ⟨addGroups_length _ _, ?_⟩
  rw [feaCompile, addGroups_of_nonempty _ (nonEmptySpecs_ne hne)]
  refine ⟨fun id hid => ?_, List.pairwise_lt_range' _⟩
  obtain ⟨i, _, rfl⟩ := List.mem_range'.mp hid
  exact ⟨by omega, fun e he => by have := hle e he; omega⟩

/-- … and the ids do not depend on the order in which the explicit records are written. -/
theorem fea_anon_ids_order_independent (expl₁ expl₂ : List (Nat × FeaSpec)) (groups : List (List FeaSpec))
    (h : expl₁.Perm expl₂) : (feaCompile expl₁ groups).2 = (feaCompile expl₂ groups).2 :=
  addGroups_ids_congr groups (feaExplicit_last_perm h)

/-- Every id handed to STAT / featureNames / cvParameters / sizemenuname carries exactly the source's strings: under the
    id of a group there are the group's non-empty entries and nothing else. -/
theorem fea_referenced_ids_exact (expl : List (Nat × FeaSpec)) (groups : List (List FeaSpec)) (hne : GroupsNonempty groups)
    (g : List FeaSpec) (id : Nat) (hz : (g, id) ∈ groups.zip (feaCompile expl groups).2) (sp : FeaSpec) :
    (id, sp) ∈ (feaCompile expl groups).1.records ↔ (sp ∈ g ∧ sp.str ≠ []) := by
  have hold : ∀ r ∈ (feaExplicit expl).records, r.1 ≤ (feaExplicit expl).last := by
    intro r hr
    rw [feaExplicit_records] at hr
    exact (feaExplicit_last expl).2.1 r hr
  rw [show (feaCompile expl groups).1 = ((feaExplicit expl).addGroups groups).1 from rfl,
    addGroups_exact groups (feaExplicit expl) hold (nonEmptySpecs_ne hne) g id hz sp, mem_nonEmptySpecs]

/-- No explicit record is lost by the anonymous allocation. -/
theorem fea_explicit_records_kept (expl : List (Nat × FeaSpec)) (groups : List (List FeaSpec)) :
    ∀ e ∈ expl, e ∈ (feaCompile expl groups).1.records := by
  intro e he
  rw [show (feaCompile expl groups).1 = ((feaExplicit expl).addGroups groups).1 from rfl, addGroups_records,
    feaExplicit_records]
  exact List.mem_append_left _ he

/-- The merge with the compiler's own names loses nothing that is referenced: every FEA record is in the merged table;
    every record of the compiler's own with a font-specific id (all of fvar's and STAT's references except a reused
    id 2 / 17) survives; a reserved record survives unless the feature code says something for exactly that key.
    `hf`: the feature code has no two records for one (id, platform, encoding, language); of two such, fea-rs keeps both
    (a `Vec`) and the merge keeps the later, so the first conjunct would fail for the earlier. -/
theorem fea_merge_loses_nothing (own : Table) (b : FeaBuilder) (ho : (akeys own).Nodup)
    (hf : (akeys (feaRecordsShifted own b)).Nodup) :
    (∀ p ∈ feaRecordsShifted own b, alookup p.1 (mergeNames own (feaRecordsShifted own b)) = some p.2) ∧
    (∀ k v, alookup k own = some v → 256 ≤ k.id → alookup k (mergeNames own (feaRecordsShifted own b)) = some v) ∧
    (∀ k v, alookup k own = some v → alookup k (feaRecordsShifted own b) = none →
      alookup k (mergeNames own (feaRecordsShifted own b)) = some v) := by
  refine ⟨?_, ?_, ?_⟩
  · intro p hp
    rw [alookup_mergeNames ho hf, alookup_of_mem_nodup hf hp]; rfl
  · intro k v hk hid
    have hnone := alookup_feaRecordsShifted_none b hid (le_maxId (mem_of_alookup hk))
    rw [alookup_mergeNames ho hf, hnone, hk]; rfl
  · intro k v hk hnone
    rw [alookup_mergeNames ho hf, hnone, hk]; rfl

/-- non-vacuity: explicit records in descending order with two languages, three groups -/
example :
    let en (s : Str) : FeaSpec := ⟨3, 1, 0x409, s⟩
    let de (s : Str) : FeaSpec := ⟨3, 1, 0x407, s⟩
    let expl := [(258, en [65]), (256, en [66]), (256, de [67]), (9, en [68])]
    let groups := [[en [69], de [70]], [en [71]], [en [], en [72]]]
    GroupsNonempty groups ∧ (feaCompile expl groups).2 = [259, 260, 261] ∧
    (feaCompile expl.reverse groups).2 = [259, 260, 261] ∧
    ((feaCompile expl groups).1.records.filter fun r => r.1 == 261) = [(261, en [72])] := by
  refine ⟨?_, by decide, by decide, by decide⟩
  intro g hg
  simp only [List.mem_cons, List.mem_nil_iff, or_false] at hg
  rcases hg with rfl | rfl | rfl
  · exact ⟨_, List.mem_cons_self, by decide⟩
  · exact ⟨_, List.mem_cons_self, by decide⟩
  · exact ⟨_, List.mem_cons_of_mem _ List.mem_cons_self, by decide⟩

/-! The three statements that were false before the fixes (old model `allocOld` / `reusableNameIdOld`). -/

/-- F2 witness (directed case 0 of stream `c18`; exactly the `names` the real `NameBuilder` produces for
    familyName = styleName = "Regular"): one variable axis "Weight", default instance "Regular". -/
def f2Witness : Input :=
  { names :=
  [(⟨1, 3, 1, 0x409⟩, [82, 101, 103, 117, 108, 97, 114]),
   (⟨2, 3, 1, 0x409⟩, [82, 101, 103, 117, 108, 97, 114]),
   (⟨3, 3, 1, 0x409⟩, [48, 46, 48, 48, 48, 59, 78, 79, 78, 69, 59, 82, 101, 103, 117, 108, 97, 114, 45, 82, 101, 103, 117, 108, 97, 114]),
   (⟨4, 3, 1, 0x409⟩, [82, 101, 103, 117, 108, 97, 114, 32, 82, 101, 103, 117, 108, 97, 114]),
   (⟨5, 3, 1, 0x409⟩, [86, 101, 114, 115, 105, 111, 110, 32, 48, 46, 48, 48, 48]),
   (⟨6, 3, 1, 0x409⟩, [82, 101, 103, 117, 108, 97, 114, 45, 82, 101, 103, 117, 108, 97, 114])],
    labels := [[87, 101, 105, 103, 104, 116]],
    insts := [⟨[82, 101, 103, 117, 108, 97, 114], none, true⟩, ⟨[66, 111, 108, 100], none, false⟩] }

def f2Order₁ : List NameKey := [⟨1, 3, 1, 0x409⟩, ⟨2, 3, 1, 0x409⟩, ⟨3, 3, 1, 0x409⟩, ⟨4, 3, 1, 0x409⟩, ⟨5, 3, 1, 0x409⟩, ⟨6, 3, 1, 0x409⟩]
def f2Order₂ : List NameKey := [⟨2, 3, 1, 0x409⟩, ⟨1, 3, 1, 0x409⟩, ⟨3, 3, 1, 0x409⟩, ⟨4, 3, 1, 0x409⟩, ⟨5, 3, 1, 0x409⟩, ⟨6, 3, 1, 0x409⟩]

/-- before c4dd162: iterating id 1 first allocated 257 = "Regular" and 258 = "Bold"; iterating id 2 first allocated only
    257 = "Bold" — two different fonts from one source -/
theorem f2_two_results :
    (allocOld f2Order₁ f2Witness).map (fun p => (p.1.id, p.2)) ≠ (allocOld f2Order₂ f2Witness).map (fun p => (p.1.id, p.2)) ∧
    (allocOld f2Order₁ f2Witness).length = 9 ∧ (allocOld f2Order₂ f2Witness).length = 8 := by decide +kernel

/-- the old allocation was not order independent … -/
theorem allocOld_perm_invariant_counterexample :
    ¬ ∀ (x : Input) (order₁ order₂ : List NameKey), (akeys x.names).Nodup →
        order₁.Perm (akeys x.names) → order₂.Perm (akeys x.names) → allocOld order₁ x = allocOld order₂ x := by
  intro h
  have hl := congrArg List.length (h f2Witness f2Order₁ f2Order₂ (by decide) (List.Perm.refl _) (List.Perm.swap _ _ _))
  rw [f2_two_results.2.1, f2_two_results.2.2] at hl
  cases hl

/-- … and the current one gives one answer on the same witness: 256 "Weight", 257 "Regular", 258 "Bold" -/
theorem f2_one_result :
    alloc f2Order₁ f2Witness = alloc f2Order₂ f2Witness ∧
    (alloc f2Order₁ f2Witness).map (fun p => p.1.id) = [1, 2, 3, 4, 5, 6, 256, 257, 258] ∧
    fvar (alloc f2Order₂ f2Witness) f2Witness matches .table ⟨[256], [(257, none), (258, none)]⟩ := by decide +kernel

/-- Witness (directed case 1 of stream `c18`): family "Fam", style "Regular", default instance named "Fam". -/
def reservedWitness : Input :=
  { names := [(⟨1, 3, 1, 0x409⟩, [70, 97, 109]), (⟨2, 3, 1, 0x409⟩, [82, 101, 103, 117, 108, 97, 114])],
    labels := [[87, 101, 105, 103, 104, 116]], insts := [⟨[70, 97, 109], none, true⟩] }

/-- before 6370354 the default instance's subfamilyNameID was 1 (the family name); now it is the allocated 257 -/
theorem reserved_id_old_and_new :
    reusableNameIdOld (allocOld [⟨1, 3, 1, 0x409⟩, ⟨2, 3, 1, 0x409⟩] reservedWitness) [70, 97, 109] true = some 1 ∧
    reusableNameId (alloc [⟨1, 3, 1, 0x409⟩, ⟨2, 3, 1, 0x409⟩] reservedWitness) [70, 97, 109] true = some 257 := by decide

/-- Witness (directed case 2 of stream `c18`): the source supplies name id 256 = "Weight"; axes Weight and Width. -/
def clashWitness : Input :=
  { names := [(⟨256, 3, 1, 0x409⟩, [87, 101, 105, 103, 104, 116])],
    labels := [[87, 101, 105, 103, 104, 116], [87, 105, 100, 116, 104]], insts := [] }

/-- before ba69b97 "Width" was allocated id 256 again and replaced the source's record: the first axis' name no longer
    resolved (fvar panicked); now "Width" gets 257 and both resolve -/
theorem source_id_clash_old_and_new :
    reusableNameIdOld (allocOld [⟨256, 3, 1, 0x409⟩] clashWitness) [87, 101, 105, 103, 104, 116] false = none ∧
    reusableNameId (alloc [⟨256, 3, 1, 0x409⟩] clashWitness) [87, 101, 105, 103, 104, 116] false = some 256 ∧
    reusableNameId (alloc [⟨256, 3, 1, 0x409⟩] clashWitness) [87, 105, 100, 116, 104] false = some 257 := by decide

/-- non-vacuity of `IsIteration` and `LabelsNonempty`: a configuration with every kind of collision: default instance named like the style (reuses 2), another default
    instance named like the family (must not use 1), repeated strings, a source-supplied font-specific id -/
def okWitness : Input :=
  { names := [(⟨1, 3, 1, 0x409⟩, [70, 97, 109]), (⟨2, 3, 1, 0x409⟩, [82, 101, 103, 117, 108, 97, 114]), (⟨300, 3, 1, 0x409⟩, [66, 108, 97, 99, 107])],
    labels := [[87, 101, 105, 103, 104, 116], [87, 105, 100, 116, 104]],
    insts := [⟨[82, 101, 103, 117, 108, 97, 114], some [70, 97, 109, 45, 82, 101, 103, 117, 108, 97, 114], true⟩, ⟨[66, 111, 108, 100], none, false⟩,
              ⟨[66, 111, 108, 100], some [70, 97, 109, 45, 66, 111, 108, 100], false⟩, ⟨[87, 105, 100, 116, 104], none, false⟩, ⟨[66, 108, 97, 99, 107], none, false⟩,
              ⟨[70, 97, 109], none, true⟩] }

def okOrder : List NameKey := [⟨300, 3, 1, 0x409⟩, ⟨2, 3, 1, 0x409⟩, ⟨1, 3, 1, 0x409⟩]

example : IsIteration okOrder okWitness ∧ LabelsNonempty okWitness := by
  refine ⟨⟨by decide, by decide⟩, by decide, fun ni hni => ?_⟩
  have h := (by decide : ∀ ni ∈ okWitness.insts, ni.name ≠ [] ∧ ni.ps ≠ some []) ni hni
  exact ⟨h.1, fun p hp e => h.2 (e ▸ hp)⟩

/-- the model on that configuration: allocation starts after the source's 300; "Black" reuses 300; the first default
    instance reuses 2; both "Bold" share 303; the instance "Width" shares the axis' 302; the default instance "Fam"
    gets 306, not 1 -/
example : (alloc okOrder okWitness).map (fun p => p.1.id) = [1, 2, 300, 301, 302, 303, 304, 305, 306] ∧
    fvar (alloc okOrder okWitness) okWitness matches
      .table ⟨[301, 302], [(2, some 303), (304, some 0xFFFF), (304, some 305), (302, some 0xFFFF), (300, some 0xFFFF), (306, some 0xFFFF)]⟩ := by
  decide +kernel

/-- non-RIBBI style without legacy names (directed case 5): "Fam" + "Condensed Thin" → family "Fam Condensed Thin",
    subfamily "Regular", typographic names kept -/
example :
    let b := Builder.ofAdds [(16, [70, 97, 109]), (17, [67, 111, 110, 100, 101, 110, 115, 101, 100, 32, 84, 104, 105, 110])] 0 0
    let s := fallbackSpec b.get 0 0 [78, 79, 78, 69]
    s.id1 = [70, 97, 109, 32, 67, 111, 110, 100, 101, 110, 115, 101, 100, 32, 84, 104, 105, 110] ∧ s.id2 = [82, 101, 103, 117, 108, 97, 114] ∧ s.id16 = [70, 97, 109] ∧ s.dropTypo = false := by
  decide +kernel

#print axioms alloc_perm_invariant
#print axioms extend_order_irrelevant
#print axioms name_allocation_order_independent
#print axioms referenced_ids_exist
#print axioms referenced_ids_exist_nonempty
#print axioms source_records_survive
#print axioms reserved_ids_only_where_allowed
#print axioms axis_and_psname_ids_font_specific
#print axioms allocated_ids_font_specific
#print axioms same_string_same_id
#print axioms fallback_chain_spec
#print axioms front_end_ids_unique
#print axioms fea_ids_disjoint_after_shift
#print axioms fea_anon_ids_fresh
#print axioms fea_anon_ids_order_independent
#print axioms fea_referenced_ids_exact
#print axioms fea_explicit_records_kept
#print axioms fea_merge_loses_nothing
#print axioms f2_two_results
#print axioms allocOld_perm_invariant_counterexample
#print axioms f2_one_result
#print axioms reserved_id_old_and_new
#print axioms source_id_clash_old_and_new

end Fontc.C18
