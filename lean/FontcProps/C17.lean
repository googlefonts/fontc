/-
  C17 — Summary fields agree with the data they summarise.

  The property theorems (all glyph lists, no bounds) and the vocabulary of their statements that no lemma needs
  (`firstBearings`, `secondBearings`, `extents`, `NoClamp`); the rest of that vocabulary (`nonZero`, `diffs`, `simplePoints`,
  `simpleContours`, `componentCount`) and the helper lemmas live in FontcProofs/Limits*.lean, the model in
  FontcModel/Limits.lean.  Integers are unbounded in the model; wherever the Rust code narrows, clamps or
  range-checks (the places marked [NARROW] in the model, and the u16 checks of `MaxBuilder`) the in-range side
  condition is an explicit hypothesis here and the out-of-range behaviour is property C19's.
-/
import FontcModel.Limits
import FontcProofs.LimitsMetrics
import FontcProofs.LimitsMaxp
import FontcProofs.LimitsBbox
import FontcProofs.LimitsOs2
import FontcProofs.LimitsF32

namespace Fontc.C17
open Fontc Fontc.Limits

/-- Decoding the emitted long metrics ++ side-bearing run per the OpenType spec gives back exactly the
    per-glyph (advance, side bearing) that went in; the two arrays cover every glyph; and a non-empty
    glyph list has `numberOfHMetrics ≥ 1`. (Same builder for vmtx.) -/
theorem hmtx_expands_to_input (gs : List GlyphMetric) :
    let m := buildMetrics gs
    hmtxExpand m.longMetrics m.firstSideBearings = gs.map (fun g => ⟨g.advance, g.sideBearing⟩) ∧
    m.longMetrics.length + m.firstSideBearings.length = gs.length ∧
    (gs ≠ [] → 1 ≤ m.longMetrics.length) := by
  intro m
  by_cases hne : gs = []
  · subst hne; exact ⟨rfl, rfl, fun h => absurd rfl h⟩
  obtain ⟨A, b, B, hms, hB, h1, h2⟩ := buildMetrics_run hne
  have hlen := congrArg List.length hms
  simp only [m, h1, h2, hmtxExpand_append hB, ← hms]
  refine ⟨rfl, ?_, fun _ => by simp⟩
  simp at hlen ⊢
  omega

/-- side bearings of the glyphs that have a bounding box -/
def firstBearings (gs : List GlyphMetric) : List Int :=
  gs.filterMap fun g => g.boundsAdvance.map fun _ => g.sideBearing
/-- advance − (side bearing + box extent) of the glyphs that have a bounding box (rsb / bsb) -/
def secondBearings (gs : List GlyphMetric) : List Int :=
  gs.filterMap fun g => g.boundsAdvance.map fun ba => (g.advance : Int) - g.sideBearing - ba
/-- side bearing + box extent of the glyphs that have a bounding box (xMaxExtent / yMaxExtent) -/
def extents (gs : List GlyphMetric) : List Int :=
  gs.filterMap fun g => g.boundsAdvance.map fun ba => g.sideBearing + ba

/-- no second side bearing / extent leaves the i16 range (the clamp of metrics_and_limits.rs:125-140
    is the identity) -/
def NoClamp (gs : List GlyphMetric) : Prop :=
  (∀ v ∈ secondBearings gs, -32768 ≤ v ∧ v ≤ 32767) ∧ (∀ v ∈ extents gs, -32768 ≤ v ∧ v ≤ 32767)

/-- What the builder computes with its clamps, for all inputs: advance max over *all* glyphs; the other
    three over the glyphs with a bounding box only, 0 when there is none. -/
theorem hhea_extrema_clamped (gs : List GlyphMetric) :
    let m := buildMetrics gs
    IsMaxNat m.advanceMax (gs.map (·.advance)) ∧
    IsMinOr0 m.minFirst (firstBearings gs) ∧
    IsMinOr0 m.minSecond ((secondBearings gs).map clampI16) ∧
    IsMaxOr0 m.maxExtent ((extents gs).map clampI16) := by
  intro m
  simp only [m, buildMetrics, MetricsBuilder.build, MetricsBuilder.foldl_update]
  exact ⟨isMaxNat_fold _, isMinOr0_fold _, isMinOr0_fold _, isMaxOr0_fold _⟩

/-- hhea/vhea per the spec: `advanceWidthMax` = max over all glyphs; `minLeftSideBearing`,
    `minRightSideBearing` (= min of aw − (lsb + xMax − xMin)) and `xMaxExtent` (= max of lsb + (xMax − xMin))
    over the glyphs with a bounding box — provided nothing is clamped. -/
theorem hhea_extrema (gs : List GlyphMetric) (h : NoClamp gs) :
    let m := buildMetrics gs
    IsMaxNat m.advanceMax (gs.map (·.advance)) ∧
    IsMinOr0 m.minFirst (firstBearings gs) ∧
    IsMinOr0 m.minSecond (secondBearings gs) ∧
    IsMaxOr0 m.maxExtent (extents gs) := by
  intro m
  obtain ⟨h1, h2, h3, h4⟩ := hhea_extrema_clamped gs
  -- `clampI16` is `satI16` written out again in the model, so `satI16_eq_iff` speaks of it
  rw [map_eq_self (f := clampI16) fun v hv => satI16_eq_iff.2 (h.1 v hv)] at h3
  rw [map_eq_self (f := clampI16) fun v hv => satI16_eq_iff.2 (h.2 v hv)] at h4
  exact ⟨h1, h2, h3, h4⟩

/-- The arguments the two `exec`s pass to the builder: horizontally lsb = xMin, rsb = advance − xMax,
    extent = xMax; vertically tsb = vertical origin − yMax, bsb = advance − tsb − (yMax − yMin). -/
theorem metric_args_spec (advance : Nat) (vorg : Int) (b : Box) :
    (hMetricOf advance (some b)).sideBearing = b.xMin ∧
    secondBearings [hMetricOf advance (some b)] = [(advance : Int) - b.xMax] ∧
    extents [hMetricOf advance (some b)] = [b.xMax] ∧
    (hMetricOf advance none).sideBearing = 0 ∧ (hMetricOf advance none).boundsAdvance = none ∧
    (vMetricOf advance vorg (some b)).sideBearing = vorg - b.yMax ∧
    secondBearings [vMetricOf advance vorg (some b)] = [(advance : Int) - (vorg - b.yMax) - (b.yMax - b.yMin)] := by
  refine ⟨rfl, ?_, ?_, rfl, rfl, rfl, rfl⟩
  · show [(advance : Int) - b.xMin - (b.xMax - b.xMin)] = [(advance : Int) - b.xMax]
    congr 1; omega
  · show [b.xMin + (b.xMax - b.xMin)] = [b.xMax]
    congr 1; omega

/-- `update_composite_limits`, for every iteration order of the pending set, on every closed acyclic
    component graph: the loop terminates without panicking and returns, per field, the maximum over
    the composite glyphs of the recursively defined totals (points, contours) and nesting depth. -/
theorem composite_limits_spec (gs : List Glyph) (rank : Nat → Nat) (fuel : Nat) (pending : List Nat)
    (hA : Acyclic (gs.map (·.shape)) rank)
    (hfuel : ∀ gid, gid < gs.length → rank gid < fuel)
    (hpending : ∀ gid, gid ∈ pending ↔ (gid < gs.length ∧ isComposite (gs.map (·.shape)) gid = true)) :
    let g := gs.map (·.shape)
    let composites := (List.range gs.length).filter (isComposite g)
    ∃ l, updateCompositeLimits (maxBuilderOf gs) pending = some l ∧
      IsMaxNat l.maxPoints (composites.map (specPoints g fuel)) ∧
      IsMaxNat l.maxContours (composites.map (specContours g fuel)) ∧
      IsMaxNat l.maxDepth (composites.map (specDepth g fuel)) := by
  intro g composites
  have hlen : g.length = gs.length := List.length_map _
  obtain ⟨l, hl, hfin⟩ := compositeLoop_spec hA (specLimits_solves hA fuel fun gid h => hfuel gid (hlen ▸ h)) pending
    (fun gid => hlen ▸ hpending gid)
  refine ⟨l, by rw [updateCompositeLimits, maxBuilderOf_glyphInfo]; exact hl, ?_⟩
  simp only [composites, ← hlen]
  exact hfin.isMaxNat_spec

/-- The code as it is now (range-checked, /repo 944e88e): when no composite's resolved totals leave the
    u16 range, `update_composite_limits` returns `Ok` with exactly the maxima of the specification
    (no saturation, no recorded overflow), for every pending order. -/
theorem composite_limits_checked (gs : List Glyph) (rank : Nat → Nat) (fuel : Nat) (pending : List Nat)
    (hA : Acyclic (gs.map (·.shape)) rank)
    (hfuel : ∀ gid, gid < gs.length → rank gid < fuel)
    (hpending : ∀ gid, gid ∈ pending ↔ (gid < gs.length ∧ isComposite (gs.map (·.shape)) gid = true))
    (hfit : ∀ gid, gid < gs.length → isComposite (gs.map (·.shape)) gid = true →
      specPoints (gs.map (·.shape)) fuel gid ≤ 65535 ∧ specContours (gs.map (·.shape)) fuel gid ≤ 65535 ∧
      specDepth (gs.map (·.shape)) fuel gid ≤ 65535) :
    let g := gs.map (·.shape)
    let composites := (List.range gs.length).filter (isComposite g)
    ∃ l, updateCompositeLimitsC (maxBuilderOf gs) pending = .ok l ∧
      IsMaxNat l.maxPoints (composites.map (specPoints g fuel)) ∧
      IsMaxNat l.maxContours (composites.map (specContours g fuel)) ∧
      IsMaxNat l.maxDepth (composites.map (specDepth g fuel)) := by
  intro g composites
  obtain ⟨l, hl, h1, h2, h3⟩ := composite_limits_spec gs rank fuel pending hA hfuel hpending
  have hc := fun gid (h : gid ∈ composites) =>
    hfit gid (List.mem_range.1 (List.mem_filter.1 h).1) (List.mem_filter.1 h).2
  -- each maximum is 0 or one of the specified values, so the loop's result fits and nothing was saturated
  have hl' : l.fits :=
    ⟨h1.le_of_forall (List.forall_mem_map.2 fun gid h => (hc gid h).1),
     h2.le_of_forall (List.forall_mem_map.2 fun gid h => (hc gid h).2.1),
     h3.le_of_forall (List.forall_mem_map.2 fun gid h => (hc gid h).2.2)⟩
  exact ⟨l, by rw [updateCompositeLimitsC, (compositeLoopC_of_fits hl hl').2 false], h1, h2, h3⟩

/-- The maxp part of `MetricAndLimitWork::exec` as it is now: with at most 65535 glyphs, per-glyph counts
    within u16 and composite totals within u16 it returns `Ok` and the composite fields are the maxima
    of the recursive specification. (A count or total beyond u16 makes the code return `Err(OutOfBounds)`; that
    direction is checked by the correspondence stream, and is property C19's. More than 65535 glyphs make
    `glyph_order.len().try_into().unwrap()` panic: `buildMaxpC`, `C19.boundary_glyphCount`.) -/
theorem maxp_checked_spec (gs : List Glyph) (rank : Nat → Nat) (fuel : Nat)
    (hA : Acyclic (gs.map (·.shape)) rank)
    (hfuel : ∀ gid, gid < gs.length → rank gid < fuel)
    (hn : gs.length ≤ 65535)
    (hcounts : ∀ g ∈ gs, shapeCountsFit g.shape = true)
    (hfit : ∀ gid, gid < gs.length → isComposite (gs.map (·.shape)) gid = true →
      specPoints (gs.map (·.shape)) fuel gid ≤ 65535 ∧ specContours (gs.map (·.shape)) fuel gid ≤ 65535 ∧
      specDepth (gs.map (·.shape)) fuel gid ≤ 65535) :
    let g := gs.map (·.shape)
    let composites := (List.range gs.length).filter (isComposite g)
    ∃ m, buildMaxpC gs = .ok m ∧ m.numGlyphs = gs.length ∧
      m.maxPoints = (maxBuilderOf gs).maxPoints ∧ m.maxContours = (maxBuilderOf gs).maxContours ∧
      m.maxComponentElements = (maxBuilderOf gs).maxComponentElements ∧
      IsMaxNat m.maxCompositePoints (composites.map (specPoints g fuel)) ∧
      IsMaxNat m.maxCompositeContours (composites.map (specContours g fuel)) ∧
      IsMaxNat m.maxComponentDepth (composites.map (specDepth g fuel)) := by
  intro g composites
  obtain ⟨l, hl, h1, h2, h3⟩ := composite_limits_checked gs rank fuel
    (compositeGids (maxBuilderOf gs).glyphInfo) hA hfuel
    (fun gid => by rw [maxBuilderOf_glyphInfo, mem_compositeGids, List.length_map]) hfit
  have hall : gs.all (fun g => shapeCountsFit g.shape) = true := List.all_eq_true.2 hcounts
  unfold buildMaxpC
  simp only [hall, if_true, hl, hn]
  exact ⟨_, rfl, rfl, rfl, rfl, rfl, h1, h2, h3⟩

/-- hmtx/vmtx advances as the code computes them now: OpenType rounding of the source value, accepted
    exactly when it fits u16 (otherwise `Err(OutOfBounds)`, no clamping). -/
theorem advance_checked_spec (w : Rat) :
    (∀ a, advanceOfWidth w = some a → (a : Int) = otRound w ∧ a ≤ 65535) ∧
    (advanceOfWidth w = none ↔ (otRound w < 0 ∨ 65535 < otRound w)) := by
  unfold advanceOfWidth
  simp only
  by_cases hc : 0 ≤ otRound w ∧ otRound w ≤ 65535
  · rw [if_pos hc]
    exact ⟨fun a h => (by cases h; omega), ⟨fun h => (by cases h), fun h => by omega⟩⟩
  · rw [if_neg hc]
    exact ⟨fun a h => (by cases h), ⟨fun _ => by omega, fun _ => rfl⟩⟩

/-- maxPoints / maxContours / maxComponentElements are the maxima over the glyphs of the per-glyph point
    count, contour count and component count (unbounded in the model's builder; the `u16::try_from` checks of the code
    are `shapeCountsFit`, a hypothesis of `maxp_checked_spec`). -/
theorem maxp_simple_maxima (gs : List Glyph) :
    let b := maxBuilderOf gs
    IsMaxNat b.maxPoints (gs.map fun g => simplePoints g.shape) ∧
    IsMaxNat b.maxContours (gs.map fun g => simpleContours g.shape) ∧
    IsMaxNat b.maxComponentElements (gs.map fun g => componentCount g.shape) := by
  intro b
  simp only [b, maxBuilderOf, MaxBuilder.foldl_update]
  exact ⟨isMaxNat_fold _, isMaxNat_fold _, isMaxNat_fold _⟩

/-- head xMin/yMin/xMax/yMax are the min/min/max/max over the glyphs that have a bounding box
    (all zero when none has). -/
theorem head_bbox_is_union (gs : List Glyph) :
    let boxes := gs.filterMap (·.bbox)
    let h := headBbox gs
    IsMinOr0 h.xMin (boxes.map (·.xMin)) ∧ IsMinOr0 h.yMin (boxes.map (·.yMin)) ∧
    IsMaxOr0 h.xMax (boxes.map (·.xMax)) ∧ IsMaxOr0 h.yMax (boxes.map (·.yMax)) := by
  intro boxes h
  refine ⟨?_, ?_, ?_, ?_⟩
  · rw [headBbox_proj Box.xMin min (fun _ _ => rfl) rfl]; exact optFold_getD_spec selects_min_int _ 0
  · rw [headBbox_proj Box.yMin min (fun _ _ => rfl) rfl]; exact optFold_getD_spec selects_min_int _ 0
  · rw [headBbox_proj Box.xMax max (fun _ _ => rfl) rfl]; exact optFold_getD_spec selects_max_int _ 0
  · rw [headBbox_proj Box.yMax max (fun _ _ => rfl) rfl]; exact optFold_getD_spec selects_max_int _ 0

/-- Every composite's stored box is the rounding of the exact bounds of its resolved outline (all points
    of all simple glyphs reached through the component tree, under the accumulated transforms), hence it
    covers every resolved point to within the ½ unit of rounding; with no resolved point it is (0,0,0,0).
    Hypothesis: the bounds fit i16 (otherwise `f64 as i16` saturates: C19). -/
theorem composite_bbox_covers (g : List Shape) (fuel : Nat) (comps : List Component) (b : Box)
    (h : glyphBbox g fuel (.composite comps) = some (some b))
    (hfit : ∀ p ∈ resolvedPoints g fuel comps Affine.identity,
      -32768 ≤ otRound p.1 ∧ otRound p.1 ≤ 32767 ∧ -32768 ≤ otRound p.2 ∧ otRound p.2 ≤ 32767) :
    let pts := resolvedPoints g fuel comps Affine.identity
    (pts = [] → b = Box.zero) ∧
    (pts ≠ [] →
      (∃ p ∈ pts, b.xMin = otRound p.1 ∧ ∀ q ∈ pts, p.1 ≤ q.1) ∧
      (∃ p ∈ pts, b.yMin = otRound p.2 ∧ ∀ q ∈ pts, p.2 ≤ q.2) ∧
      (∃ p ∈ pts, b.xMax = otRound p.1 ∧ ∀ q ∈ pts, q.1 ≤ p.1) ∧
      (∃ p ∈ pts, b.yMax = otRound p.2 ∧ ∀ q ∈ pts, q.2 ≤ p.2) ∧
      ∀ q ∈ pts, (b.xMin : Rat) - 1/2 ≤ q.1 ∧ q.1 < (b.xMax : Rat) + 1/2 ∧
                 (b.yMin : Rat) - 1/2 ≤ q.2 ∧ q.2 < (b.yMax : Rat) + 1/2) := by
  intro pts
  rcases glyphBbox_composite h with ⟨hnil, rfl⟩ | ⟨r, hr, rfl⟩
  · exact ⟨fun _ => rfl, fun hne => absurd hnil hne⟩
  · obtain ⟨⟨pl, hpl, el, hl⟩, ⟨pb, hpb, eb, hb⟩, ⟨pr, hpr, er, hr'⟩, ⟨pt, hpt, et, ht⟩⟩ := ptsRect_bounds pts hr
    refine ⟨fun hnil => absurd (hnil ▸ hpl) List.not_mem_nil, fun _ => ?_⟩
    have f1 := hfit pl hpl
    have f2 := hfit pb hpb
    have f3 := hfit pr hpr
    have f4 := hfit pt hpt
    rw [rectToBox_of_le r (el ▸ er ▸ hl pr hpr) (eb ▸ et ▸ hb pt hpt), ← el, ← eb, ← er, ← et,
      satI16_eq_iff.2 ⟨f1.1, f1.2.1⟩, satI16_eq_iff.2 f2.2.2, satI16_eq_iff.2 ⟨f3.1, f3.2.1⟩, satI16_eq_iff.2 f4.2.2]
    have lo : ∀ x : Rat, (otRound x : Rat) - 1 / 2 ≤ x := fun x => (otRound_ge_iff x _).1 (Int.le_refl _)
    have hi : ∀ x : Rat, x < (otRound x : Rat) + 1 / 2 := fun x => (otRound_le_iff x _).1 (Int.le_refl _)
    exact ⟨⟨pl, hpl, rfl, hl⟩, ⟨pb, hpb, rfl, hb⟩, ⟨pr, hpr, rfl, hr'⟩, ⟨pt, hpt, rfl, ht⟩, fun q hq =>
      ⟨Rat.le_trans (lo _) (hl q hq), Std.lt_of_le_of_lt (hr' q hq) (hi _),
       Rat.le_trans (lo _) (hb q hq), Std.lt_of_le_of_lt (ht q hq) (hi _)⟩⟩

/-- The loca format matches the glyf data: offsets are the running sums of the glyph record sizes
    (first 0, last = glyf length, consecutive differences = sizes); the short format is chosen exactly
    when glyf is shorter than 0x20000 bytes and every record has even length; and in the chosen format
    the stored entries decode (per the spec) to the offsets — provided glyf is below 4 GiB. -/
theorem loca_format_matches (sizes : List Nat) (hfit : sizes.sum < 4294967296) :
    let offs := locaOffsets sizes
    let fmt := locaFormat offs
    offs.head? = some 0 ∧ offs.getLast? = some sizes.sum ∧ diffs offs = sizes ∧
    (fmt = .short ↔ (sizes.sum < 0x20000 ∧ ∀ s ∈ sizes, s % 2 = 0)) ∧
    locaDecode fmt (locaEncode fmt offs) = offs := by
  intro offs fmt
  obtain ⟨hhead, hlast, hdiff, hle, heven⟩ := locaOffsets_spec sizes
  have hfmt := locaFormat_short_iff sizes
  exact ⟨hhead, hlast, hdiff, hfmt, locaDecode_encode
    (fun hf o ho => ⟨heven.2 (hfmt.1 hf).2 o ho, Nat.lt_of_le_of_lt (hle o ho) (hfmt.1 hf).1⟩)
    (fun o ho => Nat.lt_of_le_of_lt (hle o ho) hfit)⟩

/-- `x_avg_char_width` reads the *compressed* hmtx (long metrics + a count of trailing glyphs sharing the
    last advance); its (count, total) are exactly the number and sum of the non-zero advances of *all*
    glyphs. -/
theorem avg_count_total_spec (gs : List GlyphMetric) :
    avgCountTotal (buildMetrics gs).longMetrics gs.length =
      ((nonZero (gs.map (·.advance))).length, (nonZero (gs.map (·.advance))).sum) := by
  obtain ⟨h1, h2, _⟩ := hmtx_expands_to_input gs
  have := avgCountTotal_expand (buildMetrics gs).longMetrics (buildMetrics gs).firstSideBearings
  rw [h2, h1] at this
  simpa [List.map_map, Function.comp_def] using this

/-- OS/2.xAvgCharWidth of the code as it is (integer arithmetic since /repo d188b11), for every glyph
    list: the OpenType rounding of the mean of the non-zero advances of all glyphs (0 if there is none),
    saturated to i16. -/
theorem avg_width_spec (gs : List GlyphMetric) :
    xAvgCharWidth (buildMetrics gs).longMetrics gs.length =
      satI16 (avgOfExact (nonZero (gs.map (·.advance))).length (nonZero (gs.map (·.advance))).sum) := by
  unfold xAvgCharWidth
  rw [avg_count_total_spec]
  simp only
  by_cases hc : (nonZero (gs.map (·.advance))).length = 0
  · simp [avgOfInt, avgOfExact, hc, satI16]
  · simp only [avgOfInt, avgOfExact, hc, if_false]
    rw [otRound_div_eq _ _ (by omega)]

/-! ### History: the binary32 division used until /repo d188b11 (finding F-C17-1, fixed) -/

/-- The full statement for the OLD code. It was FALSE: the old code divided in binary32. -/
def AvgWidthOldFullStatement : Prop :=
  ∀ gs : List GlyphMetric,
    avgWidthOld (buildMetrics gs).longMetrics gs.length =
      satI16 (avgOfExact (nonZero (gs.map (·.advance))).length (nonZero (gs.map (·.advance))).sum)

/-- …the old code was right whenever the advances summed to less than 2^22. -/
theorem avg_width_old_partial (gs : List GlyphMetric) (h : (nonZero (gs.map (·.advance))).sum < 2 ^ 22) :
    avgWidthOld (buildMetrics gs).longMetrics gs.length =
      satI16 (avgOfExact (nonZero (gs.map (·.advance))).length (nonZero (gs.map (·.advance))).sum) := by
  unfold avgWidthOld
  rw [avg_count_total_spec]
  simp only
  by_cases hc : (nonZero (gs.map (·.advance))).length = 0
  · simp [avgOfF32, avgOfExact, hc, satI16]
  · rw [avgOfF32_exact (by omega) (nonZero_length_le_sum _) h]
    simp [avgOfExact, hc]

/-- 257 glyphs of advance 16384 and 256 of advance 16385: mean 16384.499…, the old code answered 16385. -/
def avgWitness : List GlyphMetric :=
  List.replicate 257 ⟨16384, 0, none⟩ ++ List.replicate 256 ⟨16385, 0, none⟩

theorem avgWitness_count_total :
    (nonZero (avgWitness.map (·.advance))).length = 513 ∧ (nonZero (avgWitness.map (·.advance))).sum = 8405248 := by
  decide +kernel

theorem avg_width_old_counterexample : ¬ AvgWidthOldFullStatement := by
  intro h
  have := h avgWitness
  unfold avgWidthOld at this
  rw [avg_count_total_spec] at this
  simp only [avgWitness_count_total.1, avgWitness_count_total.2] at this
  have l : avgOfF32 513 8405248 = 16385 := by decide +kernel
  have r : satI16 (avgOfExact 513 8405248) = 16384 := by decide +kernel
  rw [l, r] at this
  exact absurd this (by decide)

/-- the current code on the old witness -/
example : xAvgCharWidth (buildMetrics avgWitness).longMetrics avgWitness.length = 16384 := by
  rw [avg_width_spec, avgWitness_count_total.1, avgWitness_count_total.2]; decide +kernel

/-- usFirstCharIndex / usLastCharIndex: least / greatest mapped codepoint, capped at 0xFFFF
    (for a non-empty codepoint set). -/
theorem first_last_char_spec (cps : List Nat) (hne : cps ≠ []) :
    ∃ lo hi, lo ∈ cps ∧ (∀ c ∈ cps, lo ≤ c) ∧ hi ∈ cps ∧ (∀ c ∈ cps, c ≤ hi) ∧
      minMaxCharIndex cps = (min lo 0xFFFF, min hi 0xFFFF) := by
  obtain ⟨lo, hlo, lo_le, lo_mem⟩ := foldl_optFold_none selects_min_nat hne
  obtain ⟨hi, hhi, le_hi, hi_mem⟩ := foldl_optFold_none selects_max_nat hne
  refine ⟨lo, hi, lo_mem, lo_le, hi_mem, le_hi, ?_⟩
  -- the start values 0xFFFF and 0 of the code's fold are absorbed by the final `min _ 0xFFFF`
  rw [minMaxCharIndex, foldl_minmax, foldl_eq_of_optFold hlo, foldl_eq_of_optFold hhi]
  simp only [Prod.mk.injEq]
  omega

/-- the precondition under which `binary_search_by` over `UNICODE_RANGES` is a function:
    the table is sorted, its ranges are non-empty and pairwise disjoint, and all bits are < 128 -/
theorem unicodeRanges_sorted_disjoint :
    List.Pairwise (fun (r1 r2 : Nat × Nat × Nat) => r1.2.1 < r2.1) unicodeRanges ∧
    ∀ r ∈ unicodeRanges, r.1 ≤ r.2.1 ∧ r.2.2 < 128 :=
  ⟨unicodeRanges_pairwise, unicodeRanges_wf⟩

/-- ulUnicodeRange bit `b` is set iff some mapped codepoint lies in a table range carrying bit `b`,
    or `b = 57` and some codepoint is beyond the BMP. -/
theorem unicode_range_spec (cps : List Nat) (b : Nat) :
    b ∈ unicodeRangeBits cps ↔
      ∃ cp ∈ cps, (∃ r ∈ unicodeRanges, r.2.2 = b ∧ r.1 ≤ cp ∧ cp ≤ r.2.1) ∨
                  (b = 57 ∧ 0x10000 ≤ cp ∧ cp ≤ 0x10FFFF) := by
  unfold unicodeRangeBits
  rw [mem_bitSet]
  simp only [List.mem_flatMap, mem_unicodeRangeBitsOf]
  refine ⟨fun h => h.2, fun h => ⟨?_, h⟩⟩
  obtain ⟨cp, _, ⟨r, hr, rfl, _⟩ | ⟨rfl, _⟩⟩ := h
  · exact (unicodeRanges_wf r hr).2
  · decide

/-! ## non-vacuity: every hypothesis used above is satisfiable, and the conclusions are not trivial -/

/-- three glyphs, the last two sharing an advance: one lsb-only entry -/
example : (buildMetrics [⟨500, 10, some 400⟩, ⟨600, -20, some 700⟩, ⟨600, 0, none⟩]).firstSideBearings = [0] := by
  decide
example : NoClamp [⟨500, 10, some 400⟩, ⟨600, -20, some 700⟩, ⟨600, 0, none⟩] := by
  unfold NoClamp secondBearings extents; decide
example : ¬ NoClamp [⟨40000, 0, some 100⟩] := by
  unfold NoClamp secondBearings extents; decide

/-- gid 0 simple (4 points), gid 1 = composite of 0 twice, gid 2 = composite of 1 and 0 -/
def demoGlyphs : List Glyph :=
  [⟨.simple [[(0,0),(10,0),(10,10),(0,10)]], some ⟨0,0,10,10⟩⟩,
   ⟨.composite [⟨0, Affine.identity⟩, ⟨0, ⟨1,0,0,1,20,0⟩⟩], some ⟨0,0,30,10⟩⟩,
   ⟨.composite [⟨1, Affine.identity⟩, ⟨0, ⟨1,0,0,1,0,20⟩⟩], some ⟨0,0,30,30⟩⟩]

example : Acyclic (demoGlyphs.map (·.shape)) id := Acyclic.of_check (by decide)

example : buildMaxp demoGlyphs = some ⟨3, 4, 1, 12, 3, 2, 2⟩ := by decide +kernel
example : buildMaxpC demoGlyphs = .ok ⟨3, 4, 1, 12, 3, 2, 2⟩ := by decide +kernel
example : advanceOfWidth (131071 / 2) = none ∧ advanceOfWidth (-1/2) = some 0 ∧ advanceOfWidth (-1) = none := by
  decide +kernel
example : glyphBbox (demoGlyphs.map (·.shape)) 4 (.composite [⟨1, Affine.identity⟩, ⟨0, ⟨1,0,0,1,0,20⟩⟩])
    = some (some ⟨0, 0, 30, 30⟩) := by
  -- `bboxOfComposite` is by well-founded recursion: unfold it by its equations, the kernel evaluates the rest
  simp only [glyphBbox, demoGlyphs, List.map_cons, List.map_nil, bboxOfComposite, List.getElem?_cons_succ,
    List.getElem?_cons_zero, List.flatten_cons, List.flatten_nil, List.append_nil, List.foldl_cons, List.foldl_nil]
  decide +kernel
example : locaFormat (locaOffsets [28, 40, 64, 54]) = .short := by decide
example : locaFormat (locaOffsets [28, 41, 64]) = .long := by decide
example : minMaxCharIndex [0x1F000, 0x41] = (0x41, 0xFFFF) := by decide
example : unicodeRangeBits [0x1F02F] = [57, 122] := by decide +kernel

end Fontc.C17

#print axioms Fontc.C17.hmtx_expands_to_input
#print axioms Fontc.C17.hhea_extrema_clamped
#print axioms Fontc.C17.hhea_extrema
#print axioms Fontc.C17.metric_args_spec
#print axioms Fontc.C17.composite_limits_spec
#print axioms Fontc.C17.maxp_simple_maxima
#print axioms Fontc.C17.head_bbox_is_union
#print axioms Fontc.C17.composite_bbox_covers
#print axioms Fontc.C17.loca_format_matches
#print axioms Fontc.C17.avg_count_total_spec
#print axioms Fontc.C17.avg_width_spec
#print axioms Fontc.C17.avg_width_old_partial
#print axioms Fontc.C17.avg_width_old_counterexample
#print axioms Fontc.C17.composite_limits_checked
#print axioms Fontc.C17.maxp_checked_spec
#print axioms Fontc.C17.advance_checked_spec
#print axioms Fontc.C17.first_last_char_spec
#print axioms Fontc.C17.unicodeRanges_sorted_disjoint
#print axioms Fontc.C17.unicode_range_spec
