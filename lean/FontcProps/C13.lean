/-
  C13 — The feature-file front end is total and lossless: the lexer and include resolution, proved.

  Model: FontcModel/FeaLex.lean (fea-rs/src/parse/lexer.rs).  `lexAll inp` runs `next_token` of the unchanged tree
  until it reports `Eof` and returns the `(kind, len)` list; `lexAllFixed` is the same with fixes/C13-nul.patch,
  which is what /repo has.  Inputs are Lean `String`s, i.e. exactly the valid UTF-8 byte sequences;
  `String.Pos.Raw.IsValid s ⟨p⟩` is core Lean's "byte offset `p` is a character boundary of `s`".

  The full statement is FALSE on the unchanged tree (NUL is the lexer's end-of-input sentinel), so — per the
  conventions — it is kept as `FullStatement`, proved under the explicit hypothesis "no NUL byte"
  (`lex_partition_partial`), refuted with a concrete witness (`lex_partition_counterexample`) and in general
  (`lex_truncates_at_nul`: every string containing U+0000 is a counterexample), and proved for the fixed lexer
  (`lex_partition_fixed`).  Helper lemmas: FontcProofs/FeaLex*.lean.

  Include resolution (fea-rs/src/parse/context.rs, model FontcModel/FeaInclude.lean, lemmas FontcProofs/FeaInclude.lean):
  `include_terminates`, `include_cycle_reported`.  The grammar, the sink and the validator are not modelled.
-/
import FontcProofs.FeaLexUtf8
import FontcProofs.FeaInclude

namespace Fontc.C13
open Fontc Fontc.FeaLex

/-- the tokens partition the string, on character boundaries -/
structure Partition (s : String) (toks : List (Kind × Nat)) : Prop where
  positive : ∀ t ∈ toks, 0 < t.2
  total : totalLen toks = s.utf8ByteSize
  boundary : ∀ p ∈ boundaries 0 toks, (String.Pos.Raw.mk p).IsValid s

/-- the property at full strength, for the lexer of the unchanged tree -/
def FullStatement : Prop := ∀ s : String, Partition s (lexAll s.toUTF8.data)

/-- `lex_terminates` (step form): `next_token` never leaves the input, and every token other than `Eof`
    consumes at least one byte — this is what makes `lexAll` a total function (it is its termination proof). -/
theorem lex_terminates (inp : Bytes) (st : LexState) (hle : st.pos ≤ inp.size) :
    st.pos ≤ (nextToken inp st).2.pos ∧ (nextToken inp st).2.pos ≤ inp.size ∧
    ((nextToken inp st).1 ≠ .eof → st.pos < (nextToken inp st).2.pos) :=
  nextTokenWith_progress true inp st hle

/-- For every valid UTF-8 input, with or without NUL bytes: the tokens that are produced have positive
    lengths and end on character boundaries inside the input (so `&text[pos..pos + len]` in
    `AstSink::token` can never panic). -/
theorem lex_boundaries_valid (s : String) :
    (∀ t ∈ lexAll s.toUTF8.data, 0 < t.2) ∧
    (∀ p ∈ boundaries 0 (lexAll s.toUTF8.data), 0 < p ∧ p ≤ s.utf8ByteSize ∧ (String.Pos.Raw.mk p).IsValid s) := by
  have h := lexAllWith_run true s.toUTF8.data {} (Nat.zero_le _)
  exact ⟨h.len_pos, fun p hp => ⟨(h.boundary p hp).2.1, (h.boundary p hp).2.2, endOK_isValid (h.boundary p hp).1⟩⟩

/-- where the lexer only reports `Eof` at the end of the input, its tokens partition the input -/
theorem partition_of_no_nul (s : String) (e : Bool)
    (h : e = false ∨ ∀ i, i < s.toUTF8.data.size → nth s.toUTF8.data i 0 ≠ EOF) :
    Partition s (lexAllWith e s.toUTF8.data {}) := by
  have hrun := lexAllWith_run e s.toUTF8.data {} (Nat.zero_le _)
  exact ⟨hrun.len_pos, (Nat.zero_add _).symm.trans (lexAllWith_total_eq {} (Nat.zero_le _) h),
    fun p hp => endOK_isValid (hrun.boundary p hp).1⟩

/-- `lex_partition` for every valid UTF-8 input without a NUL byte. -/
theorem lex_partition_partial (s : String) (hnul : ∀ b ∈ s.toUTF8.data.toList, b ≠ 0) :
    Partition s (lexAll s.toUTF8.data) := by
  apply partition_of_no_nul s true
  right
  intro i hi
  rw [nth_eq_getElem _ hi]
  exact hnul _ (by simp)

/-- `lex_partition` at full strength for the lexer with fixes/C13-nul.patch. -/
theorem lex_partition_fixed (s : String) : Partition s (lexAllFixed s.toUTF8.data) :=
  partition_of_no_nul s false (Or.inl rfl)

/-- The defect in general: if byte `k` of the input is NUL, the tokens of the unchanged lexer cover at most
    the first `k` bytes — everything after the first U+0000 is dropped. -/
theorem lex_truncates_at_nul (s : String) (k : Nat) (hk : k < s.utf8ByteSize)
    (hz : s.toUTF8.data[k]'hk = 0) : totalLen (lexAll s.toUTF8.data) ≤ k ∧ ¬ Partition s (lexAll s.toUTF8.data) := by
  have hle := lexAll_total_le_nul ((nth_eq_getElem s.toUTF8.data hk).trans hz)
  refine ⟨hle, ?_⟩
  intro hp
  have := hp.total
  omega

/-- the witness: with the lexer of the unchanged tree `"a\0b"` (bytes 61 00 62) lexes to a single 1-byte token -/
theorem lex_partition_counterexample : ¬ FullStatement := by
  intro h
  exact (lex_truncates_at_nul "a\x00b" 1 (by decide) (by decide)).2 (h _)

-- non-vacuity: the hypotheses of the theorems above are satisfiable, and the conclusions are not trivial
example : Partition "sub a by b;" (lexAll "sub a by b;".toUTF8.data) :=
  lex_partition_partial _ (by decide)
example : totalLen (lexAll "sub a by b;".toUTF8.data) = 11 :=
  (lex_partition_partial "sub a by b;" (by decide)).total
example : ∃ s : String, (∃ k, ∃ hk : k < s.utf8ByteSize, s.toUTF8.data[k]'hk = 0) :=
  ⟨"a\x00b", 1, by decide, by decide⟩
example : totalLen (lexAll "a\x00b".toUTF8.data) ≤ 1 :=
  (lex_truncates_at_nul "a\x00b" 1 (by decide) (by decide)).1

open Fontc.FeaInclude in
/-- `include_terminates`: the work-list loop of `ParseContext::parse` (visited set `parsed_files`) and the
    stack loop of `IncludeGraph::validate` (visited set `seen`, depth limit) admit no infinite run, on any
    include graph (cyclic or not). -/
theorem include_terminates (g : Graph) :
    WellFounded (fun s' s : LoadState => loadStep g s = some s') ∧
    WellFounded (fun s' s : VState => validateStep g s = some s') :=
  ⟨loadStep_wf g, validateStep_wf g⟩

open Fontc.FeaInclude in
/-- `include_cycle_reported`: whatever the include graph, once the statements reported by `validate` are
    skipped (as `generate_recurse` does), no file can be reached from itself: the recursive assembly of the
    tree follows an acyclic graph, so it terminates; and a graph in which the root can reach a cycle always
    gets at least one error. -/
theorem include_cycle_reported (g : Graph) (root : Nat) :
    (∀ v, Reach (keptEdge g (validate g root)) root v → ¬ ReachPlus (keptEdge g (validate g root)) v v) ∧
    ((∃ v, Reach (edge g) root v ∧ ReachPlus (edge g) v v) → validate g root ≠ []) :=
  ⟨validate_kept_acyclic g root, validate_reports_cycle⟩

-- non-vacuity: a graph in which the root reaches a cycle exists (a file that includes itself)
example : ∃ (g : FeaInclude.Graph) (root v : Nat),
    FeaInclude.Reach (FeaInclude.edge g) root v ∧ FeaInclude.ReachPlus (FeaInclude.edge g) v v :=
  ⟨[[0]], 0, 0, .refl 0, .single ⟨0, rfl⟩⟩

end Fontc.C13

#print axioms Fontc.C13.lex_terminates
#print axioms Fontc.C13.lex_boundaries_valid
#print axioms Fontc.C13.lex_partition_partial
#print axioms Fontc.C13.lex_partition_fixed
#print axioms Fontc.C13.lex_truncates_at_nul
#print axioms Fontc.C13.lex_partition_counterexample
#print axioms Fontc.C13.include_terminates
#print axioms Fontc.C13.include_cycle_reported
