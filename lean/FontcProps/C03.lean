/-
  C03 — Outlines at every master location reproduce that master's drawing.

  Model.  For one glyph, fontc (fontbe/src/glyphs.rs) builds a variation model on the glyph's *own* set of
  master locations (`locs`: all masters for a dense glyph, the sub-model of the masters that draw it for a
  sparse one), feeds every coordinate of every point (and of the four phantom points, and every component
  offset) as one value per master, already rounded to integers, and stores `deltas_with_rounding(RoundTiesEven)`.
  The end-to-end stream `c03e2e` checks on every generated font that the gvar deltas of the real font, for every simple
  glyph whose deltas are all explicit, ARE `Model.deltas` of this model (Driver/C03.lean `modelDeltasAgree`; a value
  within 2⁻²⁰ of a rounding tie may go either way, `deltasFollowing`), so the theorems below speak about the
  numbers that are in the font.  `interpolate` is the OpenType tuple interpolation (Σ scalar·delta); the
  independent spec evaluator used by the oracle is FontcModel/Ivs.lean.

  `vals[j]` = the coordinate's value at `M.locations[j]`.
-/
import FontcModel.VarModel
import FontcProofs.Rounding
import FontcProofs.VarModelAlg
import FontcProofs.VarModelSort
import FontcProofs.VarModelTri
import FontcProofs.Gvar
import FontcProps.C07
import FontcProofs.IvsBridge

namespace Fontc.C03
open Fontc Fontc.VarModel

/-- Explicit deltas: at every master location of the glyph, every coordinate is within 1/2 of the master's. -/
theorem gvar_master_reproduced (n : Nat) (locs : List Loc)
    (hlen : ∀ l ∈ locs, l.length = n) (hnd : locs.Pairwise (· ≠ ·))
    (M : Model) (hM : M = Model.new n locs)
    (vals : Values) (hvals : vals.length = M.locations.length)
    (m : Nat) (loc : Loc) (v : Rat)
    (hloc : M.locations[m]? = some loc) (hv : vals[m]? = some (some v)) :
    ratAbs (interpolate M.influence (M.deltas Rounding.tiesEven.apply vals) loc - v) ≤ 1/2 :=
  C07.deltas_reproduce_rounding n locs hlen hnd M hM .tiesEven vals hvals m loc v hloc hv

/-- With IUP optimisation: if the deltas actually applied (`D'`, inferred for omitted points) are within the
    optimiser's tolerance 1/2 of the full deltas, every coordinate at a master location is within
    1/2 + 1/2 · Σ (scalars of the active regions) of the master's — the bound stated by the property. -/
theorem gvar_master_reproduced_iup (n : Nat) (locs : List Loc)
    (hlen : ∀ l ∈ locs, l.length = n) (hnd : locs.Pairwise (· ≠ ·))
    (M : Model) (hM : M = Model.new n locs)
    (vals : Values) (hvals : vals.length = M.locations.length)
    (D' : List (Option Rat)) (hD' : Close (1/2) (M.deltas Rounding.tiesEven.apply vals) D')
    (m : Nat) (loc : Loc) (v : Rat)
    (hloc : M.locations[m]? = some loc) (hv : vals[m]? = some (some v)) :
    ratAbs (interpolate M.influence D' loc - v) ≤
      1/2 + 1/2 * scalarSum M.influence (M.deltas Rounding.tiesEven.apply vals) loc := by
  have h1 := gvar_master_reproduced n locs hlen hnd M hM vals hvals m loc v hloc hv
  have h2 := dot_perturb M.influence loc hD'
  rw [interpolate_eq_dot] at h1 ⊢
  rw [Rat.add_comm]
  exact ratAbs_sub_le h2 h1

/-- At the default location the interpolated value is exactly the (integer) default master's coordinate:
    outline points and component offsets of the default instance equal the rounded default master. -/
theorem gvar_default_exact (n : Nat) (locs : List Loc)
    (hlen : ∀ l ∈ locs, l.length = n) (hnd : locs.Pairwise (· ≠ ·))
    (hz : List.replicate n 0 ∈ locs)
    (M : Model) (hM : M = Model.new n locs)
    (vals : Values) (hvals : vals.length = M.locations.length)
    (k : Int) (hv : vals[0]? = some (some (k : Rat))) :
    M.locations[0]? = some (List.replicate n 0) ∧
    interpolate M.influence (M.deltas Rounding.tiesEven.apply vals) (List.replicate n 0) = (k : Rat) := by
  exact ⟨(C07.default_exact n locs hlen hnd hz M hM Rounding.tiesEven.apply vals hvals k hv).1,
    C07.default_exact_int n locs hlen hnd hz M hM Rounding.tiesEven vals hvals k hv⟩

/-- The independent spec evaluator used by the end-to-end oracle (FontcModel/Ivs.lean `regionScalar`, written from
    the OpenType specification) computes, on every region of the model, the same scalar as the model of fontc's
    `scalar_at` — so `interpolate` above is what an OpenType rasteriser computes from the stored tuples. -/
theorem spec_evaluator_agrees (n : Nat) (locs : List Loc)
    (hlen : ∀ l ∈ locs, l.length = n) (hnd : locs.Pairwise (· ≠ ·))
    (M : Model) (hM : M = Model.new n locs) (r : Region) (hr : r ∈ M.influence) (loc : Loc) :
    Ivs.regionScalar (r.map tentTriple) loc = scalarAt r loc := by
  subst hM
  exact spec_scalar_eq_model hr loc

/-- Non-vacuity: a sparse glyph drawn at the default, at the intermediate wght = 1/2 and at wght = 1 of a
    2-axis space; the intermediate master's coordinate 131 is reproduced within 1/2. -/
def exLocs : List Loc := [[0,0],[1/2,0],[1,0]]
theorem exLocs_model : (Model.new 2 exLocs).locations = exLocs := by
  rw [Model.new_locations 2 exLocs (by decide +kernel) (by decide +kernel)]
  exact sortLocs_of_pairwise exLocs (by decide +kernel)
example : ratAbs (interpolate (Model.new 2 exLocs).influence
      ((Model.new 2 exLocs).deltas Rounding.tiesEven.apply [some 100, some 131, some 160]) [1/2,0] - 131) ≤ 1/2 :=
  gvar_master_reproduced 2 exLocs (by decide +kernel) (by decide +kernel) _ rfl
    [some 100, some 131, some 160] (by rw [exLocs_model]; decide +kernel) 1 [1/2,0] 131
    (by rw [exLocs_model]; decide +kernel) (by decide +kernel)

end Fontc.C03
