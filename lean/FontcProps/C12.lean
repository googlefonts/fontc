/-
  C12 — Component handling options never change what a glyph looks like.

  Model: FontcModel/Components.lean — one location of the designspace; `G : Env` maps a glyph name to its instance
  there (contours + components (base, affine)); `resolve G fuel n` is what a TrueType rasteriser draws for `n`
  (components resolved recursively, points transformed).  `Fits G rk` is the explicit acyclicity hypothesis (a rank
  that strictly decreases along every component edge; no bound on depth or size), `rk n < fuel` says the fuel is
  not exhausted (by `resolve_fuel_irrelevant` the value does not depend on which such fuel is used).

  The relation that is TRUE of the code, and the weakest one needed: `SameDrawing xs ys` = the same multiset of
  contours, each up to its direction.  Direction is NOT preserved: fontc (like ufo2ft) reverses a contour that is
  decomposed through a transform of negative determinant, while a composite that keeps the flipped component is
  drawn with the points in stored order; `decompose_oriented` states exactly which contours end up reversed.
  `flatten_preserves` keeps the outline as a LIST (same contours, same order, same direction, same start points).

  Every theorem is exact over ℚ.  What happens when the result is stored (otRound'ed offsets, F2Dot14 2×2) is
  `rounding_per_level` / `rounding_general_2x2`; that flattening can compose two representable 2×2s into one that
  F2Dot14 cannot hold (and fontbe then saturates) is `flatten_keeps_representable_false` — a genuine defect of
  the unchanged code, replayed end to end by the `c12e2e` stream (class `flatten-overflow-saturated`).
-/
import FontcProofs.ComponentsOps
import FontcProofs.ComponentsRounding

namespace Fontc.C12
open Fontc Fontc.Components

theorem affine_comp_assoc (s t u : Affine) : (s.comp t).comp u = s.comp (t.comp u) := by
  cases s; cases t; cases u
  simp only [Affine.comp, Affine.mk.injEq]
  refine ⟨?_, ?_, ?_, ?_, ?_, ?_⟩ <;> grind

/-- Applying a composition is applying the inner map first (kurbo `A * B`). -/
theorem apply_comp (s t : Affine) (p : Pt) : (s.comp t).apply p = s.apply (t.apply p) := Affine.apply_comp s t p

theorem det_comp (s t : Affine) : (s.comp t).det = s.det * t.det := by
  cases s; cases t; simp only [Affine.comp, Affine.det]; grind

theorem resolve_fuel_irrelevant (G : Env) (rk : String → Nat) (hfit : Fits G rk) (f f' : Nat) (n : String)
    (h : rk n < f) (h' : rk n < f') : resolve G f n = resolve G f' n :=
  resolveWith_stable applyC hfit h h'

/-- flatten_glyph: replacing the components of `n` by the leaves below them with composed transforms leaves the
    outline of EVERY glyph `m` unchanged, as a list.  `hmix` is the code's stated assumption that no mixed
    contour+component glyph is reachable (glyph.rs:615); `F` is the fuel of the model's flatten loop. -/
theorem flatten_preserves (G : Env) (rk : String → Nat) (hfit : Fits G rk) (n : String) (i : Inst)
    (hG : G n = some i) (F : Nat) (hF : rk n ≤ F) (hmix : ∀ c ∈ i.comps, NoMixedFrom G c.base)
    (f : Nat) (m : String) (hm : rk m < f) :
    resolve (G.set n (flattenInst G F i)) f m = resolve G f m :=
  set_cong_resolve congEq hfit hG (flattenInst_rank hfit F hG)
    (flattenInst_draw hfit (hfit.comps_lt hG hF) hmix) hm

/-- convert_components_to_contours: the glyph becomes contour-only and every glyph `m` is drawn with the same
    contours up to order and direction. -/
theorem decompose_preserves (G : Env) (rk : String → Nat) (hfit : Fits G rk) (n : String) (i : Inst)
    (hG : G n = some i) (F : Nat) (hF : rk n ≤ F) (f : Nat) (m : String) (hm : rk m < f) :
    (decomposeInst G F i).comps = [] ∧
    SameDrawing (resolve (G.set n (decomposeInst G F i)) f m) (resolve G f m) :=
  ⟨rfl, set_cong_resolve congSame hfit hG (fun _ hc => absurd hc List.not_mem_nil)
    (decomposeInst_draw hfit hG hF) hm⟩

/-- Exactly which direction each decomposed contour has: the decomposed glyph's contours are, up to order, the
    orientation-corrected outline `resolveO` (a contour is reversed iff the determinant of its accumulated
    transform is negative). -/
theorem decompose_oriented (G : Env) (rk : String → Nat) (hfit : Fits G rk) (n : String) (i : Inst)
    (hG : G n = some i) (F : Nat) (hF : rk n ≤ F) (f : Nat) (hf : rk n < f) :
    List.Perm (decomposeInst G F i).contours (resolveO G f n) :=
  decomposeInst_oriented hfit hG hF hf

theorem oriented_same_up_to_direction (G : Env) (f : Nat) (n : String) : RevEq (resolveO G f n) (resolve G f n) :=
  resolveO_revEq G f n

/-- flatten_non_export_components_for_glyph: inlining the non-exported components of `n` (their contours,
    transformed and reversed when the determinant is negative, and their components, composed) leaves every glyph
    `m` drawn with the same contours up to order and direction. -/
theorem inline_nonexport_preserves (G : Env) (rk : String → Nat) (hfit : Fits G rk) (exported : String → Bool)
    (n : String) (i : Inst) (hG : G n = some i) (f : Nat) (m : String) (hm : rk m < f) :
    SameDrawing (resolve (G.set n (inlineInst G exported i)) f m) (resolve G f m) :=
  set_cong_resolve congSame hfit hG (inlineInst_rank hfit exported hG) (inlineInst_draw hfit exported i)
    hm

/-- split_glyph / move_contours_to_new_component: moving the contours of a mixed glyph `n` into a new glyph `nn`
    (fresh: neither a glyph nor referenced) used as an identity component keeps every existing glyph's contours
    (up to order and direction); the component graph stays acyclic with the new glyph at rank 0. -/
theorem split_preserves (G : Env) (rk : String → Nat) (hfit : Fits G rk) (n nn : String) (i : Inst)
    (hG : G n = some i) (hne : i.comps ≠ []) (hfresh : Fresh G nn) :
    let G' := (G.set nn (splitInst i nn).1).set n (splitInst i nn).2
    Fits G' (splitRank rk nn) ∧
    ∀ (f : Nat) (m : String), m ≠ nn → rk m < f → SameDrawing (resolve G' f m) (resolve G f m) := by
  intro G'
  have hnn := hfresh.ne hG
  -- first add the fresh simple glyph (nothing refers to it), then replace `n` by the composite half
  have hfit1 : Fits (G.set nn (splitInst i nn).1) (splitRank rk nn) :=
    (hfit.splitRank hfresh).set nn _ (fun _ hc => absurd hc List.not_mem_nil)
  have hcomps := splitInst_rank hfit hG hne hfresh
  refine ⟨hfit1.set n _ hcomps, fun f m hmnn hm => ?_⟩
  rw [resolve_eq_draw hfit hm, ← draw_set_fresh hfit (splitInst i nn).1 hfresh hmnn,
    resolve_eq_draw (hfit1.set n _ hcomps) (by rwa [splitRank_ne rk hmnn])]
  exact set_cong congSame hfit1 ((Env.set_ne G _ hnn).trans hG) hcomps (splitInst_draw G _ nn i) m

/-- None of the operations touches the advance: a glyph's advance is its own, never a component's. -/
theorem advance_preserved (G : Env) (exported : String → Bool) (F : Nat) (i : Inst) (nn : String) :
    (flattenInst G F i).advance = i.advance ∧ (decomposeInst G F i).advance = i.advance ∧
    (inlineInst G exported i).advance = i.advance ∧ (splitInst i nn).2.advance = i.advance :=
  ⟨rfl, rfl, rfl, rfl⟩

/-- One step of GlyphOrderWork::exec on (environment, rank): any of the four operations applied to any glyph,
    with the side conditions under which the code applies them. -/
inductive Step (exported : String → Bool) : Env × (String → Nat) → Env × (String → Nat) → Prop
  | flatten {G : Env} {rk : String → Nat} {n : String} {i : Inst} {F : Nat} :
      G n = some i → rk n ≤ F → (∀ c ∈ i.comps, NoMixedFrom G c.base) →
      Step exported (G, rk) (G.set n (flattenInst G F i), rk)
  | decompose {G : Env} {rk : String → Nat} {n : String} {i : Inst} {F : Nat} :
      G n = some i → rk n ≤ F → Step exported (G, rk) (G.set n (decomposeInst G F i), rk)
  | inline {G : Env} {rk : String → Nat} {n : String} {i : Inst} :
      G n = some i → Step exported (G, rk) (G.set n (inlineInst G exported i), rk)
  | split {G : Env} {rk : String → Nat} {n nn : String} {i : Inst} :
      G n = some i → i.comps ≠ [] → Fresh G nn →
      Step exported (G, rk) ((G.set nn (splitInst i nn).1).set n (splitInst i nn).2, splitRank rk nn)

inductive Steps (exported : String → Bool) : Env × (String → Nat) → Env × (String → Nat) → Prop
  | refl (s) : Steps exported s s
  | tail {s t u} : Steps exported s t → Step exported t u → Steps exported s u

theorem step_preserves (exported : String → Bool) (s t : Env × (String → Nat)) (h : Step exported s t) :
    Preserves s t := by
  cases h with
  | @flatten G rk n i F hG hF hmix =>
    exact .of_set hG rfl (fun hfit => flattenInst_rank hfit F hG)
      fun hfit => SameDrawing.of_eq (flattenInst_draw hfit (hfit.comps_lt hG hF) hmix)
  | @decompose G rk n i F hG hF =>
    exact .of_set hG rfl (fun _ c hc => absurd hc List.not_mem_nil)
      fun hfit => decomposeInst_draw hfit hG hF
  | @inline G rk n i hG =>
    exact .of_set hG rfl (fun hfit => inlineInst_rank hfit exported hG)
      fun hfit => inlineInst_draw hfit exported i
  | @split G rk n nn i hG hne hfresh =>
    -- first add the fresh simple glyph, then replace `n` by the composite half
    have hnn := hfresh.ne hG
    exact fun hfit => (Preserves.add_fresh (splitInst i nn).1 rfl hfresh).trans
      (.of_set ((Env.set_ne G _ hnn).trans hG) rfl (fun _ => splitInst_rank hfit hG hne hfresh)
        fun _ => splitInst_draw G _ nn i) hfit

theorem steps_preserve (exported : String → Bool) (s t : Env × (String → Nat)) (h : Steps exported s t) :
    Preserves s t := by
  induction h with
  | refl => exact Preserves.refl _
  | tail _ hstep ih => exact ih.trans (step_preserves exported _ _ hstep)

/-- HEADLINE.  Whatever sequence of flatten / decompose / inline-non-export / split steps the option flags make
    GlyphOrderWork::exec perform, in whatever order and on whichever glyphs: the component graph stays acyclic,
    and every glyph of the source keeps its advance and is drawn with the same contours (up to order and
    direction) — for all acyclic component graphs, no bound on depth or size. -/
theorem any_sequence_preserves (exported : String → Bool) (G G' : Env) (rk rk' : String → Nat)
    (h : Steps exported (G, rk) (G', rk')) (hfit : Fits G rk) :
    Fits G' rk' ∧ ∀ m, G m ≠ none →
      advanceOf G' m = advanceOf G m ∧
      ∀ f f', rk m < f → rk' m < f' → SameDrawing (resolve G' f' m) (resolve G f m) := by
  obtain ⟨hfit', k⟩ := steps_preserve exported _ _ h hfit
  refine ⟨hfit', fun m hm => ⟨(k m hm).2.1, fun f f' hf hf' => ?_⟩⟩
  rw [resolve_eq_draw hfit' hf', resolve_eq_draw hfit hf]
  exact (k m hm).2.2

/-- Storing every component offset otRound'ed (fontbe create_component_ref_gid) moves every resolved point by at
    most 1/2 unit per nesting level (max norm) — hence at most 1 per level together with the ≤ 1/2 of a rounded
    gvar delta — for translate-only components, every acyclic graph, every glyph. -/
theorem rounding_per_level (G : Env) (rk : String → Nat) (hfit : Fits G rk) (htr : TranslateOnly G)
    (f : Nat) (n : String) (hn : rk n < f) :
    CloseCs ((rk n : Rat) * (1/2)) (resolve (roundOffsets G) f n) (resolve G f n) := by
  have hη : (0 : Rat) ≤ 1/2 := by decide +kernel
  refine offsets_close (1/2) roundOffset G (roundOffsets G) rk hfit (fun _ => rfl)
    (fun n i hG c hc => ⟨rfl, rfl, rfl, rfl, otRound_nearest c.t.e, otRound_nearest c.t.f⟩)
    (fun n => (rk n : Rat) * (1/2)) (fun n => Rat.mul_nonneg (by exact_mod_cast Nat.zero_le _) hη)
    (fun n i hG c hc => ?_) f n hn
  -- one more level: 1/2 + 1 · (rk c.base)/2 ≤ (rk n)/2
  have h1 : ((rk c.base : Nat) : Rat) + 1 ≤ (rk n : Rat) := by exact_mod_cast hfit n i hG c hc
  have := Rat.mul_le_mul_of_nonneg_right h1 hη
  rw [norm2x2_translation (htr n i hG c hc), Rat.one_mul, Rat.add_comm]
  rwa [Rat.add_mul, Rat.one_mul] at this

/-- The general 2×2 case, with its explicit bound: along a chain of component transforms (outermost first) whose
    stored offsets are within ε of the true ones (ε = 1/2 for otRound) and whose 2×2 parts are stored exactly, a
    point moves by at most ε · Σ_k Π_{j<k} ‖A_j‖∞ (row-sum norm): a rounding error made at depth k is amplified
    by the scales of the k−1 enclosing components. -/
theorem rounding_general_2x2 (ε : Rat) (hε : 0 ≤ ε) (ts ts' : List Affine) (h : ChainClose ε ts ts') (p : Pt) :
    ratAbs ((applyChain ts' p).x - (applyChain ts p).x) ≤ ε * chainBound ts ∧
    ratAbs ((applyChain ts' p).y - (applyChain ts p).y) ≤ ε * chainBound ts :=
  have h := chain_close p ts ts' h
  ⟨h.1, h.2.1⟩

/-- What apply_optional_transformations relies on (the overflow check `has_overflowing_component_transforms`
    runs BEFORE flattening, glyph.rs:918 vs :949): if no component transform of the source overflows F2Dot14,
    none does after flattening. -/
def FlattenKeepsRepresentable : Prop :=
  ∀ (G : Env) (rk : String → Nat) (F : Nat) (n : String) (i : Inst), Fits G rk → G n = some i → rk n ≤ F →
    (∀ m j, G m = some j → ∀ c ∈ j.comps, c.t.overflows = false) →
    ∀ c ∈ (flattenInst G F i).comps, c.t.overflows = false

def scale (s : Rat) (dx dy : Rat) : Affine := ⟨s, 0, 0, s, dx, dy⟩
def exSquare : Contour := [⟨0, 0, true⟩, ⟨100, 0, true⟩, ⟨100, 100, true⟩, ⟨0, 100, true⟩]
/-- a = a square; b = a scaled 3/2; c = b scaled 3/2. -/
def exA : Inst := ⟨500, [exSquare], []⟩
def exB : Inst := ⟨500, [], [⟨"a", scale (3/2) 0 0⟩]⟩
def exC : Inst := ⟨500, [], [⟨"b", scale (3/2) 10 20⟩]⟩
def exEnv : Env := fun n => if n = "a" then some exA else if n = "b" then some exB else if n = "c" then some exC else none
def exRank : String → Nat := fun n => if n = "a" then 0 else if n = "b" then 1 else 2

theorem exEnv_forall {P : String → Inst → Prop} (h : P "a" exA ∧ P "b" exB ∧ P "c" exC) :
    ∀ m j, exEnv m = some j → P m j := by
  intro m j hm
  unfold exEnv at hm
  split at hm
  · cases hm; subst m; exact h.1
  · split at hm
    · cases hm; subst m; exact h.2.1
    · split at hm
      · cases hm; subst m; exact h.2.2
      · cases hm

theorem exEnv_c : exEnv "c" = some exC := by simp [exEnv]

theorem exEnv_fits : Fits exEnv exRank :=
  exEnv_forall (P := fun n i => ∀ c ∈ i.comps, exRank c.base + 1 ≤ exRank n) (by decide)

theorem exEnv_noOverflow : ∀ m j, exEnv m = some j → ∀ c ∈ j.comps, c.t.overflows = false :=
  exEnv_forall (by decide +kernel)

theorem exEnv_noMixed : ∀ m j, exEnv m = some j → j.comps ≠ [] → j.contours = [] :=
  exEnv_forall (by decide)

/-- Witness: 3/2 ∘ 3/2 = 9/4 > 2. Flattening `c` yields the single component `a` scaled 9/4, which F2Dot14 cannot
    hold; fontbe stores 32767/16384 and the glyph is drawn 1/9 too small (replayed by `c12e2e`). -/
theorem flatten_keeps_representable_false : ¬ FlattenKeepsRepresentable := by
  intro h
  have := h exEnv exRank 2 "c" exC exEnv_fits exEnv_c (by decide) exEnv_noOverflow
    ⟨"a", (scale (3/2) 10 20).comp (scale (3/2) 0 0)⟩ (by decide +kernel)
  revert this
  decide +kernel

/-- …and what storing does to it: the stored scale is 32767/16384, not 9/4. -/
theorem flatten_overflow_stored : (storeAffine ((scale (3/2) 10 20).comp (scale (3/2) 0 0))).a = 32767 / 16384 := by
  decide +kernel

/-- The partial statement that does hold: flattening is exact over ℚ (`flatten_preserves`), and storing a
    component whose 2×2 entries lie on the F2Dot14 grid (k/16384, -32768 ≤ k ≤ 32767) and whose offsets are
    integers is exact; so the stored flattened glyph draws the same whenever the COMPOSED transforms are
    representable. -/
theorem store_exact_partial (t : Affine) (ka kb kc kd : Int) (e f : Int)
    (ha : t.a = (ka : Rat) / 16384) (hb : t.b = (kb : Rat) / 16384) (hc : t.c = (kc : Rat) / 16384)
    (hd : t.d = (kd : Rat) / 16384) (he : t.e = (e : Rat)) (hf : t.f = (f : Rat))
    (ra : -32768 ≤ ka ∧ ka ≤ 32767) (rb : -32768 ≤ kb ∧ kb ≤ 32767)
    (rc : -32768 ≤ kc ∧ kc ≤ 32767) (rd : -32768 ≤ kd ∧ kd ≤ 32767) :
    storeAffine t = t := by
  cases t
  simp only at ha hb hc hd he hf
  subst ha hb hc hd he hf
  simp only [storeAffine, f2dot14_grid _ ra, f2dot14_grid _ rb, f2dot14_grid _ rc, f2dot14_grid _ rd,
    otRound_intCast]

/-- The hypotheses of the operation theorems are satisfiable: on the three-glyph chain above, flattening `c`
    keeps its outline (here: as a list). -/
example : resolve (exEnv.set "c" (flattenInst exEnv 2 exC)) 3 "c" = resolve exEnv 3 "c" :=
  flatten_preserves exEnv exRank exEnv_fits "c" exC exEnv_c 2 (by decide)
    (fun _ _ m r _ hm hne => exEnv_noMixed m r hm hne) 3 "c" (by decide)

/-- … decomposing `c` keeps the drawing … -/
example : SameDrawing (resolve (exEnv.set "c" (decomposeInst exEnv 2 exC)) 3 "c") (resolve exEnv 3 "c") :=
  (decompose_preserves exEnv exRank exEnv_fits "c" exC exEnv_c 2 (by decide) 3 "c" (by decide)).2

/-- … and so does any sequence of steps (here: inline the non-exported `b` into `c`, then decompose `c`). -/
example : ∃ G' rk', Steps (fun n => n != "b") (exEnv, exRank) (G', rk') ∧ (G' "c").map (·.comps.length) = some 0 :=
  ⟨_, _, .tail (.tail (.refl _) (.inline (n := "c") exEnv_c))
      (.decompose (n := "c") (i := inlineInst exEnv (fun n => n != "b") exC) (F := 2) (Env.set_self ..) (by decide)),
    by simp [Env.set, decomposeInst]⟩

example : (resolve exEnv 3 "c").length = 1 := by decide +kernel

end Fontc.C12
