/-
  C11 — Compiled GSUB/GPOS behave as the feature file says.

  Model: `FontcModel/FeaCompile.lean`.
    `interp p script lang feats alt s`   the feature-file semantics of program `p` (lookups in
                                         declaration order, first matching rule per position, …)
    `compile p`                          the tables fea-rs builds (`Cmp.*` mirrors compile_ctx.rs,
                                         lookups.rs, contextual.rs, features.rs and the write-fonts
                                         builders)
    `shape t script lang feats alt s`    OpenType application of the tables `t`
  Full statement: `FullStatement` below.  It is FALSE of fea-rs before three repairs (`compileOld`,
  `not_FullStatement`; stream `c11x` on the real compiler): the anonymous lookups of contextual rules were
  shared between rules in ways that change what a rule does.  `compile` is the repaired compiler.  What is proved:
    * `compile_correct`: for every program of a decidable fragment (`Fragment.ok`: language systems,
      named lookup blocks, lookup references, `script` / `language` statements with `exclude_dflt`,
      lookup flags, all substitution types incl. contextual rules with in-line single / multiple
      replacements, single positioning), every request `Fragment.langOkB` admits, every feature set and
      EVERY glyph string, `shape (compile p) = interp p`;
    * per lookup type, the subtables fea-rs builds act at every position of every string like the
      first matching source rule (`compile_correct_lookup_*`), lookup flags included
      (`lookup_flags_correct`);
    * the glue from lookups to whole strings (`shape_eq_interp_of_correspondence`).
-/
import FontcModel.FeaCompile
import FontcProofs.FeaMap
import FontcProofs.FeaSubst
import FontcProofs.FeaFlags
import FontcProofs.FeaGlue
import FontcProofs.FeaCorrectFlat
import FontcProofs.FeaChainCorrect
import FontcProofs.FeaFragment

namespace Fontc.C11
open Fontc.FeaCompile

/-- The property at full strength: for every program of the modelled language (`Wf.okUpToAnon`: no
    violation of the modelled subset other than, possibly, the three sharing patterns of inline
    contextual rules that fea-rs compiles wrongly), every declared language system, every feature set
    and *every* glyph string. -/
def FullStatementOf (comp : Program → OT.Tables) : Prop :=
  ∀ (p : Program) (script lang : Tag) (feats : List Tag) (alt : Nat) (s : List Glyph),
    Wf.okUpToAnon p = true →
    (script, lang) ∈ Src.langsysOf p.tops →
    shape (comp p) script lang feats alt s = interp p script lang feats alt s

/-- the full statement for fea-rs as it is (not proved at this strength: `compile_correct` proves it for
    the fragment `Fragment.ok`; refuted for the code before the three repairs, `not_FullStatement`) -/
def FullStatement : Prop := FullStatementOf compile

/-- **Lookup flags.**  `cf` is the compiled form of the source flag `f` (`FlagCode`: bits, mark
    attachment class id and mark filtering set id resolved through the id tables `aIds`, `fIds` that
    also give the GDEF tables).  Then the same glyphs are skipped.  Needs distinct GDEF entries and
    pairwise disjoint mark attachment classes. -/
theorem lookup_flags_correct (gdefSrc : List (Glyph × Nat)) (aIds fIds : List (List Glyph)) (cf : Cmp.CFlag) (f : Flag)
    (hg : (gdefSrc.map (·.1)).Nodup) (ha : (aIds.flatMap id).Nodup) (hc : FlagCode aIds fIds cf f) (g : Glyph) :
    OT.ignored (gdefOf gdefSrc aIds fIds) cf.1 cf.2 g = Src.ignored gdefSrc f g :=
  ignored_correct hg ha hc g

example : FlagCode [[13, 14]] [[14]] (8 + 256 + 16, some 0) { im := true, attach := some [14, 13], filter := some [14] } :=
  ⟨1, 1, by decide, ⟨0, rfl, by decide⟩, rfl, 0, rfl, by decide⟩

/-- **Single substitution lookups** (`sub a by b; sub [a b] by [c d]; sub [a b] by c;`): the
    `SingleSubst` subtable built from the rules `rs`, applied at any position of any string,
    substitutes like the first matching rule — provided no glyph is targeted twice. -/
theorem compile_correct_lookup_single (fx : Cmp.Fixes) (root : Nat) (named : String → Cmp.LookupId) (rs : List Rule)
    (hk : ∀ r ∈ rs, r.kind = .single) (hnd : (rs.flatMap Wf.targets).Nodup)
    (ign : Glyph → Bool) (alt : Nat) (rev : List Glyph) (g : Glyph) (suf : List Glyph) :
    (Cmp.buildSubtables (rs.foldl (Cmp.Builder.add fx root named) (.single []))).findSome?
        (fun st => OT.simpleSubtableStep ign alt st rev g suf)
      = Src.substStep rs rev g suf :=
  single_lookup_correct hk (functional_of_targets singlePairsOf_keys hnd) ign alt rev g suf

example : (∀ r ∈ [Rule.single (.g 1) (.g 2), .single (.c [3, 4]) (.c [5, 6])], r.kind = .single)
    ∧ (([Rule.single (.g 1) (.g 2), .single (.c [3, 4]) (.c [5, 6])]).flatMap Wf.targets).Nodup := by decide

/-- **Multiple substitution lookups**, single substitution rules in them promoted
    (`lookup L { sub a by b; sub c by d e; } L;`, `sub a by NULL;`). -/
theorem compile_correct_lookup_multiple (fx : Cmp.Fixes) (root : Nat) (named : String → Cmp.LookupId) (rs : List Rule)
    (hk : ∀ r ∈ rs, r.kind = .single ∨ r.kind = .multiple) (hnd : (rs.flatMap Wf.targets).Nodup)
    (ign : Glyph → Bool) (alt : Nat) (rev : List Glyph) (g : Glyph) (suf : List Glyph) :
    (Cmp.buildSubtables (rs.foldl (Cmp.Builder.add fx root named) (.multiple []))).findSome?
        (fun st => OT.simpleSubtableStep ign alt st rev g suf)
      = Src.substStep rs rev g suf :=
  multiple_lookup_correct (functional_of_targets substPairs_keys hnd) ign alt rev g suf

example : (∀ r ∈ [Rule.single (.g 1) (.g 2), .multiple 3 [5, 6], .multiple 4 []], r.kind = .single ∨ r.kind = .multiple)
    ∧ (([Rule.single (.g 1) (.g 2), .multiple 3 [5, 6], .multiple 4 []]).flatMap Wf.targets).Nodup := by decide

/-- **Alternate substitution lookups**: for every selector `alt` the same alternate. -/
theorem compile_correct_lookup_alternate (fx : Cmp.Fixes) (root : Nat) (named : String → Cmp.LookupId) (rs : List Rule)
    (hk : ∀ r ∈ rs, r.kind = .alternate) (hnd : (rs.flatMap Wf.targets).Nodup)
    (ign : Glyph → Bool) (alt : Nat) (rev : List Glyph) (g : Glyph) (suf : List Glyph) :
    (Cmp.buildSubtables (rs.foldl (Cmp.Builder.add fx root named) (.alternate []))).findSome?
        (fun st => OT.simpleSubtableStep ign alt st rev g suf)
      = Src.altStep alt rs rev g suf :=
  alternate_lookup_correct (functional_of_targets altPairs_keys hnd) ign alt rev g suf

example : (∀ r ∈ [Rule.alternate 1 [2, 3], .alternate 4 [5]], r.kind = .alternate)
    ∧ (([Rule.alternate 1 [2, 3], .alternate 4 [5]]).flatMap Wf.targets).Nodup := by decide

/-- **Ligature substitution lookups** (`sub a [b c] by d;`, class components enumerated): tried at
    any position under any ignore set, the `LigatureSubst` subtable (ligature sets sorted longest
    first) does what the longest matching rule says — provided no component sequence is given
    twice and every rule has components. -/
theorem compile_correct_lookup_ligature (fx : Cmp.Fixes) (root : Nat) (named : String → Cmp.LookupId) (rs : List Rule)
    (hk : ∀ r ∈ rs, r.kind = .ligature) (hnd : (rs.flatMap Wf.ligSeqs).Nodup)
    (hne : ∀ r ∈ rs, ∀ ts x, r = Rule.ligature ts x → ts ≠ [])
    (ign : Glyph → Bool) (alt : Nat) (rev : List Glyph) (g : Glyph) (suf : List Glyph) :
    (Cmp.buildSubtables (rs.foldl (Cmp.Builder.add fx root named) (.ligature []))).findSome?
        (fun st => OT.simpleSubtableStep ign alt st rev g suf)
      = Src.ligStep ign rs rev g suf :=
  lig_lookup_correct hk hnd ign alt rev g suf

example : (∀ r ∈ [Rule.ligature [.g 1, .c [3, 4]] 11, .ligature [.g 1, .g 3, .g 5] 12], r.kind = .ligature)
    ∧ (([Rule.ligature [.g 1, .c [3, 4]] 11, .ligature [.g 1, .g 3, .g 5] 12]).flatMap Wf.ligSeqs).Nodup := by decide

/-- **Contextual substitution lookups** (`sub x a' y by b;`, `sub x a' by b c;`, rules without
    replacement, `ignore sub …`; no inline ligatures and no explicit lookup references): the
    compiled lookup — one format 3 subtable per rule after `try_merge`, the inline replacements pooled
    in the anonymous lookups `anonOf fx [] rs` that sit right after it (`hplaced`) — does at every
    position what the first matching source rule says: the inline replacement at the marked glyph,
    nothing for `ignore`.  `SingleOk`: the pairs of one inline substitution are consistent, and a
    class → glyph inline substitution agrees with every earlier inline substitution of the lookup on
    shared glyphs (without the repair `fx.anonSingle` fea-rs checks only its first glyph — defect F-C11-1). -/
theorem compile_correct_lookup_chain (fx : Cmp.Fixes) (root : Nat) (named : String → Cmp.LookupId)
    (gdefSrc : List (Glyph × Nat)) (gdef : OT.Gdef) (cf : Cmp.CFlag) (f : Flag) (alt : Nat) (env : String → Option Src.Lookup)
    (lookups : List OT.Lookup) (d : Nat) (rs : List Rule) (hne : rs ≠ []) (hk : ∀ r ∈ rs, r.kind = .chain)
    (hshape : ∀ r ∈ rs, inlineShapeOk r) (hok : SingleOk rs [])
    (hign : ∀ y, OT.ignored gdef cf.1 cf.2 y = Src.ignored gdefSrc f y)
    (hplaced : ∀ j a, (anonOf fx [] rs)[j]? = some a → lookups[root + j + 1]? = some (Cmp.buildAnonLookup cf a))
    (name : Option String) (rev : List Glyph) (g : Glyph) (suf : List Glyph) :
    OT.lookupStep gdef alt lookups (d + 1)
        (Cmp.buildLookup cf (rs.foldl (Cmp.Builder.add fx root named) (Cmp.Builder.new .chain))) rev g suf
      = Src.lookupStep gdefSrc alt env ⟨name, f, rs⟩ rev g suf :=
  chain_lookup_correct hne hk hshape hok hign hplaced name rev g suf

/-- **Single positioning lookups.** -/
theorem compile_correct_lookup_spos (fx : Cmp.Fixes) (root : Nat) (named : String → Cmp.LookupId) (rs : List Rule)
    (hk : ∀ r ∈ rs, r.kind = .spos) (hnd : (rs.flatMap Wf.targets).Nodup)
    (ign : Glyph → Bool) (rev : List PGlyph) (x : PGlyph) (suf : List PGlyph) :
    (Cmp.buildSubtables (rs.foldl (Cmp.Builder.add fx root named) (.spos []))).findSome?
        (fun st => OT.posSubtableStep ign st rev x suf)
      = Src.sposStep rs rev x suf :=
  spos_lookup_correct (functional_of_targets sposPairs_keys hnd) ign rev x suf

example : (∀ r ∈ [Rule.spos (.c [1, 2]) ⟨0, 0, 10, 0⟩, .spos (.g 3) ⟨1, 2, 3, 4⟩], r.kind = .spos)
    ∧ (([Rule.spos (.c [1, 2]) ⟨0, 0, 10, 0⟩, .spos (.g 3) ⟨1, 2, 3, 4⟩]).flatMap Wf.targets).Nodup := by decide

/-- The left-to-right pass of the OpenType side is the pass of the source side. -/
theorem pass_agrees (ign : Glyph → Bool) (st : Step) (rev suf : List Glyph) :
    OT.pass ign st rev suf = Src.pass ign st rev suf := OT.pass_eq_src ign st rev suf

/-- **From lookups to strings** (induction over the lookups; every lookup is a pass over all
    positions of the string, whatever its length): if the substitution / positioning lookups of the
    source that are active for the request correspond, in order, to the active lookup indices of the
    tables, and corresponding lookups do the same to every string, then `shape` and `interp` agree on
    every string. -/
theorem shape_eq_interp_of_correspondence (p : Program) (t : OT.Tables) (script lang : Tag) (feats : List Tag) (alt : Nat)
    (gs ps : List (Src.Entry × Nat))
    (hgs : gs.map (·.1) = ((Src.entries p).filter (·.active script lang feats)).filter (!·.lookup.isPos))
    (hps : ps.map (·.1) = ((Src.entries p).filter (·.active script lang feats)).filter (·.lookup.isPos))
    (hga : OT.activeLookups t.gsub script lang feats = gs.map (·.2))
    (hpa : OT.activeLookups t.gpos script lang feats = ps.map (·.2))
    (hg : ∀ x ∈ gs, ∃ l, t.gsub.lookups[x.2]? = some l ∧
      ∀ s, OT.applyGsub t alt l s = Src.applyGsub p.gdef alt (Src.envOf (Src.entries p)) x.1.lookup s)
    (hp : ∀ x ∈ ps, ∃ l, t.gpos.lookups[x.2]? = some l ∧
      ∀ s, OT.applyGpos t l s = Src.applyGpos p.gdef x.1.lookup s)
    (s : List Glyph) :
    shape t script lang feats alt s = interp p script lang feats alt s :=
  shape_eq_interp_of gs ps hgs hps hga hpa hg hp s

/-- **`compile_correct`, fragment `flat`** — the whole pipeline, every string.

    Programs: `languagesystem` statements (`lsTops ls`) followed by feature blocks (`featTops fs`)
    whose statements are `lookupflag` and rule statements (`FlatBody`); every lookup of the program —
    a run of rules of one type under one flag, `Src.entries p` — is a single, multiple or alternate
    substitution or a single positioning lookup in which no glyph is targeted twice, or a ligature
    substitution lookup in which no component sequence is given twice, or a contextual lookup whose
    rules carry inline single / multiple replacements or none (`ignore`), class → glyph inline
    replacements agreeing with earlier ones on shared glyphs (`runOkB`, decidable); no
    single rule stands next to a multiple / ligature rule within a run (`NoMixFrom`, fea-rs would merge them);
    `lookupflag` classes are sorted sets, mark attachment classes come from a family `U` of
    pairwise disjoint classes (`FlagsOk`, `hU1`, `hU2`); GDEF entries are distinct.
    Covers: grouping of rules into lookups (new lookup on type or flag change), lookup flags with
    their GDEF tables, lookup ids in both tables, registration of every lookup under every
    declared language system, the feature / script / LangSys records and the OpenType selection
    back from them, and the application of every lookup at every position of `str`.
    `fx = Cmp.Fixes.all` is fea-rs as it is (`compile p = compileWith Cmp.Fixes.all p`), `{}` the code
    before the repairs. -/
theorem compile_correct_flat (fx : Cmp.Fixes) (p : Program) (ls : List (Tag × Tag)) (fs : List (Tag × List Stmt))
    (U : List (List Glyph))
    (htops : p.tops = lsTops ls ++ featTops fs)
    (hbodies : ∀ x ∈ fs, FlatBody x.2 ∧ FlagsOk U x.2 ∧ NoMixFrom {} x.2)
    (hents : ∀ e ∈ Src.entries p, runOkB e.lookup.rules = true)
    (hgdef : (p.gdef.map (·.1)).Nodup)
    (hU1 : ∀ c ∈ U, c.Nodup) (hU2 : ∀ c ∈ U, ∀ c' ∈ U, c ≠ c' → ∀ g ∈ c, g ∉ c')
    (script lang : Tag) (hreg : (script, lang) ∈ Src.langsysOf p.tops)
    (feats : List Tag) (alt : Nat) (str : List Glyph) :
    shape (compileWith fx p) script lang feats alt str = interp p script lang feats alt str := by
  have hentries : Src.entriesOf (Src.langsysOf p.tops) [] (featTops fs) = Src.entries p := by
    simp only [Src.entries]
    rw [htops, entriesOf_lsTops]
  have hunif : ∀ e ∈ Src.entries p, Uniform (Src.langsysOf p.tops) e := by
    rw [← hentries]
    exact uniform_entriesOf (fun x hx => (hbodies x hx).1) [] (by simp)
  exact compile_correct_gen htops (topsOk_featTops hbodies)
    (fun e he => runOk_of_runOkB (hents e he)) hgdef hU1 hU2
    (langOkFor_of_uniform hunif hreg)

/-! non-vacuity: a program with two language systems, GDEF classes, a `liga` feature with four
    lookups (single under IgnoreMarks + MarkAttachmentType, ligature under IgnoreLigatures, multiple,
    alternate), a `calt` feature with a contextual lookup (inline single and multiple replacements,
    `ignore`) and a `kern` feature -/

def exLs : List (Tag × Tag) := [("DFLT", "dflt"), ("latn", "dflt")]
def exFs : List (Tag × List Stmt) :=
  [("liga", [.flag { im := true, attach := some [13] }, .rule (.single (.g 1) (.g 2)), .rule (.single (.c [3, 4]) (.g 5)),
             .flag { il := true }, .rule (.ligature [.g 1, .c [3, 4]] 11), .rule (.ligature [.g 1, .g 3, .g 5] 12),
             .flag {}, .rule (.multiple 6 [7, 8]), .rule (.alternate 2 [9, 10])]),
   ("calt", [.rule (.chain [] [(.g 4, [])] [.g 3] (.single (.g 5))), .rule (.chain [.g 3] [(.c [1, 6], [])] [] (.single (.g 7))),
             .rule (.ignore [([], [.g 2], [.g 2])]), .rule (.chain [] [(.g 8, [])] [] (.multi [9, 10]))]),
   ("kern", [.rule (.spos (.c [1, 2]) ⟨0, 0, 10, 0⟩)])]
def exProg : Program := { gdef := [(1, 1), (2, 1), (13, 3), (14, 3)], tops := lsTops exLs ++ featTops exFs }

theorem exProg_bodies : ∀ x ∈ exFs, FlatBody x.2 ∧ FlagsOk [[13]] x.2 ∧ NoMixFrom {} x.2 := by
  have h : ∀ x ∈ exFs, Fragment.flatOkB [[13]] {} x.2 = true := by decide
  exact fun x hx => Fragment.flat_of_B (h x hx)

theorem exProg_entries : ∀ e ∈ Src.entries exProg, runOkB e.lookup.rules = true := by decide +kernel

example (feats : List Tag) (alt : Nat) (str : List Glyph) :
    shape (compile exProg) "latn" "dflt" feats alt str = interp exProg "latn" "dflt" feats alt str :=
  compile_correct_flat Cmp.Fixes.all exProg exLs exFs [[13]] rfl exProg_bodies exProg_entries (by decide) (by decide) (by decide)
    "latn" "dflt" (by decide) feats alt str

/-- **`compile_correct`** — the whole pipeline, every string, for every program of the fragment.

    `Fragment.ok p` (a computation on the program, `FontcProofs/FeaFragment.lean`) asks:
    * top level: `languagesystem` statements first, then named lookup blocks and feature blocks;
    * a lookup block is `lookupflag` statements followed by rules of one type; names are defined once
      and before they are referenced;
    * inside a feature block: `lookupflag`, rules, lookup blocks, `lookup NAME;` references,
      `script S;` (each script once), `language L [exclude_dflt];` (after a `script` statement, each
      language of a script once, not `dflt`), every language system entered being a declared one;
      no single-substitution rule next to a multiple / ligature rule under one flag outside a lookup
      block (fea-rs merges those);
    * `lookupflag` classes are sorted sets, mark attachment classes pairwise disjoint, GDEF entries
      distinct;
    * every lookup (`Src.entries p`) is of a type whose lookup-level theorem is proved (`runOkB`):
      single / multiple / alternate substitution and single positioning without a glyph targeted twice,
      ligature substitution without a sequence given twice, contextual substitution whose rules carry
      an in-line single or multiple replacement, or none, or are `ignore` rules, class → glyph in-line
      replacements agreeing with earlier ones of the lookup (otherwise: defect F-C11-1).
    `Fragment.langOkB`: the request names the default language of a script, or a language for which
    each table either has a record or has none for the script's default either (an OpenType client
    falls back to the default language system when the record is missing; `assumptions` in
    `checks/C11.json`).
    Outside the fragment (not proved, checked by the streams only): pair positioning, in-line ligature
    replacements and explicit `lookup` references in contextual rules, `mixed-run` merging.
    `fx = Cmp.Fixes.all` is fea-rs as it is (`compile p = compileWith Cmp.Fixes.all p`); the theorem
    holds for every combination of the repairs, so also of the code before them. -/
theorem compile_correct (fx : Cmp.Fixes) (p : Program) (hok : Fragment.ok p = true)
    (script lang : Tag) (hlang : Fragment.langOkB (Src.entries p) script lang = true)
    (feats : List Tag) (alt : Nat) (str : List Glyph) :
    shape (compileWith fx p) script lang feats alt str = interp p script lang feats alt str := by
  simp only [Fragment.ok, Bool.and_eq_true, List.all_eq_true, decide_eq_true_eq] at hok
  obtain ⟨⟨⟨⟨h1, h2⟩, h3⟩, h4⟩, h5⟩ := hok
  exact compile_correct_gen (Fragment.tops_split p.tops) (Fragment.topsOk_of_B h1) (fun e he => runOk_of_runOkB (h2 e he)) h3 h4
    (Fragment.disjoint_of_B h5) (Fragment.langOk_of_B hlang)

/-! non-vacuity: three language systems, a top-level lookup block under `lookupflag IgnoreMarks`,
    a `liga` feature that has a rule and a reference before `script latn;`, a lookup block, then
    `language TRK exclude_dflt;` with a second reference and a multiple substitution, and a `kern`
    feature with positioning before and after `script latn; language TRK;` -/

def exLs2 : List (Tag × Tag) := [("DFLT", "dflt"), ("latn", "dflt"), ("latn", "TRK")]
def exProg2 : Program :=
  { gdef := [(1, 1), (13, 3)],
    tops := lsTops exLs2 ++ [
      .lookup "L1" [.flag { im := true }, .rule (.single (.g 1) (.g 2)), .rule (.single (.g 3) (.g 4))],
      .feature "liga" [.rule (.single (.c [3, 4]) (.g 5)), .ref "L1", .script "latn",
        .lookup "L2" [.rule (.ligature [.g 1, .g 3] 11)], .language "TRK" true, .ref "L1",
        .rule (.multiple 6 [7, 8])],
      .feature "kern" [.rule (.spos (.g 1) ⟨0, 0, 10, 0⟩), .script "latn", .language "TRK" false,
        .rule (.spos (.g 2) ⟨0, 0, 5, 0⟩)]] }

theorem exProg2_ok : Fragment.ok exProg2 = true := by decide +kernel
theorem exProg2_lang : Fragment.langOkB (Src.entries exProg2) "latn" "TRK" = true := by decide +kernel

example (feats : List Tag) (alt : Nat) (str : List Glyph) :
    shape (compile exProg2) "latn" "TRK" feats alt str = interp exProg2 "latn" "TRK" feats alt str :=
  compile_correct Cmp.Fixes.all exProg2 exProg2_ok "latn" "TRK" exProg2_lang feats alt str

/-- what the source semantics registers in `exProg2`: `L1` for DFLT/dflt, latn/dflt and (second
    reference) latn/TRK; the root rule not for latn/TRK (`exclude_dflt`); … -/
theorem exProg2_regs : (Src.entries exProg2).map (fun e => (e.lookup.name, e.regs)) =
    [(some "L1", [("liga", "DFLT", "dflt"), ("liga", "latn", "dflt"), ("liga", "latn", "TRK")]),
     (none, [("liga", "DFLT", "dflt"), ("liga", "latn", "dflt")]),
     (some "L2", [("liga", "latn", "dflt")]),
     (none, [("liga", "latn", "TRK")]),
     (none, [("kern", "DFLT", "dflt"), ("kern", "latn", "dflt"), ("kern", "latn", "TRK")]),
     (none, [("kern", "latn", "TRK")])] := by decide +kernel

/-- `feature test { sub d' c by e;  sub c [a d]' by f; } test;`
    (glyph ids: a = 1, c = 3, d = 4, e = 5, f = 6) -/
def cexProg : Program :=
  { gdef := [],
    tops := [.feature "test" [
      .rule (.chain [] [(.g 4, [])] [.g 3] (.single (.g 5))),
      .rule (.chain [.g 3] [(.c [1, 4], [])] [] (.single (.g 6)))]] }

theorem cex_interp : interp cexProg "DFLT" "dflt" ["test"] 0 [4, 3] = [(5, Value.zero), (3, Value.zero)] := by
  simp only [interp, Src.applyGsub_eq_passN]
  decide

theorem cex_shape : shape (compileOld cexProg) "DFLT" "dflt" ["test"] 0 [4, 3] = [(6, Value.zero), (3, Value.zero)] := by
  simp only [shape, OT.applyGsub_eq_passN]
  decide +kernel

/-- the full statement failed on fea-rs before the repairs -/
theorem not_FullStatement_witness :
    shape (compileOld cexProg) "DFLT" "dflt" ["test"] 0 [4, 3] ≠ interp cexProg "DFLT" "dflt" ["test"] 0 [4, 3] := by
  rw [cex_shape, cex_interp]; decide

theorem cex_okUpToAnon : Wf.okUpToAnon cexProg = true := by decide +kernel

/-- **The full statement failed before the repair**: on the string `d c` the source says `e c`, the compiled tables give
    `f c` — the class → glyph inline substitution of the second rule overwrote `d → e` in the shared
    anonymous lookup.  (The same input is replayed on the real compiler: stream `c11x`, class
    `anon-single-clobber`, on the code before fix 97654e0; with the repair the model agrees with the source:
    `cex_repaired`.) -/
theorem not_FullStatement : ¬ FullStatementOf compileOld := by
  intro h
  exact not_FullStatement_witness (h cexProg "DFLT" "dflt" ["test"] 0 [4, 3] cex_okUpToAnon (by decide))

/-- the repaired compiler (fea-rs as it is) does what the source says on the same input:
    `d → e` and `[a d] → f` live in two anonymous lookups -/
theorem cex_repaired :
    shape (compile cexProg) "DFLT" "dflt" ["test"] 0 [4, 3] = interp cexProg "DFLT" "dflt" ["test"] 0 [4, 3] := by
  rw [cex_interp]
  simp only [shape, OT.applyGsub_eq_passN]
  decide +kernel

end Fontc.C11
