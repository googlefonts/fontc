/-
  C06 — The glyph set, glyph order and cmap are exactly what the source declares.

  Setting (model: FontcModel/GlyphOrder.lean).
  * `ufoGlyphOrder declared names` models ufo2fontir `glyph_order`: `declared` is the `public.glyphOrder` value
    (`none` = absent / not an array, an entry `none` = a non-string element), `names` the glyph set.
    `glyphsMakeOrder custom file` models glyphs-reader `make_glyph_order`.
  * `s : Source` = all IR glyphs (`s.glyphs`, names pairwise distinct: they are keys of a map), the preliminary
    glyph order `s.prelim` (duplicate-free: an IndexSet) and the prefer-simple-glyphs flag.
    `finalOrder s = some f` models `GlyphOrderWork::exec`: `f.order` is the final glyph order, `f.table` the final
    IR glyphs (name, export flag, codepoints, component names, has-contours). `none` = the real code panics
    (a preliminary name without a glyph) or does not terminate (component cycle).
    `s.kept` = `s.prelim` restricted to glyphs whose source says `export = true`.
  * `buildCmap f` models `CmapWork::exec` + the contract of write-fonts `Cmap::from_mappings`; the result is the
    set of `(codepoint, glyph id)` pairs of the table, `none` = build error `CmapConflict`.
  * `postNames rename order` models `PostWork::exec`: the glyph names written to `post`.
  * `allCompiled s f` models which final glyphs get a glyf fragment (fontc/src/workload.rs).

  Hypotheses, and what the real code does outside them (each replayed on the real code by the
  `c06e2e` / `c06probe` streams, see checks/C06.json):
    duplicate names in public.glyphOrder      — no hypothesis: first occurrence wins (`firstOcc`)
    names in public.glyphOrder without glyph  — no hypothesis: ignored
    `.notdef` declared non-export             — GENUINE DEFECT: build panics (`all_glyphs_compiled_counterexample`)
    a derived `name.N` equal to a non-export glyph's name (prefer-simple-glyphs off) — same defect
    one codepoint on two exported glyphs      — `buildCmap = none`: the build is refused (`cmap_built_iff`)
    a non-export glyph with a codepoint       — no hypothesis: never in cmap (`cmap_exact`)
-/
import FontcProofs.GlyphOrderCmap

namespace Fontc.C06
open Fontc Fontc.GlyphOrder

/-- UFO: the names of `public.glyphOrder` that exist, first occurrences in declared order, then every other glyph
    in ascending name order. For every declared list (duplicates, unknown names, non-strings) and every glyph set. -/
theorem ufo_glyph_order_spec (declared : Option (List (Option String))) (names : List String) (hn : names.Nodup) :
    ufoGlyphOrder declared names =
      firstOcc ((declaredNames declared).filter (· ∈ names)) ++
      sortNames (names.filter (· ∉ declaredNames declared)) :=
  ufoGlyphOrder_eq declared hn

theorem ufo_glyph_order_perm (declared : Option (List (Option String))) (names : List String) (hn : names.Nodup) :
    (ufoGlyphOrder declared names).Perm names :=
  ufoGlyphOrder_perm declared hn

/-- The undeclared glyphs come in one fixed order: strictly ascending by name (code point order). -/
theorem ufo_glyph_order_rest_sorted (declared : Option (List (Option String))) (names : List String)
    (hn : names.Nodup) :
    (sortNames (names.filter (· ∉ declaredNames declared))).Pairwise (· < ·) :=
  sortNames_sorted_lt (hn.sublist List.filter_sublist)

/-- The hash-order branch of `glyph_order` (source.rs:565-576) is dead: it runs only for an empty glyph set. -/
theorem ufo_glyph_order_fallback_dead (declared : Option (List (Option String))) (names : List String)
    (hn : names.Nodup) : ufoGlyphOrder declared names = [] ↔ names = [] := by
  have hp := ufoGlyphOrder_perm declared hn
  constructor
  · intro h
    rw [h] at hp
    exact hp.nil_eq.symm
  · intro h
    subst h
    exact hp.eq_nil

/-- Glyphs: the `glyphOrder` custom parameter's existing names (first occurrences), then the rest in file order. -/
theorem glyphs_glyph_order_spec (custom : Option (List String)) (file : List String) (hn : file.Nodup) :
    glyphsGlyphOrder custom file =
      firstOcc ((custom.getD []).filter (· ∈ file)) ++ file.filter (· ∉ custom.getD []) := by
  rw [glyphsGlyphOrder_eq custom hn, glyphsMakeOrder_eq]

theorem glyphs_glyph_order_perm (custom : Option (List String)) (file : List String) (hn : file.Nodup) :
    (glyphsGlyphOrder custom file).Perm file := by
  rw [glyphsGlyphOrder_eq custom hn]; exact glyphsMakeOrder_perm custom hn

/-- The final order is `.notdef`, then the exported glyphs of the preliminary order in that
    order (minus `.notdef`), then the glyphs the compiler derived by splitting, each named `base.N` after an
    exported glyph, none of them `.notdef`, all of them new and pairwise distinct (`derived_names_fresh`). -/
theorem final_order_spec (s : Source) (f : Final) (hnd : s.prelim.Nodup) (h : finalOrder s = some f) :
    ∃ derived : List String,
      f.order = notdef :: (s.kept.erase notdef ++ derived) ∧
      (s.kept ++ derived).Nodup ∧
      (∀ x ∈ derived, x ≠ notdef ∧ ∃ b k, b ∈ s.kept ∧ x = suffixed b k) := by
  obtain ⟨derived, hs⟩ := finalOrder_shape hnd h
  exact ⟨derived, hs.order_eq, hs.nodup, hs.derived_form⟩

/-- The glyphs made by splitting have pairwise distinct names, none of which is the name of a
    glyph of the exported order (it may be the name of a *non-exported* source glyph: see
    `all_glyphs_compiled_counterexample_derived`). -/
theorem derived_names_fresh (s : Source) (f : Final) (hnd : s.prelim.Nodup) (h : finalOrder s = some f) :
    ∃ derived : List String, f.order = notdef :: (s.kept.erase notdef ++ derived) ∧
      derived.Nodup ∧ ∀ x ∈ derived, x ∉ s.kept := by
  obtain ⟨derived, hord, hnd2, _⟩ := final_order_spec s f hnd h
  rw [List.nodup_append] at hnd2
  exact ⟨derived, hord, hnd2.2.1, fun x hx hk => hnd2.2.2 x hk x hx rfl⟩

/-- `.notdef` is glyph 0, whatever the source says about it (absent, misplaced, first, non-export). -/
theorem notdef_first (s : Source) (f : Final) (hnd : s.prelim.Nodup) (h : finalOrder s = some f) :
    f.order[0]? = some notdef := by
  obtain ⟨derived, hord, _⟩ := final_order_spec s f hnd h
  rw [hord]; rfl

/-- No loss, no duplicates, nothing else. -/
theorem order_is_permutation_of_exported (s : Source) (f : Final) (hnd : s.prelim.Nodup)
    (h : finalOrder s = some f) :
    f.order.Nodup ∧ (∀ n ∈ s.kept, n ∈ f.order) ∧
    (∀ n ∈ f.order, n = notdef ∨ n ∈ s.kept ∨ (n ∉ s.kept ∧ ∃ b k, b ∈ s.kept ∧ n = suffixed b k)) := by
  obtain ⟨derived, hs⟩ := finalOrder_shape hnd h
  refine ⟨hs.order_nodup, fun n hn => (hs.mem_order n).mpr (Or.inr (Or.inl hn)), ?_⟩
  intro n hn
  by_cases hk : n ∈ s.kept
  · exact Or.inr (Or.inl hk)
  · exact (hs.made_form hn hk).imp_right fun h => Or.inr ⟨hk, h⟩

/-- What `s.kept` is, against the source. -/
theorem kept_iff (s : Source) (hnames : (s.glyphs.map (·.name)).Nodup) (n : String) :
    n ∈ s.kept ↔ n ∈ s.prelim ∧ ∃ g ∈ s.glyphs, g.name = n ∧ g.exported = true :=
  mem_kept hnames

/-- `no_nonexport_anywhere`, order clause, as far as it is true: the name of a non-exported source glyph can occur
    in the final order only as the name of a glyph the compiler made itself (`.notdef` or a derived `base.N`), and
    then the final glyph under that name is the made one (exported, no codepoints), not the source's. -/
theorem no_nonexport_in_order_partial (s : Source) (f : Final) (hnd : s.prelim.Nodup)
    (hnames : (s.glyphs.map (·.name)).Nodup) (h : finalOrder s = some f)
    (g : Glyph) (hg : g ∈ s.glyphs) (hne : g.exported = false) (hin : g.name ∈ f.order) :
    (g.name = notdef ∨ ∃ b k, b ∈ s.kept ∧ g.name = suffixed b k) ∧
    (f.table.get g.name).map Glyph.meta = some (g.name, true, []) := by
  obtain ⟨derived, hs⟩ := finalOrder_shape hnd h
  have hnk : g.name ∉ s.kept := by
    intro hk
    obtain ⟨_, g', hg', hname, hexp⟩ := (mem_kept hnames).mp hk
    rw [eq_of_nodup_map hnames hg' hg hname, hne] at hexp
    exact absurd hexp (by decide)
  exact ⟨hs.made_form hin hnk, hs.made_meta _ hin hnk⟩

/-- The unrestricted statement: a non-exported glyph's name is nowhere in the glyph order. -/
def NoNonexportNameFull : Prop :=
  ∀ (s : Source) (f : Final), s.prelim.Nodup → (s.glyphs.map (·.name)).Nodup → finalOrder s = some f →
    ∀ g ∈ s.glyphs, g.exported = false → g.name ∉ f.order

/-- Every glyph of the final order is compiled (has a glyf fragment), the unrestricted statement. -/
def AllGlyphsCompiledFull : Prop :=
  ∀ (s : Source) (f : Final), s.prelim.Nodup → (s.glyphs.map (·.name)).Nodup → finalOrder s = some f →
    allCompiled s f = true

/-- Witness 1: a UFO with glyphs `.notdef` and `a`, `public.skipExportGlyphs = [".notdef"]`. -/
def witnessNotdefSkipped : Source :=
  { glyphs := [{ name := ".notdef", exported := false, hasContours := true }, { name := "a", hasContours := true }],
    prelim := [".notdef", "a"] }

/-- Witness 2: glyph `e` has a contour and a component `a`; `e.0` exists and is not exported;
    prefer-simple-glyphs is off, so `e` is split and the new glyph is named `e.0`. -/
def witnessDerivedShadows : Source :=
  { glyphs := [{ name := "a", hasContours := true },
               { name := "e", hasContours := true, components := ["a"] },
               { name := "e.0", exported := false, hasContours := true }],
    prelim := ["a", "e", "e.0"], preferSimple := false }

theorem witnessNotdefSkipped_final :
    ∃ f, finalOrder witnessNotdefSkipped = some f ∧ ".notdef" ∈ f.order ∧ allCompiled witnessNotdefSkipped f = false := by
  decide +kernel

theorem no_nonexport_name_counterexample : ¬ NoNonexportNameFull := by
  intro H
  obtain ⟨f, hf, hmem, _⟩ := witnessNotdefSkipped_final
  exact H witnessNotdefSkipped f (by decide) (by decide) hf
    { name := ".notdef", exported := false, hasContours := true } (by decide) rfl hmem

/-- GENUINE DEFECT. The made glyph takes the name of a non-exported source glyph, which is in the preliminary
    order; back-end glyph jobs are added only for `final \ preliminary` and the source glyph's own job was skipped:
    no glyf fragment exists and the build panics (`Be(GlyfFragment(.notdef)) is not available`). -/
theorem all_glyphs_compiled_counterexample : ¬ AllGlyphsCompiledFull := by
  intro H
  obtain ⟨f, hf, _, hc⟩ := witnessNotdefSkipped_final
  rw [H witnessNotdefSkipped f (by decide) (by decide) hf] at hc
  cases hc

/-- The same failure through a derived glyph. -/
theorem all_glyphs_compiled_counterexample_derived :
    (match finalOrder witnessDerivedShadows with
     | some f => (f.order, allCompiled witnessDerivedShadows f) | none => ([], true)) =
    ([".notdef", "a", "e", "e.0"], false) := by decide +kernel

/-- With the hypothesis the defect violates spelled out — no non-exported source glyph is named like a glyph of
    the final order — every final glyph is compiled. -/
theorem all_glyphs_compiled_partial (s : Source) (f : Final) (hnd : s.prelim.Nodup) (h : finalOrder s = some f)
    (hyp : ∀ g ∈ s.glyphs, g.exported = false → g.name ∉ f.order) : allCompiled s f = true := by
  rw [allCompiled_iff]
  intro n hn
  by_cases hp : n ∈ s.prelim
  · -- a name of the preliminary order has a source glyph, which is exported since it is in the final order
    obtain ⟨g, hg, rfl⟩ := finalOrder_prelim_known h hp
    exact .inl ⟨g, hg, Decidable.byContradiction fun he => hyp g hg (by simpa using he) hn, rfl⟩
  · exact .inr hp

/-- When a cmap is built, it maps `cp ↦ gid` iff `gid` is the glyph id of an exported source glyph
    (of the preliminary order) that lists `cp`. Codepoints of non-exported glyphs, of `.notdef` when it is
    synthesised, and of derived glyphs map nowhere. -/
theorem cmap_exact (s : Source) (f : Final) (m : List (Nat × Nat)) (hnd : s.prelim.Nodup)
    (hnames : (s.glyphs.map (·.name)).Nodup) (h : finalOrder s = some f) (hm : buildCmap f = some m)
    (cp gid : Nat) :
    (cp, gid) ∈ m ↔
      ∃ g ∈ s.glyphs, g.exported = true ∧ g.name ∈ s.prelim ∧ f.order[gid]? = some g.name ∧ cp ∈ g.codepoints := by
  obtain ⟨derived, hs⟩ := finalOrder_shape hnd h
  unfold buildCmap at hm
  rw [(fromMappings_eq_some hm).1, mem_cmapMappings]
  constructor
  · rintro ⟨n, hget, hcp⟩
    obtain ⟨g, hg, hexp, hp, rfl, hc⟩ := (hs.mem_cps hnames n cp).mp ⟨List.mem_of_getElem? hget, hcp⟩
    exact ⟨g, hg, hexp, hp, hget, hc⟩
  · rintro ⟨g, hg, hexp, hp, hget, hc⟩
    exact ⟨g.name, hget, ((hs.mem_cps hnames _ cp).mpr ⟨g, hg, hexp, hp, rfl, hc⟩).2⟩

theorem cmap_functional (f : Final) (m : List (Nat × Nat)) (hm : buildCmap f = some m)
    (cp g1 g2 : Nat) (h1 : (cp, g1) ∈ m) (h2 : (cp, g2) ∈ m) : g1 = g2 := by
  unfold buildCmap at hm
  obtain ⟨e, hf⟩ := fromMappings_eq_some hm
  rw [e] at h1 h2
  exact hf _ h1 _ h2 rfl

/-- A cmap is built exactly when the source's codepoint assignment is functional on the exported glyphs; otherwise
    the build is refused (`CmapConflict`). -/
theorem cmap_built_iff (s : Source) (f : Final) (hnd : s.prelim.Nodup)
    (hnames : (s.glyphs.map (·.name)).Nodup) (h : finalOrder s = some f) :
    (buildCmap f).isSome = true ↔
      ∀ g1 ∈ s.glyphs, ∀ g2 ∈ s.glyphs, g1.exported = true → g2.exported = true →
        g1.name ∈ s.prelim → g2.name ∈ s.prelim → ∀ cp, cp ∈ g1.codepoints → cp ∈ g2.codepoints → g1 = g2 := by
  obtain ⟨derived, hs⟩ := finalOrder_shape hnd h
  rw [buildCmap, fromMappings_isSome_iff, cmapMappings_functional_iff _ hs.order_nodup]
  constructor
  · intro H g1 hg1 g2 hg2 he1 he2 hp1 hp2 cp hc1 hc2
    exact eq_of_nodup_map hnames hg1 hg2 (H _ _ cp ((hs.mem_cps hnames _ cp).mpr ⟨g1, hg1, he1, hp1, rfl, hc1⟩)
      ((hs.mem_cps hnames _ cp).mpr ⟨g2, hg2, he2, hp2, rfl, hc2⟩))
  · intro H n1 n2 cp c1 c2
    obtain ⟨g1, hg1, he1, hp1, rfl, hc1⟩ := (hs.mem_cps hnames n1 cp).mp c1
    obtain ⟨g2, hg2, he2, hp2, rfl, hc2⟩ := (hs.mem_cps hnames n2 cp).mp c2
    rw [H g1 hg1 g2 hg2 he1 he2 hp1 hp2 cp hc1 hc2]

/-- `no_nonexport_anywhere`, cmap clause: every cmap target is an exported source glyph. -/
theorem no_nonexport_cmap_target (s : Source) (f : Final) (m : List (Nat × Nat)) (hnd : s.prelim.Nodup)
    (hnames : (s.glyphs.map (·.name)).Nodup) (h : finalOrder s = some f) (hm : buildCmap f = some m)
    (cp gid : Nat) (hmem : (cp, gid) ∈ m) :
    ∃ g ∈ s.glyphs, g.exported = true ∧ f.order[gid]? = some g.name := by
  obtain ⟨g, hg, hexp, _, hget, _⟩ := (cmap_exact s f m hnd hnames h hm cp gid).mp hmem
  exact ⟨g, hg, hexp, hget⟩

/-- `no_nonexport_anywhere`, component clause: after `flatten_all_non_export_components` has run over a processing
    order that is topological for non-export references (`TopoOk`; the depth-sorted order of an acyclic component
    graph), no processed glyph refers to a non-exported glyph any more. -/
theorem inlined_components_exported (t : Table) (order : List String) (htopo : TopoOk t [] order) :
    ∀ n ∈ order, ∀ c ∈ (flattenAll order t).comps n, t.isExport c = true := by
  have := foldl_flattenOne_inv t order [] t ⟨by simp, fun _ _ => rfl⟩ htopo
  intro n hn c hc
  exact this.done n (by simpa using hn) c hc

/-- One name per glyph, names pairwise distinct — for the plain names and for every rename map
    (collisions, characters dropped by sanitising, names colliding with existing glyph names). -/
theorem post_bijective (rename : Option (List (String × String))) (order : List String) (hnd : order.Nodup) :
    (postNames rename order).Nodup ∧ (postNames rename order).length = order.length := by
  cases rename with
  | none => exact ⟨hnd, rfl⟩
  | some r =>
    unfold postNames
    have hinv := foldl_postStep_inv r order 0 {} ⟨List.nodup_nil, by simp, rfl⟩
    exact ⟨hinv.nodup, by simpa using hinv.length⟩

/-- The two fresh-name searches (`name_for_derivative`, the `.N` suffix loop of post.rs) return a free name, the
    first one at or after the start index — the unbounded Rust loops terminate and the model's bound is never hit. -/
theorem fresh_name_search (used : List String) (name : String) (n : Nat) :
    suffixed name (firstFree used name n) ∉ used ∧ n ≤ firstFree used name n ∧
    ∀ k, n ≤ k → k < firstFree used name n → suffixed name k ∈ used :=
  ⟨firstFree_not_mem used name n, firstFree_ge used name n, fun _ => firstFree_min⟩

/-- declared order with a duplicate, an unknown name, a non-string entry and a misplaced `.notdef` -/
example : ufoGlyphOrder (some [some "b", some ".notdef", none, some "nosuch", some "b", some "a"])
    ["a", "b", "z", "c", ".notdef"] = ["b", ".notdef", "a", "c", "z"] := by
  simp [ufoGlyphOrder, ixExtend, ixInsert, sortNames, List.mergeSort, List.MergeSort.Internal.splitInTwo]

example : glyphsGlyphOrder (some ["b", "nosuch", "b"]) ["a", "b", "c"] = ["b", "a", "c"] := by decide

/-- a source with a non-export glyph `x` (with a codepoint) used as a component, a misplaced `.notdef`, a mixed glyph -/
def exSource : Source :=
  { glyphs := [{ name := "b", codepoints := [0x62, 0x1F600], hasContours := true },
               { name := ".notdef", hasContours := true },
               { name := "x", exported := false, codepoints := [0x78], hasContours := true },
               { name := "a", codepoints := [0x61], components := ["x", "b"] }],
    prelim := ["b", ".notdef", "x", "a"], preferSimple := false }

example : exSource.prelim.Nodup ∧ (exSource.glyphs.map (·.name)).Nodup := by decide

example : (finalOrder exSource).map (·.order) = some [".notdef", "b", "a", "a.0"] := by decide +kernel

example : (finalOrder exSource).bind buildCmap = some [(0x62, 1), (0x1F600, 1), (0x61, 2)] := by decide +kernel

example : (finalOrder exSource).map (fun f => f.table.comps "a") = some ["b", "a.0"] := by decide +kernel

example : (finalOrder exSource).map (allCompiled exSource) = some true := by decide +kernel

example : postNames (some [("b", "dup"), ("a", "dup"), ("a.0", "x-y")]) [".notdef", "b", "a", "a.0"] =
    [".notdef", "dup", "dup.1", "xy"] := by decide +kernel

example : TopoOk (Table.ofList exSource.glyphs) [] ["b", ".notdef", "x", "a"] := by
  simp only [TopoOk]
  decide +kernel

end Fontc.C06
