/-
  C08 — Axis ranges and the user/design/normalized mapping survive into fvar and avar.

  Model: FontcModel/Plm.lean (`PiecewiseLinearMap`, `CoordConverter`), FontcModel/Avar.lean
  (`to_segment_map`, fvar record; spec side: `defaultNormalize`, `avarApply`, `designNormalize`).
  The lemmas the theorems are assembled from are in FontcProofs/Plm*.lean.

  An axis definition `a : AxisDef` is what a source states: user:design examples (in any order), the index of
  the default example, and the user bounds. `a.WellFormed`: once sorted by user value the examples have strictly
  increasing user and non-decreasing design values, the default example carries the axis default, and the axis
  minimum / maximum are the first / last example. `a.axis? = some ax` is the axis fontc builds from it.
-/
import FontcProofs.PlmQBound

namespace Fontc.C08
open Fontc Fontc.Plm Fontc.Avar Fontc.PlmProofs

/-- **avar_agrees.** For every well-formed axis and *every* rational user coordinate in `[min, max]`:
    normalising with fvar (default normalisation) and then applying the (unquantised) segment map that
    `to_segment_map` builds gives exactly the source's user → design mapping followed by design normalisation
    (design default ↦ 0, design min ↦ -1, design max ↦ +1). -/
theorem avar_agrees (a : AxisDef) (h : a.WellFormed) (ax : Axis) (hax : a.axis? = some ax) (u : Rat)
    (hmin : a.min ≤ u) (hmax : u ≤ a.max) :
    avarApply (segmentMapExact ax) (defaultNormalize a.min a.default a.max u) =
      designNormalize a.designMin a.designDefault a.designMax (ax.conv.toDesign u) := by
  have B := wf_built h hax
  rw [B.exact_apply, defaultNormalize_eq hmin hmax, Conv.toDesign, B.u2d]
  exact B.sorted.padded_agrees hmin hmax

/-- fontc's own user → normalized conversion (used for master locations, gvar regions …) is that same
    "user → design, then design normalisation". Together with `avar_agrees`: fvar∘avar = fontc's normalisation. -/
theorem to_normalized_is_design_normalize (a : AxisDef) (h : a.WellFormed) (ax : Axis) (hax : a.axis? = some ax)
    (u : Rat) (hmin : a.min ≤ u) (hmax : u ≤ a.max) :
    ax.conv.toNormalized u = designNormalize a.designMin a.designDefault a.designMax (ax.conv.toDesign u) :=
  (wf_built h hax).toNormalized_eq hmin hmax

/-- `user → design` is the linear interpolation of the source's examples (the end points of a segment included). -/
theorem user_to_design_interpolates (a : AxisDef) (h : a.WellFormed) (ax : Axis) (hax : a.axis? = some ax)
    (l r : List Pt) (p q : Pt) (hadj : a.nodes = l ++ p :: q :: r) (u : Rat) (h1 : p.1 ≤ u) (h2 : u ≤ q.1) :
    ax.conv.toDesign u = p.2 + (u - p.1) * (q.2 - p.2) / (q.1 - p.1) := by
  have B := wf_built h hax
  unfold Conv.toDesign
  rw [B.u2d]
  exact map_consec B.sorted.strict ⟨l, r, hadj⟩ h1 h2

/-- `CoordConverter::default_normalization` (the first half of `to_segment_map`) is the fvar default
    normalisation of the OpenType spec on `[min, max]`. -/
theorem default_converter_is_fvar_normalization (mn df mx u : Rat) (h1 : mn ≤ df) (h2 : df ≤ mx)
    (hu1 : mn ≤ u) (hu2 : u ≤ mx) :
    (Conv.defaultNormalization mn df mx).toNormalized u = defaultNormalize mn df mx u :=
  defaultConv_toNormalized h1 h2 hu1 hu2

/-- **segmap_has_required** (partial). `-1:-1`, `0:0`, `1:1` are present in the exact and in the emitted
    (F2Dot14) map — *provided* that, when the axis extends below its default, the design range does too
    (`hleft`). Without `hleft` the statement is false: see `SegmapRequiredFull` below. -/
theorem segmap_has_required_partial (a : AxisDef) (h : a.WellFormed) (ax : Axis) (hax : a.axis? = some ax)
    (hleft : a.min < a.default → a.designMin < a.designDefault) :
    hasRequired (segmentMapExact ax) = true ∧
    ((-16384 : Int), (-16384 : Int)) ∈ segmentMap ax ∧ ((0 : Int), (0 : Int)) ∈ segmentMap ax ∧
    ((16384 : Int), (16384 : Int)) ∈ segmentMap ax := by
  obtain ⟨r1, r2, r3⟩ := (wf_built h hax).exact_required hleft
  refine ⟨?_, ?_, ?_, ?_⟩
  · simp only [hasRequired, Bool.and_eq_true, List.contains_iff_mem]
    exact ⟨⟨r1, r2⟩, r3⟩
  · simpa only [f2dot14_neg_one] using mem_segmentMap r1
  · simpa only [f2dot14_zero] using mem_segmentMap r2
  · simpa only [f2dot14_one] using mem_segmentMap r3

/-- The property as stated (every well-formed axis definition, flat segments included). -/
def SegmapRequiredFull : Prop :=
  ∀ (a : AxisDef), a.WellFormed → ∀ ax, a.axis? = some ax → hasRequired (segmentMapExact ax) = true

/-- Witness: user 100..400 all mapped to design 400 (flat below the default), 700 ↦ 700. -/
def flatBelowDefault : AxisDef := ⟨[(100, 400), (400, 400), (700, 700)], 1, 100, 400, 700⟩

theorem flatBelowDefault_wf : flatBelowDefault.WellFormed :=
  ⟨by decide, ⟨400, by decide⟩, ⟨400, by decide⟩, ⟨700, by decide⟩⟩

/-- … for which `to_segment_map` emits `-1:0, 0:0, 1:1`: the required `-1:-1` entry is missing. -/
theorem flatBelowDefault_segmap :
    flatBelowDefault.axis?.map segmentMap = some [(-16384, 0), (0, 0), (16384, 16384)] := by decide +kernel

theorem segmap_has_required_counterexample : ¬ SegmapRequiredFull := by
  intro hfull
  have hax : ∃ ax, flatBelowDefault.axis? = some ax ∧ hasRequired (segmentMapExact ax) = false := by decide
  obtain ⟨ax, hax, hfalse⟩ := hax
  have := hfull flatBelowDefault flatBelowDefault_wf ax hax
  rw [hfalse] at this
  exact Bool.noConfusion this

/-- **segmap_monotone.** from- and to-coordinates never decrease along the map, before and after
    quantisation to F2Dot14. -/
theorem segmap_monotone (a : AxisDef) (h : a.WellFormed) (ax : Axis) (hax : a.axis? = some ax) :
    monotone (segmentMapExact ax) = true ∧ monotone (qpts (segmentMap ax)) = true := by
  have hp := (wf_built h hax).exact_pairwise
  refine ⟨monotone_of_pairwise hp, monotone_of_pairwise ?_⟩
  rw [qpts_segmentMap, List.pairwise_map]
  exact hp.imp (fun hab => ⟨qv_mono hab.1, qv_mono hab.2⟩)

/-- **avar_quantised_bound** (vertices). If the emitted F2Dot14 `fromCoordinate`s are pairwise distinct, then at every
    example of the source, feeding the F2Dot14-rounded default-normalised coordinate through the emitted map
    gives the example's design-normalised coordinate to within half an F2Dot14 unit (2⁻¹⁵). -/
theorem avar_quantised_bound_nodes (a : AxisDef) (h : a.WellFormed) (ax : Axis) (hax : a.axis? = some ax)
    (hdistinct : strictFrom (qpts (segmentMap ax)) = true) (n : Pt) (hn : n ∈ a.nodes) :
    ratAbs (avarApply (qpts (segmentMap ax)) (qv (defaultNormalize a.min a.default a.max n.1)) -
            designNormalize a.designMin a.designDefault a.designMax n.2) ≤ 1 / 32768 := by
  have B := wf_built h hax
  have bn := B.sorted.bounds n hn
  have hraw : _ ∈ rawOfAxis a := mem_rawOf hn
  have hQ := strictFrom_sound hdistinct
  rw [qpts_segmentMap] at hQ ⊢
  rw [defaultNormalize_eq bn.1 bn.2.1, B.quantised_vertex hQ ((mem_padded _ _).mpr (Or.inl hraw))]
  exact qv_err (B.sorted.raw_range _ hraw).2.2.1 (B.sorted.raw_range _ hraw).2.2.2

/-- **avar_quantised_bound** (every coordinate). What a rasteriser computes — default normalisation, rounding to
    F2Dot14, the emitted F2Dot14 segment map — differs from the source's design-normalised coordinate by at most
    `2⁻¹⁵ · (1 + 2 L)`, where `L` is a Lipschitz constant (largest slope) of the exact map on `[-1, 1]`:
    one half unit for the rounded to-coordinates, `L` half units for the rounded from-coordinates and `L` for the
    rounded input. Hypothesis `hdistinct`: rounding did not merge two `fromCoordinate`s. -/
theorem avar_quantised_bound (a : AxisDef) (h : a.WellFormed) (ax : Axis) (hax : a.axis? = some ax)
    (hdistinct : strictFrom (qpts (segmentMap ax)) = true) (L : Rat) (hL : 0 ≤ L)
    (hLip : ∀ s t, -1 ≤ s → s ≤ 1 → -1 ≤ t → t ≤ 1 →
      ratAbs (avarApply (segmentMapExact ax) s - avarApply (segmentMapExact ax) t) ≤ L * ratAbs (s - t))
    (u : Rat) (hmin : a.min ≤ u) (hmax : u ≤ a.max) :
    ratAbs (avarApply (qpts (segmentMap ax)) (qv (defaultNormalize a.min a.default a.max u)) -
            designNormalize a.designMin a.designDefault a.designMax (ax.conv.toDesign u)) ≤ 1 / 32768 * (1 + 2 * L) := by
  have hQ := strictFrom_sound hdistinct
  rw [qpts_segmentMap] at hQ ⊢
  have B := wf_built h hax
  rw [← avar_agrees a h ax hax u hmin hmax, defaultNormalize_eq hmin hmax]
  exact quantised_apply_bound B.exact_range hQ hL hLip (B.exact_spans hmin hmax)

/-- **fvar_bounds.** The fvar axis record is the user bounds converted to 16.16, and it is ordered.  How far
    `fixed16` moves a bound: `fixed16_close` (half a 16.16 unit inside the 16.16 range), `fixed16_exact_on_grid`. -/
theorem fvar_bounds (a : AxisDef) (h : a.WellFormed) (ax : Axis) (hax : a.axis? = some ax) :
    fvarRecord ax = (fixed16 a.min, fixed16 a.default, fixed16 a.max) ∧
    fixed16 a.min ≤ fixed16 a.default ∧ fixed16 a.default ≤ fixed16 a.max := by
  have B := wf_built h hax
  obtain ⟨o1, o2, _, _⟩ := B.sorted.order
  exact ⟨by simp [fvarRecord, B.min, B.default, B.max], fixed16_mono o1, fixed16_mono o2⟩

theorem fixed16_close (x : Rat) (h1 : -32768 ≤ x) (h2 : x ≤ 2147483647 / 65536) :
    ratAbs (fixed16Val (fixed16 x) - x) ≤ 1 / 131072 :=
  fixed16_err h1 h2

theorem fixed16_exact_on_grid (k : Int) (h1 : -2147483648 ≤ k) (h2 : k ≤ 2147483647) :
    fixed16Val (fixed16 ((k : Rat) / 65536)) = (k : Rat) / 65536 := by
  rw [fixed16_exact k h1 h2]; rfl

/-- **instances_in_range.** A named instance whose design location lies within the axis' design range gets a
    user coordinate within `[min, max]`, and its 16.16 fvar coordinate lies within the fvar record's bounds. -/
theorem instances_in_range (a : AxisDef) (h : a.WellFormed) (ax : Axis) (hax : a.axis? = some ax) (d : Rat)
    (hd1 : a.designMin ≤ d) (hd2 : d ≤ a.designMax) :
    a.min ≤ ax.conv.designToUserMap d ∧ ax.conv.designToUserMap d ≤ a.max ∧
    (fvarRecord ax).1 ≤ fvarInstanceCoord ax (some (ax.conv.designToUserMap d)) ∧
    fvarInstanceCoord ax (some (ax.conv.designToUserMap d)) ≤ (fvarRecord ax).2.2 := by
  have B := wf_built h hax
  have hr := B.designToUser_range hd1 hd2
  refine ⟨hr.1, hr.2, ?_, ?_⟩
  · simp only [fvarRecord, fvarInstanceCoord, Option.getD_some, B.min]
    exact fixed16_mono hr.1
  · simp only [fvarRecord, fvarInstanceCoord, Option.getD_some, B.max]
    exact fixed16_mono hr.2

/-- `Fontc.f2dot14Bits` of Basic.lean is `F2Dot14::from_f64` as font-types 0.12.5 implements it. -/
theorem f2dot14_matches_basic (x : Rat) : f2dot14 x = Fontc.f2dot14Bits x := f2dot14_eq_basic x

/-! ### Non-vacuity: the hypotheses are satisfiable, with a non-trivial map -/

/-- fontbe/src/avar.rs test `simple_functional_segment_map`, listed out of order. -/
def sample : AxisDef := ⟨[(700, 19), (100, -10), (800, 20), (400, 0)], 3, 100, 400, 800⟩

theorem sample_wf : sample.WellFormed :=
  ⟨by decide, ⟨0, by decide⟩, ⟨-10, by decide⟩, ⟨20, by decide⟩⟩

example : ∃ ax, sample.axis? = some ax ∧ segmentMap ax = [(-16384, -16384), (0, 0), (12288, 15565), (16384, 16384)] ∧
    strictFrom (qpts (segmentMap ax)) = true ∧ (sample.min < sample.default → sample.designMin < sample.designDefault) := by
  decide +kernel

example : ∃ ax, sample.axis? = some ax ∧
    avarApply (segmentMapExact ax) (defaultNormalize sample.min sample.default sample.max 750) =
      designNormalize sample.designMin sample.designDefault sample.designMax (ax.conv.toDesign 750) ∧
    ax.conv.toDesign 750 = 39 / 2 := by
  obtain ⟨ax, hax, hd⟩ : ∃ ax, sample.axis? = some ax ∧ ax.conv.toDesign 750 = 39 / 2 := by decide +kernel
  exact ⟨ax, hax, avar_agrees sample sample_wf ax hax 750 (by decide) (by decide), hd⟩

/-- non-vacuity of `avar_quantised_bound`: an unmapped axis (identity map, `L = 1`) -/
def plain : AxisDef := ⟨[(100, 100), (400, 400), (700, 700)], 1, 100, 400, 700⟩

theorem plain_wf : plain.WellFormed :=
  ⟨by decide, ⟨400, by decide⟩, ⟨100, by decide⟩, ⟨700, by decide⟩⟩

example : ∃ ax, plain.axis? = some ax ∧
    ratAbs (avarApply (qpts (segmentMap ax)) (qv (defaultNormalize plain.min plain.default plain.max 333)) -
            designNormalize plain.designMin plain.designDefault plain.designMax (ax.conv.toDesign 333)) ≤ 1 / 32768 * (1 + 2 * 1) := by
  have hex : ∃ ax, plain.axis? = some ax ∧ segmentMapExact ax = defaultSegmentMap ∧
      strictFrom (qpts (segmentMap ax)) = true := by decide +kernel
  obtain ⟨ax, hax, hseg, hstrict⟩ := hex
  refine ⟨ax, hax, avar_quantised_bound plain plain_wf ax hax hstrict 1 (by decide) ?_ 333 (by decide) (by decide)⟩
  intro s t _ _ _ _
  rw [hseg, avarApply_ident (by decide), avarApply_ident (by decide)]
  simp

end Fontc.C08
