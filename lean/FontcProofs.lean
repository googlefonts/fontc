
import FontcProofs.ListFacts
import FontcProofs.Rounding
import FontcProofs.VarModelAlg
import FontcProofs.VarModelGeom
import FontcProofs.VarModelSort
import FontcProofs.VarModelTri
import FontcProofs.SfntBasic
import FontcProofs.SfntLayout
import FontcProofs.SfntMain
import FontcProofs.PathsStf
import FontcProofs.PathsKern
import FontcProofs.PathsTarget
import FontcProofs.PathsPersist
import FontcProofs.LimitsMetrics
import FontcProofs.LimitsMaxp
import FontcProofs.LimitsBbox
import FontcProofs.LimitsOs2
import FontcProofs.LimitsF32
import FontcProofs.KernEval
import FontcProofs.FeaLex
import FontcProofs.FeaLexUtf8
import FontcProofs.FeaInclude
import FontcProofs.Gvar
import FontcProofs.IvsBridge
import FontcProofs.PlmBasic
import FontcProofs.PlmNorm
import FontcProofs.PlmAvar
import FontcProofs.PlmAxis
import FontcProofs.PlmQuant
import FontcProofs.PlmQBound
import FontcProofs.MarksKind
import FontcProofs.MarksCover
import FontcProofs.MarksValue
import FontcProofs.FeatVarsSpec
import FontcProofs.FeatVarsBox
import FontcProofs.FeatVarsLoop
import FontcProofs.FeatVarsFinal
import FontcProofs.FeatVarsSim
import FontcProofs.FeatVarsRank
import FontcProofs.FeatVarsWitness
import FontcProofs.NamesAssoc
import FontcProofs.NamesAlloc
import FontcProofs.NamesMain
import FontcProofs.NamesFallback
import FontcProofs.CompGraphSort
import FontcProofs.CompGraphWalk
import FontcProofs.GlyphOrderSpec
import FontcProofs.GlyphOrderBasic
import FontcProofs.GlyphOrderNames
import FontcProofs.GlyphOrderTable
import FontcProofs.GlyphOrderFinal
import FontcProofs.GlyphOrderCmap
import FontcProofs.FeatVarsMerge
import FontcProofs.SchedSpec
import FontcProofs.SchedBasic
import FontcProofs.SchedAtoms
import FontcProofs.SchedInv
import FontcProofs.SchedSafety
import FontcProofs.SchedScript
import FontcProofs.SchedCheckSound
import FontcProofs.SchedFresh
import FontcProofs.SchedProgress
import FontcProofs.FeaMap
import FontcProofs.FeaSubst
import FontcProofs.FeaFlags
import FontcProofs.FeaGlue
import FontcProofs.SchedProgressStatic
import FontcProofs.PlistValue
import FontcProofs.PlistLex
import FontcProofs.PlistParse
import FontcProofs.PlistCanon
import FontcProofs.PlistBare
import FontcProofs.PlistPackage
import FontcProofs.EntryPath
import FontcProofs.Casts
import FontcProofs.CastsFields
import FontcProofs.CastsStages
import FontcProofs.Components
import FontcProofs.ComponentsOps
import FontcProofs.ComponentsRounding
import FontcProofs.FeaSimBasic
import FontcProofs.FeaSimFlags
import FontcProofs.FeaSimRun
import FontcProofs.FeaTables
import FontcProofs.FeaLookupSem
import FontcProofs.FeaCorrectFlat
import FontcProofs.Confluence
import FontcProofs.FeaChainStep
import FontcProofs.FeaChainAnon
import FontcProofs.FeaChainCorrect
import FontcProofs.FeaRunSem
import FontcProofs.FeaEvents
import FontcProofs.FeaItems
import FontcProofs.FeaDefs
import FontcProofs.FeaSim
import FontcProofs.FeaBlockInv
import FontcProofs.FeaActive
import FontcProofs.FeaGenTop
import FontcProofs.FeaGenAssemble
import FontcProofs.FeaCorrectGen
import FontcProofs.FeaFragment
import FontcProofs.NamesFea
import FontcProofs.FeaLig
import FontcProofs.KernBasic
import FontcProofs.KernBuild
import FontcProofs.KernPartition
import FontcProofs.Metric
