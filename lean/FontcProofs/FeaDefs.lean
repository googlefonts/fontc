/-
  C11 simulation: the lookups defined so far, program-wide — the entries of the source, their ids, the
  named lookups (`Defs`) — and, along the walk through a feature block, the registrations the source
  side gives the entries (`RegsRel`).
-/
import FontcProofs.FeaSimRun
import FontcProofs.FeaItems

namespace Fontc.FeaCompile
open Cmp

/-- the lookups of the entries, each with its id -/
def entPairs (es : List Src.Entry) (ids : List LookupId) : List (Src.Lookup × LookupId) := (es.map (·.lookup)).zip ids

theorem entPairs_eq (es : List Src.Entry) (ids : List LookupId) :
    entPairs es ids = (es.zip ids).map fun x => (x.1.lookup, x.2) := by
  simp only [entPairs, List.zip_map_left]; rfl

theorem mem_entPairs_of_zip {es : List Src.Entry} {ids : List LookupId} {e : Src.Entry} {id : LookupId}
    (h : (e, id) ∈ es.zip ids) : (e.lookup, id) ∈ entPairs es ids := by
  rw [entPairs_eq]; exact List.mem_map.mpr ⟨_, h, rfl⟩

theorem zip_of_mem_entPairs {es : List Src.Entry} {ids : List LookupId} {l : Src.Lookup} {id : LookupId}
    (h : (l, id) ∈ entPairs es ids) : ∃ e, (e, id) ∈ es.zip ids ∧ e.lookup = l := by
  rw [entPairs_eq] at h
  obtain ⟨⟨e, id'⟩, hm, he⟩ := List.mem_map.mp h
  cases he
  exact ⟨e, hm, rfl⟩

/-- the lookups defined so far, program-wide: the entries of the source, their ids, the named lookups -/
structure Defs (fx : Fixes) (U : List (List Glyph)) (es : List Src.Entry) (ids : List LookupId) (s : St)
    (used : List String) : Prop where
  idsInv : IdsInv s
  attachU : ∀ c ∈ s.attachIds, c ∈ U
  len : es.length = ids.length
  ents : ∀ l id, (l, id) ∈ entPairs es ids →
    ∃ ls, CompiledRun fx s.attachIds s.filterIds l.flag l.rules id ls ∧ Placed s.gsub s.gpos id ls
  ordered : ids.Pairwise idLt
  below : ∀ id ∈ ids, idBelow s id
  namedKeys : ∀ n, (s.named.lookup n).isSome = true ↔ n ∈ used
  namedEnt : ∀ n id, s.named.lookup n = some id ↔ ∃ l, (l, id) ∈ entPairs es ids ∧ l.name = some n

section
variable {fx : Fixes} {U : List (List Glyph)} {es : List Src.Entry} {ids : List LookupId} {s s' : St} {used : List String}

theorem compiled_mono (hg : Grew s s') {f : Flag} {rules : List Rule} {id : LookupId}
    (h : ∃ ls, CompiledRun fx s.attachIds s.filterIds f rules id ls ∧ Placed s.gsub s.gpos id ls) :
    ∃ ls, CompiledRun fx s'.attachIds s'.filterIds f rules id ls ∧ Placed s'.gsub s'.gpos id ls := by
  obtain ⟨⟨g, e1⟩, ⟨p, e2⟩, ⟨a, e3⟩, ⟨f', e4⟩⟩ := hg
  obtain ⟨ls, hc, hp⟩ := h
  exact ⟨ls, by rw [e3, e4]; exact hc.mono a f', by rw [e1, e2]; exact hp.mono g p⟩

/-- A step that defines nothing.  At a state `{ s with … }` that differs from `s` in none of the fields `Defs` reads,
    the arguments are `(Grew.refl s) rfl h.idsInv h.attachU`: projections of the new state reduce to those of `s`. -/
theorem Defs.frame (h : Defs fx U es ids s used) (hg : Grew s s') (hn : s'.named = s.named)
    (hi : IdsInv s') (hu : ∀ c ∈ s'.attachIds, c ∈ U) : Defs fx U es ids s' used :=
  { h with
    idsInv := hi
    attachU := hu
    ents := fun l id hm => compiled_mono hg (h.ents l id hm)
    below := fun id hid => (h.below id hid).mono hg
    namedKeys := by rw [hn]; exact h.namedKeys
    namedEnt := by rw [hn]; exact h.namedEnt }

theorem Defs.congr {es' : List Src.Entry} (h : Defs fx U es ids s used) (hl : es'.map (·.lookup) = es.map (·.lookup)) :
    Defs fx U es' ids s used :=
  { h with
    len := by rw [← h.len, ← List.length_map (as := es') (·.lookup), hl, List.length_map]
    ents := by unfold entPairs; rw [hl]; exact h.ents
    namedEnt := by unfold entPairs; rw [hl]; exact h.namedEnt }

/-- Covers every way a lookup gets defined: a run of rules of a feature block as an anonymous lookup,
    or the rules of a named lookup block, at top level or inside a feature block. -/
theorem Defs.flush (h : Defs fx U es ids s used) {reg : Src.Reg} {f wflag : Flag} {rules : List Rule}
    (hrun : RunRel fx (some (reg, f, rules)) wflag s) {name : Option String} (hname : s.curName = name)
    (hfresh : ∀ n, name = some n → n ∉ used) (regs : List (Tag × Tag × Tag)) :
    Defs fx U (es ++ [⟨⟨name, f, rules⟩, regs⟩]) (ids ++ [nextId s (headKind rules).isPos]) s.flush (name.toList ++ used) := by
  obtain ⟨_, hne, hkinds, cf, hscur, hcf⟩ := hrun
  obtain ⟨hgrew, hnamed, hpl, hbel, hlt⟩ := flush_spec hscur
  rw [foldl_add_new_kind] at hnamed hpl hbel hlt
  rw [hname] at hnamed
  have hc := flush_sameCtx s
  have hcomp : CompiledRun fx s.flush.attachIds s.flush.filterIds f rules (nextId s (headKind rules).isPos)
      (builtLookups cf (rules.foldl (Builder.add fx s.gsub.length s.namedId) (Builder.new (headKind rules)))) := by
    rw [hc.attachIds, hc.filterIds]
    exact ⟨hne, hkinds, nextId_isGpos, cf, s.namedId, s.gsub.length, hcf, fun hp => by rw [hp]; rfl, rfl⟩
  generalize nextId s (headKind rules).isPos = id at hnamed hcomp hpl hbel hlt ⊢
  -- the pairs and the name bindings gain exactly the new entry (`hpairs`, `hnames`); every field then splits into the old
  -- entries, which persist (`compiled_mono`), and the new one, which `flush_spec` describes
  have hpairs : entPairs (es ++ [⟨⟨name, f, rules⟩, regs⟩]) (ids ++ [id]) = entPairs es ids ++ [(⟨name, f, rules⟩, id)] := by
    simp only [entPairs, List.map_append, List.map_cons, List.map_nil]
    rw [List.zip_append (by simp [h.len])]; rfl
  have hnames : ∀ n' x, s.flush.named.lookup n' = some x ↔ (name = some n' ∧ x = id) ∨ s.named.lookup n' = some x := by
    intro n' x
    cases name with
    | none => simp [hnamed]
    | some n =>
      have hnone : s.named.lookup n = none := by
        cases hq : s.named.lookup n with
        | none => rfl
        | some v => exact absurd ((h.namedKeys n).mp (by rw [hq]; rfl)) (hfresh n rfl)
      rw [hnamed]
      by_cases e : n' = n
      · subst e; simp [hnone, eq_comm]
      · have e' : ¬ n = n' := fun e'' => e e''.symm
        simp [lookup_cons_ite, e, e']
  exact {
    idsInv := by unfold IdsInv; rw [hc.attachIds, hc.filterIds]; exact h.idsInv
    attachU := by rw [hc.attachIds]; exact h.attachU
    len := by simp [h.len]
    ents := fun l id' hm => by
      rw [hpairs] at hm
      rcases List.mem_append.mp hm with hm | hm
      · exact compiled_mono hgrew (h.ents l id' hm)
      · simp only [List.mem_singleton, Prod.mk.injEq] at hm
        obtain ⟨rfl, rfl⟩ := hm
        exact ⟨_, hcomp, hpl⟩
    ordered := pairwise_snoc h.ordered fun x hx => hlt x (h.below x hx)
    below := fun x hx => by
      rcases List.mem_append.mp hx with hx | hx
      · exact (h.below x hx).mono hgrew
      · simp at hx; subst hx; exact hbel
    namedKeys := fun n' => by
      simp only [Option.isSome_iff_exists, hnames, List.mem_append, Option.mem_toList, ← h.namedKeys]
      constructor
      · rintro ⟨x, (⟨e, _⟩ | hx)⟩
        · exact Or.inl e
        · exact Or.inr ⟨x, hx⟩
      · rintro (e | ⟨x, hx⟩)
        · exact ⟨id, Or.inl ⟨e, rfl⟩⟩
        · exact ⟨x, Or.inr hx⟩
    namedEnt := fun n' x => by
      rw [hnames, hpairs, h.namedEnt]
      simp only [List.mem_append, List.mem_singleton, Prod.mk.injEq]
      constructor
      · rintro (⟨e, rfl⟩ | ⟨l, hm, hl⟩)
        · exact ⟨_, Or.inr ⟨rfl, rfl⟩, e⟩
        · exact ⟨l, Or.inl hm, hl⟩
      · rintro ⟨l, (hm | ⟨rfl, rfl⟩), hl⟩
        · exact Or.inr ⟨l, hm, hl⟩
        · exact Or.inl ⟨hl, rfl⟩ }

end

theorem addRegs_map_lookup {es : List Src.Entry} {n : String} {R : List (Tag × Tag × Tag)} :
    (Src.addRegs es n R).map (·.lookup) = es.map (·.lookup) := by
  simp only [Src.addRegs, List.map_map]
  apply List.map_congr_left
  intro e _
  simp only [Function.comp]
  split <;> rfl

theorem addRegs_length (es : List Src.Entry) (n : String) (R : List (Tag × Tag × Tag)) :
    (Src.addRegs es n R).length = es.length := by simp [Src.addRegs]

theorem mem_zip_addRegs {es : List Src.Entry} {ids : List LookupId} {n : String} {R : List (Tag × Tag × Tag)}
    {e1 : Src.Entry} {id : LookupId} :
    (e1, id) ∈ (Src.addRegs es n R).zip ids ↔
      ∃ e, (e, id) ∈ es.zip ids ∧ e1 = (if e.lookup.name == some n then { e with regs := e.regs ++ R } else e) := by
  simp only [Src.addRegs, List.zip_map_left, List.mem_map, Prod.exists, Prod.map_apply, id_eq, Prod.mk.injEq]
  constructor
  · rintro ⟨e, id', hm, rfl, rfl⟩; exact ⟨e, hm, rfl⟩
  · rintro ⟨e, hm, rfl⟩; exact ⟨e, id, hm, rfl, rfl⟩

/-- the lookups the items define, references left out -/
def defLookups (items : List (Src.Reg × Src.Item)) : List Src.Lookup :=
  items.filterMap fun x => match x.2 with | .defn l => some l | .ref _ => none

theorem addItems_map_lookup (ls : List (Tag × Tag)) (tag : Tag) (body : List Stmt) (items : List (Src.Reg × Src.Item)) :
    ∀ es, (Src.addItems ls tag body es items).map (·.lookup) = es.map (·.lookup) ++ defLookups items := by
  induction items with
  | nil => intro es; simp [Src.addItems, defLookups]
  | cons x items ih =>
    intro es
    obtain ⟨reg, it⟩ := x
    cases it <;> simp [Src.addItems, ih, defLookups, addRegs_map_lookup]

theorem addItems_append (ls : List (Tag × Tag)) (tag : Tag) (body : List Stmt) (a b : List (Src.Reg × Src.Item)) :
    ∀ es, Src.addItems ls tag body es (a ++ b) = Src.addItems ls tag body (Src.addItems ls tag body es a) b := by
  induction a with
  | nil => intro es; rfl
  | cons x a ih =>
    intro es
    obtain ⟨reg, it⟩ := x
    cases it <;> simp only [List.cons_append, Src.addItems, ih]

/-- Registration on the source side, along the walk: the entries (`es`: those before the block with
    the items put out so far added) are registered for a key by the entries before the block (`es0`,
    `ids0`) or by an item event at a position registered for the key. -/
def RegsRel (ls : List (Tag × Tag)) (tag : Tag) (body : List Stmt) (es0 : List Src.Entry) (ids0 : List LookupId)
    (es : List Src.Entry) (ids : List LookupId) (evs : List Ev) : Prop :=
  ∀ key id, (∃ e, (e, id) ∈ es.zip ids ∧ key ∈ e.regs) ↔
    (∃ e, (e, id) ∈ es0.zip ids0 ∧ key ∈ e.regs) ∨ ∃ r, itemAt evs r id ∧ key ∈ Src.regsFor ls tag body r

section
variable {ls : List (Tag × Tag)} {tag : Tag} {body : List Stmt} {es0 : List Src.Entry} {ids0 : List LookupId}
  {es : List Src.Entry} {ids : List LookupId} {evs : List Ev}

theorem RegsRel.sys (h : RegsRel ls tag body es0 ids0 es ids evs) {sy : Sys} {ex : Bool} :
    RegsRel ls tag body es0 ids0 es ids (evs ++ [.sys sy ex]) := by
  intro key id; simp only [itemAt_snoc_sys]; exact h key id

theorem RegsRel.defn (h : RegsRel ls tag body es0 ids0 es ids evs) (hlen : es.length = ids.length) {l : Src.Lookup} {id : LookupId} :
    RegsRel ls tag body es0 ids0 (es ++ [⟨l, Src.regsFor ls tag body (regAfter .root evs)⟩]) (ids ++ [id]) (evs ++ [.item id]) := by
  intro key id'
  rw [List.zip_append hlen]
  simp only [List.mem_append, List.zip_cons_cons, List.zip_nil_right, List.mem_singleton, Prod.mk.injEq, itemAt_snoc_item,
    or_and_right, exists_or, h key id', or_assoc]
  refine or_congr Iff.rfl (or_congr Iff.rfl ?_)
  constructor
  · rintro ⟨e, ⟨rfl, rfl⟩, hk⟩; exact ⟨_, ⟨rfl, rfl⟩, hk⟩
  · rintro ⟨r, ⟨rfl, rfl⟩, hk⟩; exact ⟨_, ⟨rfl, rfl⟩, hk⟩

/-- a reference: the entry it names is the one with the id the name is bound to -/
theorem RegsRel.ref (h : RegsRel ls tag body es0 ids0 es ids evs) (n : String) (id0 : LookupId)
    (hn : ∀ id, (∃ e, (e, id) ∈ es.zip ids ∧ e.lookup.name = some n) ↔ id = id0) :
    RegsRel ls tag body es0 ids0 (Src.addRegs es n (Src.regsFor ls tag body (regAfter .root evs))) ids (evs ++ [.item id0]) := by
  intro key id
  simp only [itemAt_snoc_item, or_and_right, exists_or, ← or_assoc, ← h key id]
  constructor
  · rintro ⟨e1, hm, hk⟩
    obtain ⟨e, he, rfl⟩ := mem_zip_addRegs.mp hm
    split at hk
    · rename_i hc
      rcases List.mem_append.mp hk with hk | hk
      · exact Or.inl ⟨e, he, hk⟩
      · exact Or.inr ⟨_, ⟨(hn id).mp ⟨e, he, by simpa using hc⟩, rfl⟩, hk⟩
    · exact Or.inl ⟨e, he, hk⟩
  · rintro (⟨e, he, hk⟩ | ⟨r, ⟨rfl, rfl⟩, hk⟩)
    · refine ⟨_, mem_zip_addRegs.mpr ⟨e, he, rfl⟩, ?_⟩
      split
      · exact List.mem_append_left _ hk
      · exact hk
    · obtain ⟨e, he, hname⟩ := (hn id).mpr rfl
      refine ⟨_, mem_zip_addRegs.mpr ⟨e, he, rfl⟩, ?_⟩
      rw [if_pos (by simp [hname])]
      exact List.mem_append_right _ hk

end

end Fontc.FeaCompile
