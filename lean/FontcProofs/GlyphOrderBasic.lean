/-
  The IndexSet operations in terms of `firstOcc`, `erase` and append; sorting; the two source-side orderings
  (`ufoGlyphOrder`, `glyphsMakeOrder`) as "declared names that exist, then the rest".
-/
import FontcProofs.GlyphOrderSpec
import FontcProofs.ListFacts

namespace Fontc.GlyphOrder

theorem firstOcc_filter (p : String → Bool) : ∀ l : List String, firstOcc (l.filter p) = (firstOcc l).filter p
  | [] => by simp [firstOcc]
  | y :: ys => by
    have ih := firstOcc_filter p ys
    by_cases h : p y = true
    · -- `y` stays: dropping the later `y`s and filtering by `p` commute
      simp only [List.filter_cons_of_pos h, firstOcc, ih]
      congr 1
      simp only [List.filter_filter]
      apply List.filter_congr
      intro a _
      exact Bool.and_comm _ _
    · -- `y` goes: what `p` keeps is different from `y` anyway
      have h' : p y = false := by simpa using h
      simp only [List.filter_cons_of_neg h, firstOcc, ih]
      rw [List.filter_filter]
      apply List.filter_congr
      intro a _
      by_cases ha : a = y
      · subst ha; simp [h']
      · simp [ha]

theorem firstOcc_eq_eraseDups (l : List String) : firstOcc l = l.eraseDups := by
  induction hn : l.length using Nat.strongRecOn generalizing l with
  | _ n ih =>
    cases l with
    | nil => rfl
    | cons x xs =>
      rw [firstOcc, ← firstOcc_filter, List.eraseDups_cons,
        ih _ (by subst hn; exact Nat.lt_succ_of_le (List.length_filter_le _ _)) _ rfl]
      congr 2
      exact List.filter_congr fun a _ => by by_cases h : a = x <;> simp [h]

theorem mem_firstOcc {x : String} {l : List String} : x ∈ firstOcc l ↔ x ∈ l := by
  rw [firstOcc_eq_eraseDups, List.mem_eraseDups]

theorem firstOcc_nodup (l : List String) : (firstOcc l).Nodup := firstOcc_eq_eraseDups l ▸ nodup_eraseDups l

theorem firstOcc_of_nodup {l : List String} (h : l.Nodup) : firstOcc l = l :=
  (firstOcc_eq_eraseDups l).trans (eraseDups_of_nodup h)

theorem firstOcc_sublist : ∀ l : List String, (firstOcc l).Sublist l
  | [] => by simp [firstOcc]
  | y :: ys => by
    simp only [firstOcc]
    exact ((List.filter_sublist).trans (firstOcc_sublist ys)).cons_cons y

/-- The step of every loop that appends a name once and never again. -/
theorem firstOcc_filter_ne (p q : String → Bool) (x : String) (l : List String)
    (hq : ∀ a ∈ l, q a = (decide (a ≠ x) && p a)) :
    (firstOcc (l.filter p)).filter (· ≠ x) = firstOcc (l.filter q) := by
  rw [← firstOcc_filter, List.filter_filter]
  exact congrArg firstOcc (List.filter_congr fun a ha => (hq a ha).symm)

theorem ixExtend_nil (s : List String) : ixExtend s [] = s := rfl

theorem ixExtend_cons (s : List String) (x : String) (xs : List String) :
    ixExtend s (x :: xs) = ixExtend (ixInsert s x) xs := rfl

theorem ixInsert_of_not_mem {s : List String} {x : String} (h : x ∉ s) : ixInsert s x = s ++ [x] := by
  simp [ixInsert, h]

theorem ixInsert_of_mem {s : List String} {x : String} (h : x ∈ s) : ixInsert s x = s := by
  simp [ixInsert, h]

theorem ixExtend_eq : ∀ (xs s : List String), ixExtend s xs = s ++ firstOcc (xs.filter (· ∉ s))
  | [], s => by simp [ixExtend_nil, firstOcc]
  | x :: xs, s => by
    rw [ixExtend_cons, ixExtend_eq xs]
    by_cases hx : x ∈ s
    · rw [ixInsert_of_mem hx, List.filter_cons_of_neg (by simpa using hx)]
    · rw [ixInsert_of_not_mem hx, List.filter_cons_of_pos (by simpa using hx), firstOcc, List.append_assoc,
        List.singleton_append, firstOcc_filter_ne (· ∉ s) (· ∉ s ++ [x]) x xs]
      intro a _
      by_cases ha : a = x <;> simp [ha]

theorem ixExtend_nil_left (xs : List String) : ixExtend [] xs = firstOcc xs := by
  rw [ixExtend_eq, List.nil_append, List.filter_eq_self.mpr (by simp)]

theorem ixIndexOf_eq_idxOf? (x : String) (l : List String) : ixIndexOf x l = l.idxOf? x := by
  induction l with
  | nil => rfl
  | cons y ys ih => simp only [ixIndexOf, List.idxOf?_cons, ih, beq_iff_eq]

theorem ixIndexOf_eq_none {x : String} {l : List String} : ixIndexOf x l = none ↔ x ∉ l := by
  rw [ixIndexOf_eq_idxOf?]; exact List.idxOf?_eq_none_iff

theorem ixIndexOf_get {x : String} {l : List String} {i : Nat} (h : ixIndexOf x l = some i) : l[i]? = some x := by
  rw [ixIndexOf_eq_idxOf?, List.idxOf?, List.findIdx?_eq_some_iff_getElem] at h
  obtain ⟨hi, hx, _⟩ := h
  rw [List.getElem?_eq_getElem hi, eq_of_beq hx]

theorem ixIndexOf_eraseIdx {x : String} {l : List String} {i : Nat} (h : ixIndexOf x l = some i) :
    l.eraseIdx i = l.erase x := by
  rw [List.erase_eq_eraseIdx, ← ixIndexOf_eq_idxOf?, h]

theorem ixMoveToFront_indexOf {x : String} {l : List String} {i : Nat} (h : ixIndexOf x l = some i) :
    ixMoveToFront l i = x :: l.erase x := by
  unfold ixMoveToFront
  rw [ixIndexOf_get h]
  simp [ixIndexOf_eraseIdx h]

theorem ixMoveToFront_zero (l : List String) : ixMoveToFront l 0 = l := by
  cases l <;> rfl

/-- In every branch `set_glyph_id(name, 0)` moves the index it found to the front (`move_index(0, 0)` does nothing,
    so the `some 0` arms agree). -/
theorem setGlyphId0_eq (s : List String) (x : String) : setGlyphId0 s x = x :: s.erase x := by
  have hmove : ∀ (l : List String) (i : Nat), ixIndexOf x l = some i →
      (match i with | 0 => l | _ => ixMoveToFront l i) = x :: l.erase x := by
    intro l i h
    rw [← ixMoveToFront_indexOf h]
    cases i with
    | zero => exact (ixMoveToFront_zero l).symm
    | succ j => rfl
  unfold setGlyphId0
  cases h : ixIndexOf x s with
  | some i =>
    have := hmove s i h
    cases i <;> exact this
  | none =>
    -- `insert` appends the name; the second lookup finds it, wherever
    have hx : x ∉ s := ixIndexOf_eq_none.mp h
    have herase : (s ++ [x]).erase x = s.erase x := by
      rw [List.erase_append_right _ hx, List.erase_cons_head, List.append_nil, List.erase_of_not_mem hx]
    simp only [ixInsert_of_not_mem hx]
    cases hi : ixIndexOf x (s ++ [x]) with
    | none => exact absurd (List.mem_append_right s (List.mem_singleton_self x)) (ixIndexOf_eq_none.mp hi)
    | some i =>
      have := herase ▸ hmove (s ++ [x]) i hi
      cases i <;> exact this

theorem sortNames_perm (l : List String) : (sortNames l).Perm l := List.mergeSort_perm l _

theorem mem_sortNames {x : String} {l : List String} : x ∈ sortNames l ↔ x ∈ l :=
  (sortNames_perm l).mem_iff

theorem sortNames_nodup {l : List String} (h : l.Nodup) : (sortNames l).Nodup :=
  (sortNames_perm l).nodup_iff.mpr h

theorem sortNames_sorted_lt {l : List String} (hnd : l.Nodup) : (sortNames l).Pairwise (· < ·) := by
  have hle := List.pairwise_mergeSort (le := fun (a b : String) => decide (a ≤ b))
    (fun a b c hab hbc => by simpa using String.le_trans (by simpa using hab) (by simpa using hbc))
    (fun a b => by
      rcases String.le_total a b with h | h
      · simp [h]
      · simp [h]) l
  refine pairwise_strict_of_nodup (le := (· ≤ ·)) (fun {a b} hab hne => ?_) id (hle.imp (by simpa using ·))
    (by simpa using sortNames_nodup hnd)
  exact Decidable.byContradiction fun h => hne (String.le_antisymm hab (String.not_lt.mp h))

/-- The shape both source-side orderings have (`ufoGlyphOrder_eq`, `glyphsMakeOrder_eq`): the declared names that
    exist, then the undeclared names in some order. -/
theorem declared_rest_perm {dn names rest : List String} (hn : names.Nodup)
    (hr : rest.Perm (names.filter (· ∉ dn))) : (firstOcc (dn.filter (· ∈ names)) ++ rest).Perm names := by
  have hmem : ∀ a, a ∈ rest ↔ a ∈ names ∧ a ∉ dn := fun a => by simp [hr.mem_iff]
  -- both sides are duplicate-free with the same members
  have hnd : (firstOcc (dn.filter (· ∈ names)) ++ rest).Nodup := by
    rw [List.nodup_append]
    refine ⟨firstOcc_nodup _, hr.nodup_iff.mpr (hn.sublist List.filter_sublist), ?_⟩
    intro a ha b hb hab
    subst hab
    have h1 := mem_firstOcc.mp ha
    simp only [List.mem_filter, decide_eq_true_eq] at h1
    exact ((hmem a).mp hb).2 h1.1
  apply (List.perm_ext_iff_of_nodup hnd hn).mpr
  intro a
  simp only [List.mem_append, mem_firstOcc, hmem, List.mem_filter, decide_eq_true_eq]
  constructor
  · rintro (h | h)
    · exact h.2
    · exact h.1
  · intro h
    by_cases hd : a ∈ dn
    · exact Or.inl ⟨hd, h⟩
    · exact Or.inr ⟨h, hd⟩

theorem ufoGlyphOrder_eq (declared : Option (List (Option String))) {names : List String} (hn : names.Nodup) :
    ufoGlyphOrder declared names =
      firstOcc ((declaredNames declared).filter (· ∈ names)) ++
      sortNames (names.filter (· ∉ declaredNames declared)) := by
  unfold ufoGlyphOrder declaredNames
  generalize (declared.getD []).filterMap id = dn
  simp only
  -- the pending set is disjoint from what was inserted
  have hpend : names.filter (· ∉ dn.filter (· ∈ names)) = names.filter (· ∉ dn) :=
    List.filter_congr fun a ha => by simp [List.mem_filter, ha]
  have hdisj : (sortNames (names.filter (· ∉ dn))).filter (· ∉ firstOcc (dn.filter (· ∈ names))) =
      sortNames (names.filter (· ∉ dn)) := by
    apply List.filter_eq_self.mpr
    intro a ha
    have ha' := mem_sortNames.mp ha
    simp only [List.mem_filter, decide_eq_true_eq] at ha'
    simp [mem_firstOcc, List.mem_filter, ha'.2]
  rw [hpend, ixExtend_nil_left, ixExtend_eq, hdisj,
    firstOcc_of_nodup (sortNames_nodup (hn.sublist List.filter_sublist))]
  split
  · -- an empty order lists every name: there is none, and the fallback adds nothing
    rename_i hempty
    have hp := declared_rest_perm (dn := dn) hn (sortNames_perm _)
    rw [List.isEmpty_iff.mp hempty] at hp ⊢
    rw [← hp.nil_eq]
    rfl
  · rfl

theorem ufoGlyphOrder_perm (declared : Option (List (Option String))) {names : List String} (hn : names.Nodup) :
    (ufoGlyphOrder declared names).Perm names := by
  rw [ufoGlyphOrder_eq declared hn]
  exact declared_rest_perm hn (sortNames_perm _)

theorem takeValid_eq : ∀ (custom valid acc : List String),
    takeValid valid custom acc = acc ++ firstOcc (custom.filter (· ∈ valid))
  | [], valid, acc => by simp [takeValid, firstOcc]
  | n :: rest, valid, acc => by
    unfold takeValid
    by_cases hn : n ∈ valid
    · rw [if_pos hn, takeValid_eq rest, List.filter_cons_of_pos (by simpa using hn), firstOcc, List.append_assoc,
        List.singleton_append, firstOcc_filter_ne (· ∈ valid) (· ∈ valid.filter (· ≠ n)) n rest]
      intro a _
      simp [List.mem_filter, and_comm]
    · rw [if_neg hn, takeValid_eq rest, List.filter_cons_of_neg (by simpa using hn)]

theorem glyphsMakeOrder_eq (custom : Option (List String)) (file : List String) :
    glyphsMakeOrder custom file =
      firstOcc ((custom.getD []).filter (· ∈ file)) ++ file.filter (· ∉ custom.getD []) := by
  unfold glyphsMakeOrder
  simp only [takeValid_eq, List.nil_append]
  congr 1
  apply List.filter_congr
  intro a ha
  simp [mem_firstOcc, List.mem_filter, ha]

theorem glyphsMakeOrder_perm (custom : Option (List String)) {file : List String} (hn : file.Nodup) :
    (glyphsMakeOrder custom file).Perm file := by
  rw [glyphsMakeOrder_eq]
  exact declared_rest_perm hn (List.Perm.refl _)

theorem glyphsGlyphOrder_eq (custom : Option (List String)) {file : List String} (hn : file.Nodup) :
    glyphsGlyphOrder custom file = glyphsMakeOrder custom file := by
  unfold glyphsGlyphOrder
  rw [ixExtend_nil_left]
  exact firstOcc_of_nodup ((glyphsMakeOrder_perm custom hn).nodup_iff.mpr hn)

end Fontc.GlyphOrder
