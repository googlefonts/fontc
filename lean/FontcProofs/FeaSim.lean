/-
  C11 simulation: the walk through a feature block.  One relation (`FSim`) ties the source walk
  (`Src.walkStmt`, with the entries of the source as `Src.addItems` leaves them) to the compilation
  context (`St.stmt`); every statement preserves it.
-/
import FontcProofs.FeaDefs

namespace Fontc.FeaCompile
open Cmp

/-- a feature block under compilation: the block, the declared language systems (`ls` for the source
    semantics, `dls` in the compilation context), and the entries, their ids and the state at its start -/
structure Feat where
  fx : Fixes
  U : List (List Glyph)
  ls : List (Tag × Tag)
  tag : Tag
  body : List Stmt
  dls : List Sys
  es0 : List Src.Entry
  ids0 : List LookupId
  s0 : St

/-- the part of the invariant of the walk that concerns the items put out so far: the entries of the
    source with these items added, their ids (`Defs`), their registrations (`RegsRel`), and the events
    `ActiveFeature` has seen -/
structure FOut (B : Feat) (wout : List (Src.Reg × Src.Item)) (s : St) (evs : List Ev) (ids : List LookupId)
    (used : List String) : Prop where
  defs : Defs B.fx B.U (Src.addItems B.ls B.tag B.body B.es0 wout) ids s used
  ctx : s.langsys = B.s0.langsys ∧ s.features = B.s0.features
  active : s.active = some (evs.foldl evStep (a0 B.tag B.dls))
  regs : RegsRel B.ls B.tag B.body B.es0 B.ids0 (Src.addItems B.ls B.tag B.body B.es0 wout) ids evs

section
variable {B : Feat} {wout : List (Src.Reg × Src.Item)} {s s' : St} {evs : List Ev} {ids : List LookupId} {used : List String}

theorem FOut.frame (h : FOut B wout s evs ids used)
    (hg : Grew s s') (hnamed : s'.named = s.named) (hact : s'.active = s.active)
    (hls : s'.langsys = s.langsys) (hfe : s'.features = s.features)
    (hids : IdsInv s') (hU : ∀ c ∈ s'.attachIds, c ∈ B.U) :
    FOut B wout s' evs ids used :=
  { h with
    defs := h.defs.frame hg hnamed hids hU
    ctx := ⟨hls.trans h.ctx.1, hfe.trans h.ctx.2⟩
    active := hact.trans h.active }

theorem FOut.flush (h : FOut B wout s evs ids used) {reg : Src.Reg} {f wflag : Flag} {rules : List Rule}
    (hrun : RunRel B.fx (some (reg, f, rules)) wflag s) {name : Option String} (hname : s.curName = name)
    (hfresh : ∀ n, name = some n → n ∉ used) :
    FOut B (wout ++ [(regAfter .root evs, .defn ⟨name, f, rules⟩)]) s.flush
      (evs ++ [.item (nextId s (headKind rules).isPos)]) (ids ++ [nextId s (headKind rules).isPos]) (name.toList ++ used) := by
  have hadd : Src.addItems B.ls B.tag B.body B.es0 (wout ++ [(regAfter .root evs, .defn ⟨name, f, rules⟩)]) =
      Src.addItems B.ls B.tag B.body B.es0 wout ++ [⟨⟨name, f, rules⟩, Src.regsFor B.ls B.tag B.body (regAfter .root evs)⟩] := by
    rw [addItems_append]; rfl
  have hc := flush_sameCtx s
  exact {
    defs := hadd ▸ h.defs.flush hrun hname hfresh _
    ctx := ⟨hc.langsys.trans h.ctx.1, hc.features.trans h.ctx.2⟩
    active := by
      obtain ⟨_, _, _, cf, hscur, _⟩ := hrun
      rw [flush_active hscur, foldl_add_new_kind, h.active, List.foldl_append]; rfl
    regs := hadd ▸ h.regs.defn h.defs.len }

theorem FOut.ref (h : FOut B wout s evs ids used) {n : String} (hn : n ∈ used) :
    ∃ id, s.addToFeature (s.namedId n) = { s with active := addIdToActive s.active id } ∧
      FOut B (wout ++ [(regAfter .root evs, .ref n)]) { s with active := addIdToActive s.active id }
        (evs ++ [.item id]) ids used := by
  have hsome := (h.defs.namedKeys n).mpr hn
  cases hq : s.named.lookup n with
  | none => rw [hq] at hsome; cases hsome
  | some id =>
    obtain ⟨l0, hm0, hl0⟩ := (h.defs.namedEnt n id).mp hq
    have hbel := h.defs.below id (List.of_mem_zip hm0).2
    refine ⟨id, ?_, ?_⟩
    · simp only [St.namedId, hq, Option.getD_some, St.addToFeature, h.active, addIdToActive, Option.map_some]
      cases id with
      | empty => exact absurd hbel (by simp [idBelow])
      | gsub k => rfl
      | gpos k => rfl
    · have hadd : Src.addItems B.ls B.tag B.body B.es0 (wout ++ [(regAfter .root evs, .ref n)]) =
          Src.addRegs (Src.addItems B.ls B.tag B.body B.es0 wout) n (Src.regsFor B.ls B.tag B.body (regAfter .root evs)) := by
        rw [addItems_append]; rfl
      exact {
        defs := hadd ▸ (h.defs.frame (s' := { s with active := addIdToActive s.active id }) (Grew.refl s) rfl h.defs.idsInv
          h.defs.attachU).congr addRegs_map_lookup
        ctx := h.ctx
        active := by
          show addIdToActive s.active id = _
          rw [h.active, List.foldl_append]; rfl
        regs := hadd ▸ h.regs.ref n id fun id' => by
          rw [← Option.some_inj, ← hq, eq_comm, h.defs.namedEnt n id']
          constructor
          · rintro ⟨e, he, hn⟩; exact ⟨e.lookup, mem_entPairs_of_zip he, hn⟩
          · rintro ⟨l, hm, hn⟩
            obtain ⟨e, he, rfl⟩ := zip_of_mem_entPairs hm
            exact ⟨e, he, hn⟩ }

/-- a `script` / `language` statement (after the current lookup has been flushed) -/
theorem FOut.sys (h : FOut B wout s evs ids used) (sys : Sys) (ex : Bool) :
    FOut B wout { s with active := s.active.map (·.setSystem sys ex) } (evs ++ [.sys sys ex]) ids used :=
  { h with
    defs := h.defs.frame (Grew.refl s) rfl h.defs.idsInv h.defs.attachU
    active := by
      show s.active.map (·.setSystem sys ex) = _
      rw [h.active, List.foldl_append]; rfl
    regs := h.regs.sys }

end

/-- the script in force at a position -/
def regScript : Src.Reg → Tag
  | .root => "DFLT"
  | .script s => s
  | .lang s _ => s

/-- the language systems a statement enters -/
def stmtSys1 (cur : Tag) : Stmt → List (Sys × Bool)
  | .script t => [((t, "dflt"), false)]
  | .language l ex => [((cur, l), ex)]
  | _ => []

/-- the script in force after a statement; `cur` is the one before it -/
def scriptAfterStmt (cur : Tag) : Stmt → Tag
  | .script t => t
  | _ => cur

/-- the language systems the statements enter, in order; `cur` is the script in force before them -/
def stmtSys (cur : Tag) : List Stmt → List (Sys × Bool)
  | [] => []
  | st :: rest => stmtSys1 cur st ++ stmtSys (scriptAfterStmt cur st) rest

/-- The simulation relation between the source walk through a feature block and the compilation
    context: the run in progress (`RunRel`), the position with respect to `script` / `language`
    statements, and what has been put out (`FOut`). -/
structure FSim (B : Feat) (w : Src.Walk) (s : St) (evs : List Ev) (ids : List LookupId) (used : List String) : Prop where
  rel : RunRel B.fx w.cur w.flag s
  normFlag : FlagNorm w.flag
  normCur : ∀ reg f rules, w.cur = some (reg, f, rules) → FlagNorm f
  reg : w.reg = regAfter .root evs
  curReg : ∀ reg f rules, w.cur = some (reg, f, rules) → reg = w.reg
  script : s.script.getD "DFLT" = regScript w.reg
  curName : s.curName = none
  o : FOut B w.out s evs ids used

section
variable {B : Feat} {w : Src.Walk} {s : St} {evs : List Ev} {ids : List LookupId} {used : List String}

theorem sim_flush (h : FSim B w s evs ids used) :
    ∃ evs' ids', FSim B w.flush s.flush evs' ids' used ∧ sysEvs evs' = sysEvs evs := by
  obtain ⟨hflag, hcur⟩ := h.rel
  cases hwc : w.cur with
  | none =>
    rw [hwc] at hcur
    have hw : w.flush = w := by simp [Src.Walk.flush, hwc]
    rw [flush_of_cur_none hcur, hw]
    exact ⟨evs, ids, h, rfl⟩
  | some p =>
    obtain ⟨reg, f, rules⟩ := p
    obtain rfl : reg = w.reg := h.curReg reg f rules hwc
    have hw : w.flush = { w with cur := none, out := w.out ++ [(w.reg, .defn ⟨none, f, rules⟩)] } := by
      simp [Src.Walk.flush, hwc]
    have hc := flush_sameCtx s
    have ho := h.o.flush (hwc ▸ h.rel) h.curName (fun n e => by cases e)
    refine ⟨evs ++ [.item (nextId s (headKind rules).isPos)], ids ++ [nextId s (headKind rules).isPos], ?_, sysEvs_snoc_item evs _⟩
    rw [hw]
    exact { h with
      rel := ⟨by rw [hc.flag, hc.attachIds, hc.filterIds]; exact hflag, flush_cur⟩
      normCur := by simp
      reg := by simp only [regAfter_append, regAfter]; exact h.reg
      curReg := by simp
      script := by rw [hc.script]; exact h.script
      curName := flush_curName s fun _ => h.curName
      o := by rw [h.reg]; exact ho }

theorem sim_flag (h : FSim B w s evs ids used) {f : Flag} (hnf : FlagNorm f)
    (hU : ∀ c, f.attach = some c → sortedSet c ∈ B.U) :
    FSim B (Src.walkStmt w (.flag f)) (s.stmt B.fx (.flag f)) evs ids used := by
  obtain ⟨_, hids, hgrew, ⟨_, _, hcn, hn, hl, hact, hsc, hfe⟩, hattU⟩ := setLookupFlag_spec f h.o.defs.idsInv
  simp only [Src.walkStmt, St.stmt]
  exact { h with
    rel := flag_step h.rel h.o.defs.idsInv f
    normFlag := hnf
    script := by rw [hsc]; exact h.script
    curName := hcn.trans h.curName
    o := h.o.frame hgrew hn hact hl hfe hids (hattU B.U h.o.defs.attachU hU) }

/-- `hmix`: the rule does not mix with the run in progress (no single rule next to a multiple / ligature
    rule under one flag). -/
theorem sim_rule (h : FSim B w s evs ids used) {r : Rule}
    (hmix : ∀ reg f rules, w.cur = some (reg, f, rules) → f = w.flag → Wf.mixes (headKind rules) r.kind = false) :
    ∃ evs' ids', FSim B (Src.walkStmt w (.rule r)) (s.stmt B.fx (.rule r)) evs' ids' used ∧
      sysEvs evs' = sysEvs evs := by
  obtain ⟨hflag, hcur⟩ := h.rel
  obtain ⟨hA, hF⟩ := h.o.defs.idsInv
  simp only [St.stmt]
  by_cases hjoin : ∃ reg f rules, w.cur = some (reg, f, rules) ∧ f = w.flag ∧ headKind rules = r.kind
  · obtain ⟨reg, f, rules, hwc, hf, hk⟩ := hjoin
    rw [hwc] at hcur
    obtain ⟨hne, hkinds, cf, hscur, hcf⟩ := hcur
    have hw : Src.walkStmt w (.rule r) = { w with cur := some (reg, f, rules ++ [r]) } := by
      simp [Src.walkStmt, hwc, hf, head?_map_kind hne, hk]
    rw [hw, addRule_join B.fx s hscur (foldl_add_new_kind.trans hk) (FlagCode.functional hA hF hcf (hf ▸ hflag))]
    refine ⟨evs, ids, ?_, rfl⟩
    exact { h with
      rel := ⟨hflag, by simp, fun r' hr' => by
          rw [headKind_append hne]
          rcases List.mem_append.mp hr' with h' | h'
          · exact hkinds r' h'
          · simp at h'; subst h'; exact hk.symm,
        cf, by simp [headKind_append hne, List.foldl_append]; rfl, hcf⟩
      normCur := fun _ _ _ e => by cases e; exact h.normCur _ _ _ hwc
      curReg := fun _ _ _ e => by cases e; exact h.curReg _ _ _ hwc
      o := h.o.frame (Grew.refl s) rfl rfl rfl rfl h.o.defs.idsInv h.o.defs.attachU }
  · -- the conditions under which the compilation context keeps its current lookup are those under
    -- which the source walk extends its run: codes of normalised flags are injective
    have hnot : ∀ reg f rules, w.cur = some (reg, f, rules) → ¬ (f = w.flag ∧ headKind rules = r.kind) :=
      fun reg f rules hwc hh => hjoin ⟨reg, f, rules, hwc, hh.1, hh.2⟩
    have hsrc : ∀ cf b, s.cur = some (cf, b) → cf = s.flag →
        ∃ reg rules, w.cur = some (reg, w.flag, rules) ∧ b.kind = headKind rules := by
      intro cf b hsc hfl
      cases hwc : w.cur with
      | none => rw [hwc] at hcur; rw [show s.cur = none from hcur] at hsc; cases hsc
      | some p =>
        obtain ⟨reg, f, rules⟩ := p
        rw [hwc] at hcur
        obtain ⟨_, _, cf', hscur, hcf⟩ := hcur
        rw [hscur] at hsc
        cases hsc
        obtain rfl : f = w.flag := FlagCode.injective (h.normCur reg f rules hwc) h.normFlag hcf (hfl ▸ hflag)
        exact ⟨reg, rules, rfl, foldl_add_new_kind⟩
    have hne' : ∀ cf b, s.cur = some (cf, b) → s.curName = none ∧ ¬ (b.kind = r.kind ∧ cf = s.flag) := by
      refine fun cf b hsc => ⟨h.curName, ?_⟩
      rintro ⟨hk, hfl⟩
      obtain ⟨reg, rules, hwc, hbk⟩ := hsrc cf b hsc hfl
      exact hnot reg _ rules hwc ⟨rfl, hbk ▸ hk⟩
    have hnm : NoMerge s r := by
      unfold NoMerge
      split
      · trivial
      · rename_i cf b hsc
        intro hfl
        obtain ⟨reg, rules, hwc, hbk⟩ := hsrc cf b hsc hfl
        rw [hbk]; exact hmix reg _ rules hwc rfl
    have hw : Src.walkStmt w (.rule r) = { w.flush with cur := some (w.flush.reg, w.flush.flag, [r]) } := by
      cases hwc : w.cur with
      | none => simp [Src.walkStmt, hwc, Src.Walk.flush]
      | some p =>
        obtain ⟨reg, f, rules⟩ := p
        simp only [Src.walkStmt, hwc]
        rw [if_neg]
        rintro ⟨h1, h2⟩
        have hne : rules ≠ [] := by have := hcur; rw [hwc] at this; exact this.1
        exact hnot reg f rules hwc ⟨h1, Option.some.inj ((head?_map_kind hne).symm.trans h2)⟩
    obtain ⟨evs', ids', h1, he⟩ := sim_flush h
    rw [hw, addRule_start B.fx s r hnm hne']
    refine ⟨evs', ids', ?_, he⟩
    exact { h1 with
      rel := ⟨h1.rel.1, by simp, by simp [headKind], s.flush.flag, by simp [headKind, (flush_sameCtx s).flag]; rfl, h1.rel.1⟩
      normCur := fun _ _ _ e => by cases e; exact h1.normFlag
      curReg := fun _ _ _ e => by cases e; rfl
      o := h1.o.frame (Grew.refl _) rfl rfl rfl rfl h1.o.defs.idsInv h1.o.defs.attachU }

theorem sim_ref (h : FSim B w s evs ids used) {n : String} (hn : n ∈ used) :
    ∃ evs' ids', FSim B (Src.walkStmt w (.ref n)) (s.stmt B.fx (.ref n)) evs' ids' used ∧
      sysEvs evs' = sysEvs evs := by
  obtain ⟨id, hs', ho⟩ := h.o.ref hn
  simp only [St.stmt, Src.walkStmt, hs']
  refine ⟨evs ++ [.item id], ids, ?_, sysEvs_snoc_item evs id⟩
  exact { h with
    reg := by simp only [regAfter_append, regAfter]; exact h.reg
    o := by rw [h.reg]; exact ho }

theorem sim_script (h : FSim B w s evs ids used) {t : Tag} (hnot : w.reg ≠ .script t) :
    ∃ evs' ids', FSim B (Src.walkStmt w (.script t)) (s.stmt B.fx (.script t)) evs' ids' used ∧
      sysEvs evs' = sysEvs evs ++ [((t, "dflt"), false)] := by
  have hcond : ((s.active.bind (·.curSys)) == some (t, "dflt")) = false := by
    rw [h.o.active]
    simp only [Option.bind_some, curSys_a0]
    rw [Bool.eq_false_iff]
    intro e
    apply hnot
    rw [h.reg, regAfter_root, beq_iff_eq.mp e]
    simp [regOfCur, regOfSys]
  obtain ⟨evs1, ids1, h1, hsys1⟩ := sim_flush h
  have hstate : s.stmt B.fx (.script t) =
      { s.flush with script := some t, flag := (0, none), active := s.flush.active.map (·.setSystem (t, "dflt") false) } := by
    simp only [St.stmt, hcond, Bool.false_eq_true, ↓reduceIte, St.setScriptLanguage, St.clearFlags]
    rw [finishAndAdd_eq ({ s with script := some t, flag := (0, none) } : St) fun _ => h.curName, flush_script_flag]
  have hwalk : Src.walkStmt w (.script t) = { w.flush with reg := .script t, flag := {} } := rfl
  rw [hstate, hwalk]
  refine ⟨evs1 ++ [.sys (t, "dflt") false], ids1, ?_, by rw [sysEvs_snoc_sys, hsys1]⟩
  have ho := h1.o.sys (t, "dflt") false
  exact { h1 with
    rel := ⟨flagCode_empty, by rw [w.flush_cur]; exact flush_cur⟩
    normFlag := ⟨by simp, by simp⟩
    reg := by simp [regAfter_append, regAfter, regOfSys]
    curReg := by intro reg f rules hh; rw [w.flush_cur] at hh; cases hh
    script := rfl
    o := ho.frame (Grew.refl _) rfl rfl rfl rfl ho.defs.idsInv ho.defs.attachU }

theorem sim_language (h : FSim B w s evs ids used) (l : Tag) (ex : Bool) :
    ∃ evs' ids', FSim B (Src.walkStmt w (.language l ex)) (s.stmt B.fx (.language l ex)) evs' ids' used ∧
      sysEvs evs' = sysEvs evs ++ [((regScript w.reg, l), ex)] := by
  obtain ⟨evs1, ids1, h1, hsys1⟩ := sim_flush h
  obtain ⟨hwreg, hwflag⟩ := w.flush_reg_flag
  have hstate : s.stmt B.fx (.language l ex) =
      { s.flush with active := s.flush.active.map (·.setSystem (regScript w.reg, l) ex) } := by
    simp only [St.stmt, St.setScriptLanguage, h.script, finishAndAdd_eq s fun _ => h.curName]
  have hwalk : Src.walkStmt w (.language l ex) = { w.flush with reg := regOfSys (regScript w.reg, l) } := by
    simp only [Src.walkStmt, regOfSys, hwreg]
    cases w.reg <;> rfl
  rw [hstate, hwalk]
  refine ⟨evs1 ++ [.sys (regScript w.reg, l) ex], ids1, ?_, by rw [sysEvs_snoc_sys, hsys1]⟩
  exact { h1 with
    reg := by simp [regAfter_append, regAfter]
    curReg := by intro reg f rules hh; rw [w.flush_cur] at hh; cases hh
    script := by
      show s.flush.script.getD "DFLT" = regScript (regOfSys (regScript w.reg, l))
      rw [(flush_sameCtx s).script, h.script]
      simp only [regOfSys]
      split <;> rfl
    o := h1.o.sys (regScript w.reg, l) ex }

/-- A lookup block inside a feature block: the current lookup is flushed, the statements of the block leave its rules as the
    run in progress (`block_run`), and the closing `finish_current` flushes that run under the name of the block (`FOut.flush`). -/
theorem sim_lookup (h : FSim B w s evs ids used) {n : String} {body : List BStmt} (hb : BlockOk B.U body)
    (hname : n ∉ used) :
    ∃ evs' ids', FSim B (Src.walkStmt w (.lookup n body)) (s.stmt B.fx (.lookup n body)) evs' ids' (n :: used) ∧
      sysEvs evs' = sysEvs evs := by
  obtain ⟨evs1, ids1, h1, hsys1⟩ := sim_flush h
  have hact1 := h1.o.active
  obtain ⟨hrun, hi, hu, hg, same⟩ :=
    block_run (s := { s.flush with curName := some n }) hb (w.flush_cur ▸ h1.rel) h1.o.defs.idsInv h1.o.defs.attachU w.flush.reg
  generalize hs2 : body.foldl (St.blockStmt B.fx) { s.flush with curName := some n } = s2 at hrun hi hu hg same
  have ho := (h1.o.frame hg same.named same.active same.langsys same.features hi hu).flush hrun same.curName
    (fun n' e => by cases e; exact hname)
  have hstate : s.stmt B.fx (.lookup n body) = s2.flush := by
    have e1 : (if s.flush.active.isNone then s.flush.clearFlags else s.flush) = s.flush := by rw [hact1]; rfl
    simp only [St.stmt, lookupBlock_eq, finishAndAdd_eq s fun _ => h.curName, e1]
    rw [hs2, finishAndAdd_eq s2 fun e => absurd e hrun.cur_ne, if_pos]
    rw [ho.active]; rfl
  have hwalk : Src.walkStmt w (.lookup n body) =
      { w.flush with out := w.flush.out ++ [(w.flush.reg, .defn ⟨some n, Src.blockFlag w.flush.flag body, Src.blockRules body⟩)],
                     flag := Src.blockFlagAfter w.flush.flag body } := rfl
  rw [hstate, hwalk]
  have hc := flush_sameCtx s2
  refine ⟨evs1 ++ [.item (nextId s2 (headKind (Src.blockRules body)).isPos)],
    ids1 ++ [nextId s2 (headKind (Src.blockRules body)).isPos], ?_, by rw [sysEvs_snoc_item, hsys1]⟩
  exact { h1 with
    rel := ⟨by rw [hc.flag, hc.attachIds, hc.filterIds]; exact hrun.1, by simp only [w.flush_cur]; exact flush_cur⟩
    normFlag := hb.flagNorm h1.normFlag
    reg := by simp only [regAfter_append, regAfter]; exact h1.reg
    script := by rw [hc.script]; exact (congrArg (·.getD "DFLT") same.script).trans h1.script
    curName := flush_curName s2 fun e => absurd e hrun.cur_ne
    o := by rw [h1.reg]; exact ho }

end

/-- the lookup names defined once the statements are through -/
def namesAfter : List String → List Stmt → List String
  | used, [] => used
  | used, .lookup n _ :: rest => namesAfter (n :: used) rest
  | used, _ :: rest => namesAfter used rest

/-- what a statement has to satisfy when the walk is in state `w` and the names `used` are defined -/
def StmtOk (U : List (List Glyph)) (w : Src.Walk) (used : List String) : Stmt → Prop
  | .flag f => FlagNorm f ∧ ∀ c, f.attach = some c → sortedSet c ∈ U
  | .rule r => ∀ reg f rules, w.cur = some (reg, f, rules) → f = w.flag → Wf.mixes (headKind rules) r.kind = false
  | .ref n => n ∈ used
  | .lookup n body => n ∉ used ∧ BlockOk U body
  | .script t => w.reg ≠ .script t
  | .language _ _ => True

/-- `StmtOk` of every statement, in the state of the walk and with the names defined when it is reached -/
def BodyOk (U : List (List Glyph)) : Src.Walk → List String → List Stmt → Prop
  | _, _, [] => True
  | w, used, st :: rest => StmtOk U w used st ∧ BodyOk U (Src.walkStmt w st) (namesAfter used [st]) rest

theorem namesAfter_cons (used : List String) (st : Stmt) (rest : List Stmt) :
    namesAfter used (st :: rest) = namesAfter (namesAfter used [st]) rest := by
  cases st <;> rfl

theorem regScript_walkStmt (w : Src.Walk) (st : Stmt) :
    regScript (Src.walkStmt w st).reg = scriptAfterStmt (regScript w.reg) st := by
  have hfl := w.flush_reg_flag.1
  cases st with
  | script t => rfl
  | language l ex =>
    simp only [Src.walkStmt, scriptAfterStmt, hfl]
    split <;> cases w.reg <;> rfl
  | flag f => rfl
  | rule r =>
    simp only [Src.walkStmt, scriptAfterStmt]
    split
    · split
      · rfl
      · simp only [hfl]
    · rfl
  | lookup n body => simp only [Src.walkStmt, scriptAfterStmt, hfl]
  | ref n => rfl

theorem sim_body {B : Feat} {stmts : List Stmt} :
    ∀ {w : Src.Walk} {s : St} {evs : List Ev} {ids : List LookupId} {used : List String},
    FSim B w s evs ids used → BodyOk B.U w used stmts →
    ∃ evs' ids', FSim B (stmts.foldl Src.walkStmt w) (stmts.foldl (St.stmt B.fx) s) evs' ids'
        (namesAfter used stmts) ∧
      sysEvs evs' = sysEvs evs ++ stmtSys (regScript w.reg) stmts := by
  induction stmts with
  | nil => intro w s evs ids used h _; exact ⟨evs, ids, h, by simp [stmtSys]⟩
  | cons st stmts ih =>
    intro w s evs ids used h hok
    obtain ⟨hst, hrest⟩ := hok
    have step : ∃ evs1 ids1, FSim B (Src.walkStmt w st) (s.stmt B.fx st) evs1 ids1 (namesAfter used [st]) ∧
        sysEvs evs1 = sysEvs evs ++ stmtSys1 (regScript w.reg) st := by
      cases st with
      | flag f => exact ⟨evs, ids, sim_flag h hst.1 hst.2, by simp [stmtSys1]⟩
      | rule r =>
        obtain ⟨e, i, h1, h2⟩ := sim_rule h hst
        exact ⟨e, i, h1, by simp [stmtSys1, h2]⟩
      | ref n =>
        obtain ⟨e, i, h1, h2⟩ := sim_ref h hst
        exact ⟨e, i, h1, by simp [stmtSys1, h2]⟩
      | lookup n b =>
        obtain ⟨e, i, h1, h2⟩ := sim_lookup h hst.2 hst.1
        exact ⟨e, i, h1, by simp [stmtSys1, h2]⟩
      | script t =>
        obtain ⟨e, i, h1, h2⟩ := sim_script h hst
        exact ⟨e, i, h1, by simp [stmtSys1, h2]⟩
      | language l ex =>
        obtain ⟨e, i, h1, h2⟩ := sim_language h l ex
        exact ⟨e, i, h1, by simp [stmtSys1, h2]⟩
    obtain ⟨evs1, ids1, h1, hs1⟩ := step
    obtain ⟨evs2, ids2, h2, hs2⟩ := ih h1 hrest
    refine ⟨evs2, ids2, ?_, ?_⟩
    · rw [namesAfter_cons]; exact h2
    · rw [hs2, hs1, regScript_walkStmt, List.append_assoc]; rfl

end Fontc.FeaCompile
