/-
  C11: the events `ActiveFeature` is fed while a feature block is compiled — changes of language
  system and lookups — and the language systems a list of events enters (`sysEvs`, `curOf`, `seenOf`),
  with the position of the source walk (`Src.Reg`) they correspond to (`regOfSys`, `regOfCur`).
-/
import FontcModel.FeaCompile

namespace Fontc.FeaCompile
open Cmp

/-- what `ActiveFeature` sees: a change of language system, or a lookup -/
inductive Ev where
  | sys (s : Sys) (excl : Bool)
  | item (id : LookupId)
  deriving Repr, DecidableEq

/-- what one event does to `ActiveFeature` (`set_system`, `add_lookup`) -/
def evStep (a : Active) : Ev → Active
  | .sys s ex => a.setSystem s ex
  | .item id => a.addLookup id

/-- the position of the source walk once language system `s` is entered (`script S;` enters `S/dflt`) -/
def regOfSys (s : Sys) : Src.Reg := if s.2 == "dflt" then .script s.1 else .lang s.1 s.2

theorem regOfSys_eq_lang {s : Sys} {S L : Tag} (h : regOfSys s = .lang S L) : s = (S, L) ∧ L ≠ "dflt" := by
  unfold regOfSys at h
  split at h
  · cases h
  · rename_i hne
    cases h
    exact ⟨rfl, by simpa using hne⟩

theorem regOfSys_eq_script {s : Sys} {S : Tag} (h : regOfSys s = .script S) : s = (S, "dflt") := by
  unfold regOfSys at h
  split at h
  · rename_i he
    cases h
    have : s.2 = "dflt" := by simpa using he
    exact Prod.ext rfl this
  · cases h

theorem regOfSys_ne_root (s : Sys) : regOfSys s ≠ .root := by
  unfold regOfSys; split <;> simp

/-- the changes of language system among the events, in order, each with its `exclude_dflt` -/
def sysEvs : List Ev → List (Sys × Bool)
  | [] => []
  | .sys s ex :: evs => (s, ex) :: sysEvs evs
  | .item _ :: evs => sysEvs evs

theorem sysEvs_append (e1 e2 : List Ev) : sysEvs (e1 ++ e2) = sysEvs e1 ++ sysEvs e2 := by
  induction e1 with
  | nil => rfl
  | cons e e1 ih => cases e <;> simp [sysEvs, ih]

theorem sysEvs_snoc_item (evs : List Ev) (id : LookupId) : sysEvs (evs ++ [.item id]) = sysEvs evs := by
  simp [sysEvs_append, sysEvs]

theorem sysEvs_snoc_sys (evs : List Ev) (s : Sys) (ex : Bool) : sysEvs (evs ++ [.sys s ex]) = sysEvs evs ++ [(s, ex)] := by
  simp [sysEvs_append, sysEvs]

/-- the language system in force after the events: the last one entered (`current_lang_sys` of `ActiveFeature`, `curSys_a0`) -/
def curOf (evs : List Ev) : Option Sys := ((sysEvs evs).getLast?).map (·.1)

/-- the position of the source walk when `current_lang_sys` is `c`: the root before any `script` statement -/
def regOfCur : Option Sys → Src.Reg
  | none => .root
  | some s => regOfSys s

theorem regOfCur_eq_root {c : Option Sys} (h : regOfCur c = .root) : c = none := by
  cases c with
  | none => rfl
  | some s => exact absurd h (regOfSys_ne_root s)

theorem regOfCur_eq_script {c : Option Sys} {S : Tag} (h : regOfCur c = .script S) : c = some (S, "dflt") := by
  cases c with
  | none => cases h
  | some s => rw [regOfSys_eq_script h]

theorem regOfCur_eq_lang {c : Option Sys} {S L : Tag} (h : regOfCur c = .lang S L) : c = some (S, L) ∧ L ≠ "dflt" := by
  cases c with
  | none => cases h
  | some s => obtain ⟨rfl, h2⟩ := regOfSys_eq_lang h; exact ⟨rfl, h2⟩

theorem curOf_snoc_item (evs : List Ev) (id : LookupId) : curOf (evs ++ [.item id]) = curOf evs := by
  simp [curOf, sysEvs_append, sysEvs]

theorem curOf_snoc_sys (evs : List Ev) (s : Sys) (ex : Bool) : curOf (evs ++ [.sys s ex]) = some s := by
  simp [curOf, sysEvs_append, sysEvs]

/-- the language systems entered, in order -/
def seenOf (evs : List Ev) : List Sys := (sysEvs evs).map (·.1)

theorem seenOf_snoc_item (evs : List Ev) (id : LookupId) : seenOf (evs ++ [.item id]) = seenOf evs := by
  simp [seenOf, sysEvs_snoc_item]

theorem seenOf_snoc_sys (evs : List Ev) (s : Sys) (ex : Bool) : seenOf (evs ++ [.sys s ex]) = seenOf evs ++ [s] := by
  simp [seenOf, sysEvs_snoc_sys]

theorem curOf_mem_seen {evs : List Ev} {s : Sys} (h : curOf evs = some s) : s ∈ seenOf evs := by
  simp only [curOf, Option.map_eq_some_iff] at h
  obtain ⟨x, hx, rfl⟩ := h
  exact List.mem_map_of_mem (List.mem_of_getLast? hx)

theorem seenOf_prefix {x y : List Ev} {s : Sys} (h : s ∈ seenOf x) : s ∈ seenOf (x ++ y) := by
  simp only [seenOf, sysEvs_append, List.map_append, List.mem_append]
  exact Or.inl h

/-- `ActiveFeature::new`: the active feature at the start of a feature block -/
def a0 (tag : Tag) (dls : List Sys) : Active := { tag := tag, defaults := dls }

theorem addLookup_curSys (a : Active) (id : LookupId) : (a.addLookup id).curSys = a.curSys := by
  simp only [Active.addLookup]
  split
  · split <;> rfl
  · rfl

theorem curSys_fold (evs : List Ev) : ∀ (pre : List Ev) (a : Active), a.curSys = curOf pre →
    (evs.foldl evStep a).curSys = curOf (pre ++ evs) := by
  induction evs with
  | nil => intro pre a h; simpa using h
  | cons e evs ih =>
    intro pre a h
    rw [List.foldl_cons, show pre ++ e :: evs = (pre ++ [e]) ++ evs by simp]
    apply ih
    cases e with
    | item id => rw [curOf_snoc_item]; exact (addLookup_curSys a id).trans h
    | sys s ex => rw [curOf_snoc_sys]; simp [evStep, Active.setSystem]

theorem curSys_a0 (evs : List Ev) (tag : Tag) (dls : List Sys) : (evs.foldl evStep (a0 tag dls)).curSys = curOf evs := by
  simpa using curSys_fold evs [] (a0 tag dls) rfl

theorem tag_fold (evs : List Ev) (a : Active) : (evs.foldl evStep a).tag = a.tag := by
  induction evs generalizing a with
  | nil => rfl
  | cons e evs ih =>
    simp only [List.foldl_cons, ih]
    cases e with
    | item id =>
      simp only [evStep, Active.addLookup]
      split
      · split <;> rfl
      · rfl
    | sys sy ex =>
      simp only [evStep, Active.setSystem]
      split
      · split <;> rfl
      · rfl

end Fontc.FeaCompile
