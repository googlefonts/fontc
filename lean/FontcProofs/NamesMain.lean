/-
  C18 / C01: what the final name table says about every string fvar / STAT refer to (their lookups succeed; a new record is
  the only one of its string); neither of the two hash iterations in `StaticMetadata::new` matters (`alookup_extend_congr`,
  `alloc_congr`).
-/
import FontcProofs.NamesAlloc

namespace Fontc.Names

theorem alloc_of_request {x : Input} {order : List NameKey}
    {s : Str} (h : s ∈ requests order x) : ∃ k, (k, s) ∈ alloc order x ∧ 255 < k.id := by
  by_cases hk : ∃ k ∈ order, alookup k x.names = some s ∧ 255 < k.id
  · obtain ⟨k, _, hs, hid⟩ := hk
    exact ⟨k, mem_alloc.mpr (Or.inl (mem_of_alookup hs)), hid⟩
  · obtain ⟨i, hi⟩ := List.mem_iff_getElem?.mp (mem_freshStrs.mpr ⟨h, hk⟩)
    exact ⟨_, mem_alloc.mpr (Or.inr ⟨i, hi, rfl⟩), lt_new_id x.names i⟩

theorem resolve_of_request {x : Input} {order : List NameKey} {s : Str} (h : s ∈ requests order x) (allow : Bool) :
    ∃ id k, reusableNameId (alloc order x) s allow = some id ∧ (k, s) ∈ alloc order x ∧ k.id = id := by
  obtain ⟨k, hk, hid⟩ := alloc_of_request h
  exact reusableNameId_of_mem hk (by omega)

/-- `hn`, `hcover`: `names` is a `HashMap` (unique keys) and `order` visits every key. -/
theorem resolve_inst_name {x : Input} {order : List NameKey} (hn : (akeys x.names).Nodup)
    (hcover : ∀ k ∈ akeys x.names, k ∈ order) {ni : Inst} (hni : ni ∈ effInsts x) :
    ∃ id k, reusableNameId (alloc order x) ni.name ni.atDefault = some id ∧ (k, ni.name) ∈ alloc order x ∧ k.id = id := by
  cases hr : reuseSubfamily order x.names ni with
  | false =>
    exact resolve_of_request (mem_requests.mpr (.inr ⟨ni, hni, .inl ⟨hr, rfl⟩⟩)) _
  | true =>
    -- the instance is at the default location and the smallest source id carrying its name is 2 or 17:
    -- it is also the smallest id in the final table, so fvar reuses it
    obtain ⟨hdef, m, hf, hm⟩ := reuseSubfamily_iff.mp hr
    obtain ⟨⟨k, _, hk, hkid⟩, hmin⟩ := smallestMatch_eq_some_iff.mp hf
    have hkT : (k, ni.name) ∈ alloc order x := mem_alloc.mpr (.inl (mem_of_alookup hk))
    have hhead : (reverseIds (alloc order x) ni.name).head? = some m := by
      refine head?_sortAsc_eq_some_iff.mpr ⟨mem_idsOf.mpr ⟨k, hkT, hkid⟩, fun id hid => ?_⟩
      obtain ⟨k', hk', rfl⟩ := mem_idsOf.mp hid
      rcases mem_alloc.mp hk' with hsrc | ⟨i, _, rfl⟩
      · exact hmin k' (hcover k' (mem_akeys_of_mem hsrc)) (alookup_of_mem_nodup hn hsrc)
      · have : m ≤ 17 := by simp [isSub] at hm; omega
        have := lt_new_id x.names i
        show m ≤ maxId x.names + 1 + i
        omega
    rw [hdef]
    exact ⟨m, k, reusableNameId_of_head_sub hhead hm, hkT, hkid⟩

theorem fresh_of_not_source {x : Input} {order : List NameKey} {k : NameKey} {s : Str}
    (h : (k, s) ∈ alloc order x) (nk : k ∉ akeys x.names) :
    ∃ i, (freshStrs order x)[i]? = some s ∧ k = NameKey.new (maxId x.names + 1 + i) s :=
  (mem_alloc.mp h).resolve_left fun hs => nk (mem_akeys_of_mem hs)

theorem fresh_same_string {x : Input} {order : List NameKey} {k₁ k₂ : NameKey} {s : Str}
    (h₁ : (k₁, s) ∈ alloc order x) (h₂ : (k₂, s) ∈ alloc order x)
    (n₁ : k₁ ∉ akeys x.names) (n₂ : k₂ ∉ akeys x.names) : k₁ = k₂ := by
  obtain ⟨i, hi, rfl⟩ := fresh_of_not_source h₁ n₁
  obtain ⟨j, hj, rfl⟩ := fresh_of_not_source h₂ n₂
  rw [(List.getElem?_inj (List.getElem?_eq_some_iff.mp hi).1 (freshStrs_nodup order x)).mp (hi.trans hj.symm)]

theorem source_id_le_of_fresh {x : Input} {order : List NameKey} (hn : (akeys x.names).Nodup)
    (hcover : ∀ k ∈ akeys x.names, k ∈ order) {k k' : NameKey} {s : Str}
    (h : (k, s) ∈ alloc order x) (nk : k ∉ akeys x.names) (hs : (k', s) ∈ x.names) : k'.id ≤ 255 := by
  obtain ⟨i, hi, _⟩ := fresh_of_not_source h nk
  refine Nat.le_of_not_lt fun hid => (mem_freshStrs.mp (List.mem_of_getElem? hi)).2 ?_
  exact ⟨k', hcover k' (mem_akeys_of_mem hs), alookup_of_mem_nodup hn hs, hid⟩

theorem reusable_inj (order : List NameKey) (x : Input) :
    ∀ p ∈ (allocState order x).reusable, ∀ q ∈ (allocState order x).reusable, p.2 = q.2 → p.1 = q.1 := by
  -- the string of an entry is read back from its key: up to `maxId` the source's string, above it by position
  have key : ∀ p ∈ (allocState order x).reusable,
      (if p.2.id ≤ maxId x.names then alookup p.2 x.names
        else (freshStrs order x)[p.2.id - (maxId x.names + 1)]?) = some p.1 := by
    rw [allocState_closed]
    rintro ⟨s, k⟩ hp
    rcases List.mem_append.mp hp with hp | hp
    · have h := (alookup_of_mem_initReusable hp).1
      rwa [if_pos (le_maxId (mem_of_alookup h))]
    · obtain ⟨i, hi, rfl⟩ := mem_freshFrom.mp hp
      have : ¬ maxId x.names + 1 + i ≤ maxId x.names := by omega
      simpa only [NameKey.new, if_neg this, Nat.add_sub_cancel_left] using hi
  intro p hp q hq e
  exact Option.some.inj ((key p hp).symm.trans (e ▸ key q hq))

/-- the second hash order (`reusable_names.into_iter()` in the final `extend`) does not matter: inserting the same
    entries in any other order, any number of times, gives the same map -/
theorem alookup_extend_congr {t : Table} {r r' : List (Str × NameKey)}
    (hinj : ∀ p ∈ r, ∀ q ∈ r, p.2 = q.2 → p.1 = q.1) (hm : ∀ p, p ∈ r' ↔ p ∈ r) (k : NameKey) :
    alookup k (extend t r') = alookup k (extend t r) := by
  have hf : Functional (r.map Prod.swap).reverse := by
    intro p hp q hq e
    obtain ⟨p', hp', rfl⟩ := List.mem_map.mp (List.mem_reverse.mp hp)
    obtain ⟨q', hq', rfl⟩ := List.mem_map.mp (List.mem_reverse.mp hq)
    exact hinj p' hp' q' hq' e
  rw [alookup_extend, alookup_extend, alookup_congr hf fun p => by simp only [List.mem_reverse, List.mem_map, hm]]

/-- the order is looked at only to decide whether the default instance reuses id 2 / 17 -/
theorem requests_congr {o₁ o₂ : List NameKey} (hm : ∀ k, k ∈ o₁ ↔ k ∈ o₂) (x : Input) :
    requests o₁ x = requests o₂ x := by
  have : reqOf o₁ x.names = reqOf o₂ x.names := funext fun ni => by simp only [reqOf, reuseSubfamily_congr hm ni]
  simp only [requests, this]

theorem freshStrs_congr {o₁ o₂ : List NameKey} (hm : ∀ k, k ∈ o₁ ↔ k ∈ o₂) (x : Input) :
    freshStrs o₁ x = freshStrs o₂ x := by
  rw [freshStrs, freshStrs, requests_congr hm]
  refine congrArg _ (List.filter_congr fun s _ => ?_)
  rw [← Option.not_isSome, ← Option.not_isSome]
  refine congrArg _ (Bool.eq_iff_iff.mpr ?_)
  rw [isSome_initReusable, isSome_initReusable]
  simp only [hm]

/-- The allocation depends on the iteration of `names` only through the set of keys it visits (in whatever order, however
    often): the same strings are known from the start, and the same requests are made. -/
theorem alloc_congr (x : Input) {o₁ o₂ : List NameKey} (hm : ∀ k, k ∈ o₁ ↔ k ∈ o₂) : alloc o₁ x = alloc o₂ x := by
  rw [alloc_eq, alloc_eq, freshStrs_congr hm]

/-- The allocation is independent of the hash-iteration order of `names`. -/
theorem alloc_perm (x : Input) (o₁ o₂ : List NameKey) (hp : o₁.Perm o₂) : alloc o₁ x = alloc o₂ x :=
  alloc_congr x fun _ => hp.mem_iff

/-- Two allocation states that started from the maps `i₁`, `i₂` and have registered the same strings `f` since.
    (`alloc_congr` does not go through this relation: `alloc_eq` gives both tables in closed form.) -/
structure Rel (i₁ i₂ : List (Str × NameKey)) (st₁ st₂ : St) : Prop where
  ex : ∃ f, st₁.reusable = i₁ ++ f ∧ st₂.reusable = i₂ ++ f
  gen : st₁.gen = st₂.gen

theorem rel_register_known {i₁ i₂ : List (Str × NameKey)} {st₁ st₂ : St} (h : Rel i₁ i₂ st₁ st₂) {n : Str}
    (k₁ : (alookup n i₁).isSome) (k₂ : (alookup n i₂).isSome) : register st₁ n = st₁ ∧ register st₂ n = st₂ := by
  obtain ⟨⟨f, h₁, h₂⟩, _⟩ := h
  constructor
  · rw [register_eq, if_pos (by rw [h₁, alookup_append, Option.isSome_or, k₁]; rfl)]
  · rw [register_eq, if_pos (by rw [h₂, alookup_append, Option.isSome_or, k₂]; rfl)]

end Fontc.Names
