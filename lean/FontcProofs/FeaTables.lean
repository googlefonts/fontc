/-
  C11: from the feature map of the compilation context to the feature / script lists of a table
  (`PosSubBuilder`, lookups.rs:1360) and back through the OpenType language-system selection:
  which lookup indices are active for a request.  At the end: the feature map after the `featInsert`s that close a
  feature block, key by key.
-/
import FontcModel.FeaCompile
import FontcProofs.FeaFlags

namespace Fontc.FeaCompile
open Cmp

theorem insertSorted_sorted {x : Nat} {ys : List Nat} (h : ys.Pairwise (· < ·)) :
    (OT.insertSorted x ys).Pairwise (· < ·) := by
  induction ys with
  | nil => simp [OT.insertSorted]
  | cons y ys ih =>
    have hy := List.pairwise_cons.mp h
    simp only [OT.insertSorted]
    split
    · rename_i hxy
      refine List.pairwise_cons.mpr ⟨?_, h⟩
      intro a ha
      rcases List.mem_cons.mp ha with rfl | ha
      · exact hxy
      · exact Nat.lt_trans hxy (hy.1 a ha)
    · split
      · exact h
      · rename_i h1 h2
        refine List.pairwise_cons.mpr ⟨?_, ih hy.2⟩
        intro a ha
        rcases (mem_insertSorted a x ys).mp ha with rfl | ha
        · omega
        · exact hy.1 a ha

theorem sortDedup_sorted {xs : List Nat} : (OT.sortDedup xs).Pairwise (· < ·) := by
  unfold OT.sortDedup
  induction xs with
  | nil => simp
  | cons x xs ih => simp only [List.foldr_cons]; exact insertSorted_sorted ih

theorem sortDedup_eq_of_sorted (xs l : List Nat) (hl : l.Pairwise (· < ·)) (h : ∀ a, a ∈ l ↔ a ∈ xs) :
    OT.sortDedup xs = l :=
  eq_of_pairwise_of_mem_iff Nat.lt_asymm sortDedup_sorted hl (fun a => by rw [mem_sortDedup, h])

/-- feature indices of a language system in the script map under construction -/
def getFis (m : List (Tag × List (Tag × List Nat))) (script lang : Tag) : List Nat :=
  (((m.lookup script).getD []).lookup lang).getD []

/-- the script map under construction has an entry for the language system -/
def hasLang (m : List (Tag × List (Tag × List Nat))) (script lang : Tag) : Bool :=
  ((m.lookup script).bind (·.lookup lang)).isSome

theorem getFis_scriptInsert (m : List (Tag × List (Tag × List Nat))) (script lang : Tag) (fi : Nat) (s l : Tag) :
    getFis (scriptInsert script lang fi m) s l
      = if s == script && l == lang then getFis m s l ++ [fi] else getFis m s l := by
  unfold getFis scriptInsert
  rw [lookup_upsert]
  by_cases hs : s == script
  · have := beq_iff_eq.mp hs; subst this
    simp only [beq_self_eq_true, ↓reduceIte, Option.getD_some, Bool.true_and]
    rw [lookup_upsert]
    by_cases hl : l == lang
    · have := beq_iff_eq.mp hl; subst this
      simp
    · simp [hl]
  · simp [hs]

theorem hasLang_scriptInsert (m : List (Tag × List (Tag × List Nat))) (script lang : Tag) (fi : Nat) (s l : Tag) :
    hasLang (scriptInsert script lang fi m) s l = ((s == script && l == lang) || hasLang m s l) := by
  unfold hasLang scriptInsert
  rw [lookup_upsert]
  by_cases hs : s == script
  · have := beq_iff_eq.mp hs; subst this
    simp only [beq_self_eq_true, ↓reduceIte, Option.bind_some, Bool.true_and]
    rw [lookup_upsert]
    by_cases hl : l == lang
    · simp [hl]
    · simp only [hl, Bool.false_eq_true, ↓reduceIte, Bool.false_or]
      cases m.lookup s <;> simp
  · simp [hs]

theorem psb_add_features (b : PSB) (key : Tag × Tag × Tag) (ls : List Nat) :
    (∀ (i : Nat) (x : Tag × List Nat), b.features[i]? = some x → (b.add key ls).features[i]? = some x) ∧
    ∃ fi, (b.add key ls).features[fi]? = some (key.1, ls) ∧
      (b.add key ls).scripts = scriptInsert key.2.2 key.2.1 fi b.scripts := by
  unfold PSB.add
  cases hq : b.features.idxOf? (key.1, ls) with
  | some i =>
    simp only [hq]
    refine ⟨fun i x h => h, i, ?_, rfl⟩
    unfold List.idxOf? at hq
    obtain ⟨hlt, hp, _⟩ := List.findIdx?_eq_some_iff_getElem.mp hq
    rw [List.getElem?_eq_getElem hlt]
    simp at hp
    rw [hp]
  | none =>
    simp only [hq]
    refine ⟨?_, b.features.length, by simp, rfl⟩
    intro i x h
    rw [List.getElem?_append_left]
    · exact h
    · exact (List.getElem?_eq_some_iff.mp h).1

/-- the entries of a feature map that `buildTable` records under a language system: those with a lookup of the table -/
def recordedFor (isPos : Bool) (fm : List ((Tag × Tag × Tag) × List LookupId)) (script lang : Tag) :
    List ((Tag × Tag × Tag) × List LookupId) :=
  fm.filter fun x => script == x.1.2.2 && lang == x.1.2.1 && !(lookupIdxs isPos x.2).isEmpty

/-- What the `PosSubBuilder` holds after the entries `done`: under each language system, in order, indices into the
    feature list of the records of the entries recorded for it. -/
structure PTab (isPos : Bool) (done : List ((Tag × Tag × Tag) × List LookupId)) (b : PSB) : Prop where
  fis : ∀ s l, (getFis b.scripts s l).map (b.features[·]?) =
    (recordedFor isPos done s l).map fun x => some (x.1.1, lookupIdxs isPos x.2)
  langs : ∀ s l, hasLang b.scripts s l = !(recordedFor isPos done s l).isEmpty

/-- the `(key, lookups)` pairs that make it into the table: those with a lookup of the table -/
def Counts (isPos : Bool) (x : (Tag × Tag × Tag) × List LookupId) : Prop := lookupIdxs isPos x.2 ≠ []

/-- `PTab` read by members: the records the indices under a language system point to, without their order -/
structure PInv (isPos : Bool) (done : List ((Tag × Tag × Tag) × List LookupId)) (b : PSB) : Prop where
  sound : ∀ s l fi, fi ∈ getFis b.scripts s l →
    ∃ x ∈ done, x.1.2.1 = l ∧ x.1.2.2 = s ∧ Counts isPos x ∧ b.features[fi]? = some (x.1.1, lookupIdxs isPos x.2)
  complete : ∀ x ∈ done, Counts isPos x →
    ∃ fi ∈ getFis b.scripts x.1.2.2 x.1.2.1, b.features[fi]? = some (x.1.1, lookupIdxs isPos x.2)
  langs : ∀ s l, hasLang b.scripts s l = true ↔ ∃ x ∈ done, x.1.2.1 = l ∧ x.1.2.2 = s ∧ Counts isPos x

theorem PTab.step {isPos : Bool} {done : List ((Tag × Tag × Tag) × List LookupId)} {b : PSB} (h : PTab isPos done b)
    (x : (Tag × Tag × Tag) × List LookupId) :
    PTab isPos (done ++ [x]) (if (lookupIdxs isPos x.2).isEmpty then b else b.add x.1 (lookupIdxs isPos x.2)) := by
  have hr : ∀ s l, recordedFor isPos (done ++ [x]) s l = recordedFor isPos done s l ++ recordedFor isPos [x] s l :=
    fun s l => List.filter_append ..
  by_cases he : (lookupIdxs isPos x.2).isEmpty = true
  · have hx : ∀ s l, recordedFor isPos [x] s l = [] := fun s l => by simp [recordedFor, he]
    simp only [he, ↓reduceIte]
    exact ⟨fun s l => by rw [hr, hx, List.append_nil, h.fis], fun s l => by rw [hr, hx, List.append_nil, h.langs]⟩
  · simp only [he, Bool.false_eq_true, ↓reduceIte]
    obtain ⟨hpres, fi, hfi, hscr⟩ := psb_add_features b x.1 (lookupIdxs isPos x.2)
    have hx : ∀ s l, recordedFor isPos [x] s l = if (s == x.1.2.2 && l == x.1.2.1) = true then [x] else [] := fun s l => by
      simp only [recordedFor, List.filter_cons, List.filter_nil, he, Bool.not_false, Bool.and_true]
    -- the indices already there are in range (`h.fis`), so they keep their records
    have hold : ∀ s l, (getFis b.scripts s l).map ((b.add x.1 (lookupIdxs isPos x.2)).features[·]?) =
        (getFis b.scripts s l).map (b.features[·]?) := fun s l => List.map_congr_left fun i hi => by
      have := List.mem_map_of_mem (f := (b.features[·]?)) hi
      rw [h.fis] at this
      obtain ⟨y, _, hy⟩ := List.mem_map.mp this
      rw [← hy, hpres i _ hy.symm]
    refine ⟨fun s l => ?_, fun s l => ?_⟩
    · rw [hscr, getFis_scriptInsert, hr, hx]
      split
      · rw [List.map_append, hold, h.fis, List.map_append, List.map_singleton, List.map_singleton, hfi]
      · rw [hold, h.fis, List.append_nil]
    · rw [hscr, hasLang_scriptInsert, hr, hx, h.langs]
      split <;> simp [*]

/-- the `PosSubBuilder` after the feature map `fm` (`buildTable`) -/
def psbOf (isPos : Bool) (fm : List ((Tag × Tag × Tag) × List LookupId)) : PSB :=
  fm.foldl (fun b (x : (Tag × Tag × Tag) × List LookupId) =>
    if (lookupIdxs isPos x.2).isEmpty then b else b.add x.1 (lookupIdxs isPos x.2)) {}

theorem ptab_psbOf (isPos : Bool) (fm : List ((Tag × Tag × Tag) × List LookupId)) : PTab isPos fm (psbOf isPos fm) := by
  have : ∀ (fm done : List ((Tag × Tag × Tag) × List LookupId)) b, PTab isPos done b →
      PTab isPos (done ++ fm) (fm.foldl (fun b (x : (Tag × Tag × Tag) × List LookupId) =>
        if (lookupIdxs isPos x.2).isEmpty then b else b.add x.1 (lookupIdxs isPos x.2)) b) := by
    intro fm
    induction fm with
    | nil => intro done b h; simpa using h
    | cons x fm ih => intro done b h; simpa using ih _ _ (h.step x)
  simpa [psbOf] using this fm [] {}
    ⟨fun s l => by simp [getFis, recordedFor, List.lookup], fun s l => by simp [hasLang, recordedFor, List.lookup]⟩

/-- the LangSys record `buildTable` writes for feature indices `fs` (no required feature) -/
def mkLangSys (fs : List Nat) : OT.LangSys := ⟨0xFFFF, fs⟩

/-- the Script record `buildTable` writes for an entry of the script map: `dflt` apart, the other languages in order -/
def mkScript (s : Tag) (langs : List (Tag × List Nat)) : OT.Script :=
  { tag := s, dflt := (langs.lookup "dflt").map mkLangSys,
    langs := (langs.filter (·.1 != "dflt")).map fun (l, fs) => (l, mkLangSys fs) }

theorem find_mkScript (m : List (Tag × List (Tag × List Nat))) (k : Tag) :
    (m.map fun (s, langs) => mkScript s langs).find? (fun (r : OT.Script) => r.tag == k)
      = (m.lookup k).map (mkScript k) := by
  induction m with
  | nil => rfl
  | cons p m ih =>
    obtain ⟨a, langs⟩ := p
    simp only [List.map_cons, List.find?_cons, List.lookup]
    by_cases h : a == k
    · have := beq_iff_eq.mp h; subst this
      simp [mkScript]
    · have h' : (k == a) = false := by
        rw [beq_eq_false_iff_ne]
        rintro rfl
        simp at h
      have h'' : ((mkScript a langs).tag == k) = false := by simpa [mkScript] using h
      simp only [h'', h']
      exact ih

theorem buildTable_eq (lookups : List OT.Lookup) (isPos : Bool) (fm : List ((Tag × Tag × Tag) × List LookupId)) :
    buildTable lookups isPos fm =
      { lookups := lookups, features := (psbOf isPos fm).features,
        scripts := (psbOf isPos fm).scripts.map fun (s, langs) => mkScript s langs } := rfl

theorem langSys_buildTable (lookups : List OT.Lookup) (isPos : Bool) (fm : List ((Tag × Tag × Tag) × List LookupId))
    (script lang : Tag) :
    OT.langSys (buildTable lookups isPos fm) script lang =
      if hasLang (psbOf isPos fm).scripts script lang = true then
        some (mkLangSys (getFis (psbOf isPos fm).scripts script lang))
      else if hasLang (psbOf isPos fm).scripts script "dflt" = true then
        some (mkLangSys (getFis (psbOf isPos fm).scripts script "dflt"))
      else none := by
  rw [buildTable_eq]
  unfold OT.langSys hasLang getFis
  simp only [find_mkScript]
  cases (psbOf isPos fm).scripts.lookup script with
  | none => simp
  | some langs =>
    simp only [Option.map_some, Option.bind_some, Option.getD_some, mkScript]
    by_cases hl : lang = "dflt"
    · subst hl
      cases langs.lookup "dflt" <;> simp
    · have : (lang == "dflt") = false := by simp [hl]
      simp only [this, Bool.false_eq_true, ↓reduceIte]
      rw [lookup_map_snd fun _ => mkLangSys, lookup_filter_ne _ hl]
      cases langs.lookup lang <;> cases langs.lookup "dflt" <;> simp

/-- The `if`: when nothing is recorded for the requested language system there is no LangSys record, and the
    selection falls back to the default language system of the script. -/
theorem activeLookups_buildTable (lookups : List OT.Lookup) (isPos : Bool)
    (fm : List ((Tag × Tag × Tag) × List LookupId)) (script lang : Tag) (feats : List Tag) :
    OT.activeLookups (buildTable lookups isPos fm) script lang feats =
      OT.sortDedup ((recordedFor isPos fm script
          (if (recordedFor isPos fm script lang).isEmpty then "dflt" else lang)).flatMap fun x =>
        if feats.contains x.1.1 then lookupIdxs isPos x.2 else []) := by
  have hinv := ptab_psbOf isPos fm
  have hread : ∀ l, OT.sortDedup ((getFis (psbOf isPos fm).scripts script l).flatMap fun i =>
        match (buildTable lookups isPos fm).features[i]? with
        | some (tag, ls) => if feats.contains tag then ls else []
        | none => []) =
      OT.sortDedup ((recordedFor isPos fm script l).flatMap fun x => if feats.contains x.1.1 then lookupIdxs isPos x.2 else []) := by
    intro l
    rw [show (buildTable lookups isPos fm).features = (psbOf isPos fm).features from rfl]
    have := List.flatMap_map ((psbOf isPos fm).features[·]?) (fun o => match o with
        | some (tag, ls) => if feats.contains tag then ls else []
        | none => []) (getFis (psbOf isPos fm).scripts script l)
    refine congrArg OT.sortDedup (this.symm.trans ?_)
    rw [hinv.fis, List.flatMap_map]
  unfold OT.activeLookups
  rw [langSys_buildTable, hinv.langs, hinv.langs]
  by_cases h1 : (recordedFor isPos fm script lang).isEmpty = true
  · by_cases h2 : (recordedFor isPos fm script "dflt").isEmpty = true
    · simp [h1, List.isEmpty_iff.mp h2, OT.sortDedup]
    · simp only [h1, h2, Bool.not_true, Bool.false_eq_true, ↓reduceIte, Bool.not_false, mkLangSys, List.nil_append]
      exact hread "dflt"
  · simp only [h1, Bool.not_false, ↓reduceIte, mkLangSys, List.nil_append, Bool.false_eq_true]
    exact hread lang

theorem activeLookups_sorted {t : OT.Table} {script lang : Tag} {feats : List Tag} :
    (OT.activeLookups t script lang feats).Pairwise (· < ·) := by
  unfold OT.activeLookups
  split
  · simp
  · exact sortDedup_sorted

theorem lookup_featInsert (k k' : Tag × Tag × Tag) (ls : List LookupId) (m : List ((Tag × Tag × Tag) × List LookupId)) :
    ((featInsert k ls m).lookup k').getD [] = if k' = k then (m.lookup k').getD [] ++ ls else (m.lookup k').getD [] := by
  unfold featInsert
  rw [lookup_upsert]
  by_cases h : k' = k
  · subst h; simp
  · have : (k' == k) = false := by simp [h]
    simp [this, h]

theorem lookup_foldl_featInsert (tag : Tag) (fp : List (Sys × List LookupId)) (m : List ((Tag × Tag × Tag) × List LookupId))
    (key : Tag × Tag × Tag) :
    ((fp.foldl (fun fs (x : Sys × List LookupId) => featInsert (tag, x.1.2, x.1.1) x.2 fs) m).lookup key).getD []
      = (m.lookup key).getD [] ++ ((fp.filter fun x => (tag, x.1.2, x.1.1) = key).flatMap (·.2)) := by
  induction fp generalizing m with
  | nil => simp
  | cons x fp ih =>
    simp only [List.foldl_cons, ih, lookup_featInsert, List.filter_cons]
    by_cases h : (tag, x.1.2, x.1.1) = key
    · simp [h]
    · have h' : ¬ key = (tag, x.1.2, x.1.1) := fun e => h e.symm
      simp [h, h']

theorem featKeys_foldl (tag : Tag) {fp : List (Sys × List LookupId)} {m : List ((Tag × Tag × Tag) × List LookupId)}
    (h : (m.map (·.1)).Nodup) :
    ((fp.foldl (fun fs (x : Sys × List LookupId) => featInsert (tag, x.1.2, x.1.1) x.2 fs) m).map (·.1)).Nodup := by
  induction fp generalizing m with
  | nil => exact h
  | cons x fp ih => exact ih (upsert_keys_nodup h)

end Fontc.FeaCompile
