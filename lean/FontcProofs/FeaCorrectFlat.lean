/-
  C11: the hypotheses of `compile_correct_flat` (programs made of `languagesystem` statements followed
  by feature blocks whose statements are `lookupflag` and rule statements) imply those of
  `compile_correct_gen`: it is the case in which no statement changes the language system or names a
  lookup.
-/
import FontcProofs.FeaCorrectGen

namespace Fontc.FeaCompile
open Cmp

theorem bodyOk_of_flat (U : List (List Glyph)) (used : List String) (body : List Stmt) :
    ∀ (w : Src.Walk), FlatBody body → FlagsOk U body → NoMixFrom w body → BodyOk U w used body := by
  induction body with
  | nil => intro _ _ _ _; trivial
  | cons st body ih =>
    intro w hflat hflags hmix
    have hrest := ih (Src.walkStmt w st) (fun st' h => hflat st' (by simp [h])) (fun f h => hflags f (by simp [h])) hmix.2
    rcases hflat st (by simp) with ⟨f, rfl⟩ | ⟨r, rfl⟩
    · exact ⟨hflags f (by simp), hrest⟩
    · exact ⟨hmix.1, hrest⟩

theorem stmtSys_flat {body : List Stmt} (hflat : FlatBody body) (cur : Tag) : stmtSys cur body = [] := by
  induction body with
  | nil => rfl
  | cons st body ih =>
    have hb := ih (fun st' h => hflat st' (by simp [h]))
    rcases hflat st (by simp) with ⟨f, rfl⟩ | ⟨r, rfl⟩ <;> simpa [stmtSys, stmtSys1, scriptAfterStmt] using hb

theorem namesAfter_flat {body : List Stmt} (hflat : FlatBody body) (used : List String) : namesAfter used body = used := by
  induction body with
  | nil => rfl
  | cons st body ih =>
    have hb := ih (fun st' h => hflat st' (by simp [h]))
    rcases hflat st (by simp) with ⟨f, rfl⟩ | ⟨r, rfl⟩ <;> simpa [namesAfter] using hb

theorem topsOk_featTops {U : List (List Glyph)} {dls : List Sys} {used : List String} {fs : List (Tag × List Stmt)}
    (h : ∀ x ∈ fs, FlatBody x.2 ∧ FlagsOk U x.2 ∧ NoMixFrom {} x.2) : TopsOk U dls used (featTops fs) := by
  induction fs with
  | nil => trivial
  | cons x fs ih =>
    obtain ⟨h1, h2, h3⟩ := h x (by simp)
    refine ⟨bodyOk_of_flat U used x.2 {} h1 h2 h3, ?_, ?_, ?_⟩
    · rw [stmtSys_flat h1]; rfl
    · intro l ex hm
      rcases h1 _ hm with ⟨f, hf⟩ | ⟨r, hr⟩ <;> cases ‹_›
    · rw [namesAfter_flat h1]
      exact ih (fun y hy => h y (by simp [hy]))

/-! Without `script` / `language` statements every item of a block sits at the root position, so a lookup
registered for one declared language system is registered for all of them; a request for a declared
system is then answered by the same LangSys record the default would give. -/

/-- the walk has not left the root position: it registers there, its current run and every item it has put out sit
    there, and every item is a lookup definition (no reference) -/
def AtRoot (w : Src.Walk) : Prop :=
  w.reg = .root ∧ (∀ reg f rules, w.cur = some (reg, f, rules) → reg = .root) ∧
  ∀ x ∈ w.out, x.1 = .root ∧ ∃ l, x.2 = .defn l

theorem AtRoot.flush {w : Src.Walk} (h : AtRoot w) : AtRoot w.flush := by
  obtain ⟨h1, h2, h3⟩ := h
  unfold Src.Walk.flush
  cases hc : w.cur with
  | none => exact ⟨h1, by simp [hc], h3⟩
  | some p =>
    obtain ⟨reg, f, rules⟩ := p
    refine ⟨h1, by simp, ?_⟩
    intro x hx
    rcases List.mem_append.mp hx with hx | hx
    · exact h3 x hx
    · simp only [List.mem_singleton] at hx
      subst hx
      exact ⟨h2 reg f rules hc, _, rfl⟩

theorem AtRoot.body {body : List Stmt} (hflat : FlatBody body) : ∀ w, AtRoot w → AtRoot (body.foldl Src.walkStmt w) := by
  induction body with
  | nil => intro w h; exact h
  | cons st body ih =>
    intro w h
    apply ih (fun st' hm => hflat st' (by simp [hm]))
    rcases hflat st (by simp) with ⟨f, rfl⟩ | ⟨r, rfl⟩
    · exact h
    · simp only [Src.walkStmt]
      cases hc : w.cur with
      | none => exact ⟨h.1, by simp [h.1], h.2.2⟩
      | some p =>
        obtain ⟨reg, f, rules⟩ := p
        simp only
        split
        · exact ⟨h.1, by simpa using h.2.1 reg f rules hc, h.2.2⟩
        · have hf := h.flush
          exact ⟨hf.1, by simp [hf.1], hf.2.2⟩

theorem langStmts_flat {body : List Stmt} (hflat : FlatBody body) (cur : Option Tag) : Src.langStmts cur body = [] := by
  induction body generalizing cur with
  | nil => rfl
  | cons st body ih =>
    have hb := ih (fun st' h => hflat st' (by simp [h]))
    rcases hflat st (by simp) with ⟨f, rfl⟩ | ⟨r, rfl⟩ <;> simp [Src.langStmts, hb]

theorem mem_regsFor_flat {ls : List (Tag × Tag)} {tag : Tag} {body : List Stmt} (hflat : FlatBody body)
    {tag' script lang : Tag} :
    (tag', script, lang) ∈ Src.regsFor ls tag body .root ↔ tag' = tag ∧ (script, lang) ∈ ls := by
  rw [mem_regsFor, mem_allPairs]
  simp [Src.registered, langStmts_flat hflat none]

/-- a feature that registers the entry for one language system registers it for every language system of `ls` -/
def Uniform (ls : List (Tag × Tag)) (e : Src.Entry) : Prop :=
  ∀ tag sc lg, (tag, sc, lg) ∈ e.regs → ∀ sc' lg', (sc', lg') ∈ ls → (tag, sc', lg') ∈ e.regs

theorem uniform_addItems {ls : List (Tag × Tag)} {tag : Tag} {body : List Stmt} (hflat : FlatBody body) :
    ∀ (items : List (Src.Reg × Src.Item)) (es : List Src.Entry), (∀ x ∈ items, x.1 = .root ∧ ∃ l, x.2 = .defn l) →
    (∀ e ∈ es, Uniform ls e) → ∀ e ∈ Src.addItems ls tag body es items, Uniform ls e := by
  intro items
  induction items with
  | nil => intro es _ h; exact h
  | cons it items ih =>
    intro es hit hes
    obtain ⟨hreg, l, hl⟩ := hit it (by simp)
    obtain ⟨reg, item⟩ := it
    simp only at hreg hl
    subst hreg hl
    apply ih _ (fun x hx => hit x (by simp [hx]))
    intro e he
    rcases List.mem_append.mp he with he | he
    · exact hes e he
    · simp only [List.mem_singleton] at he
      subst he
      intro tag' sc lg hm sc' lg' hin
      exact (mem_regsFor_flat hflat).mpr ⟨((mem_regsFor_flat hflat).mp hm).1, hin⟩

theorem uniform_entriesOf {ls : List (Tag × Tag)} {fs : List (Tag × List Stmt)} (hflat : ∀ x ∈ fs, FlatBody x.2) :
    ∀ (es : List Src.Entry), (∀ e ∈ es, Uniform ls e) → ∀ e ∈ Src.entriesOf ls es (featTops fs), Uniform ls e := by
  induction fs with
  | nil => intro es h; exact h
  | cons x fs ih =>
    intro es hes
    apply ih (fun y hy => hflat y (by simp [hy]))
    have hw : AtRoot ((x.2.foldl Src.walkStmt {}).flush) :=
      (AtRoot.body (hflat x (by simp)) {} ⟨rfl, by simp, by simp⟩).flush
    exact uniform_addItems (hflat x (by simp)) _ es hw.2.2 hes

theorem langOkFor_of_uniform {es : List Src.Entry} {ls : List (Tag × Tag)} (h : ∀ e ∈ es, Uniform ls e)
    {script lang : Tag} (hreg : (script, lang) ∈ ls) (isPos : Bool) : LangOkFor es isPos script lang := by
  by_cases hex : regsAny es isPos script lang = true
  · exact Or.inr (Or.inl hex)
  · refine Or.inr (Or.inr (Bool.eq_false_iff.mpr fun hd => hex ?_))
    obtain ⟨e, he, hpos, tag, hm⟩ := regsAny_iff.mp hd
    exact regsAny_iff.mpr ⟨e, he, hpos, tag, h e he tag script "dflt" hm script lang hreg⟩

end Fontc.FeaCompile
