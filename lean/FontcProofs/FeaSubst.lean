/-
  C11, per-lookup correctness of the map-keyed lookups: single, multiple (with promoted single
  rules), alternate substitution and single positioning.  The write-fonts builders keep one entry
  per glyph in a `BTreeMap` (the last insertion wins); the source says "first matching rule".
  The two agree when the entries are functional (a glyph entered twice gets the same value both times),
  in particular when no glyph is targeted twice (`functional_of_targets`), which is what C11 asks.
-/
import FontcModel.FeaCompile
import FontcProofs.FeaMap

namespace Fontc.FeaCompile
open Cmp

/-- `pairs r` are the entries rule `r` inserts into a map-keyed builder.  The first rule with an entry for `g`
    wins because a later insertion that overwrites it writes the same value. -/
theorem lookup_foldl_rules {β : Type} {pairs : Rule → List (Glyph × β)} {rs : List Rule}
    (hf : Functional (rs.flatMap pairs)) (g : Glyph) :
    ((rs.flatMap pairs).foldl (fun m p => mapInsert p.1 p.2 m) []).lookup g
      = rs.findSome? fun r => (pairs r).lookup g := by
  rw [lookup_foldl_mapInsert hf, findSome?_lookup_flatMap]
  exact Option.or_none

theorem functional_of_targets {β : Type} {pairs : Rule → List (Glyph × β)}
    (hkeys : ∀ r, ((pairs r).map (·.1)).Sublist (Wf.targets r)) {rs : List Rule}
    (hnd : (rs.flatMap Wf.targets).Nodup) : Functional (rs.flatMap pairs) :=
  functional_of_nodup ((flatMap_map_sublist hkeys rs).nodup hnd)

/-- `(target glyph, replacement sequence)` pairs of a rule of a single / multiple substitution lookup -/
def substPairs : Rule → List (Glyph × List Glyph)
  | .single t r => (singlePairs (normSingle t r).1 (normSingle t r).2).map fun p => (p.1, [p.2])
  | .multiple t r => [(t, r)]
  | _ => []

/-- `(target glyph, replacement glyph)` pairs of a rule of a single substitution lookup -/
def singlePairsOf : Rule → List (Glyph × Glyph)
  | .single t r => singlePairs (normSingle t r).1 (normSingle t r).2
  | _ => []

theorem lookup_singlePairs (t r : GC) (g : Glyph) :
    ((singlePairs (normSingle t r).1 (normSingle t r).2).lookup g).map ([·]) = Src.subst1 (.single t r) g := by
  cases t with
  | g a => cases r <;> simp [normSingle, singlePairs, Src.subst1]
  | c as =>
    cases r with
    | g b =>
      simp only [normSingle, singlePairs, Src.subst1, lookup_map_const]
      split <;> simp
    | c bs =>
      match bs with
      | [] => simp [normSingle, singlePairs, Src.subst1]
      | [b] =>
        simp only [normSingle, singlePairs, Src.subst1, lookup_map_const]
        split <;> simp
      | b :: b' :: rest =>
        simp only [normSingle, singlePairs, Src.subst1, lookup_zip]

theorem lookup_substPairs (r : Rule) (g : Glyph) : (substPairs r).lookup g = Src.subst1 r g := by
  cases r with
  | single t r => rw [substPairs, lookup_map_snd (fun _ x => [x]), lookup_singlePairs]
  | multiple t r => simp [substPairs, Src.subst1, lookup_cons_ite]
  | _ => simp [substPairs, Src.subst1]

theorem zip_keys_sublist (as bs : List Glyph) : ((as.zip bs).map (·.1)).Sublist as := by
  induction as generalizing bs with
  | nil => simp
  | cons a as ih =>
    cases bs with
    | nil => simp
    | cons b bs => simpa using ih bs

theorem normSingle_fst (t r : GC) : (normSingle t r).1 = t := by
  unfold normSingle; split <;> rfl

theorem singlePairsOf_keys (r : Rule) : ((singlePairsOf r).map (·.1)).Sublist (Wf.targets r) := by
  cases r with
  | single t r =>
    rw [singlePairsOf, Wf.targets, normSingle_fst]
    cases t with
    | g a => cases (normSingle (.g a) r).2 <;> simp [singlePairs, GC.glyphs]
    | c as =>
      cases (normSingle (.c as) r).2 with
      | g b => simp [singlePairs, GC.glyphs, Function.comp_def]
      | c bs => exact zip_keys_sublist as bs
  | _ => simp [singlePairsOf]

theorem substPairs_keys (r : Rule) : ((substPairs r).map (·.1)).Sublist (Wf.targets r) := by
  cases r with
  | single t r => rw [substPairs, map_fst_map fun x => [x]]; exact singlePairsOf_keys (.single t r)
  | multiple t r => simp [substPairs, Wf.targets]
  | _ => simp [substPairs]

/-- the single rules of the lookup go in promoted to multiple rules -/
theorem multiple_lookup_correct {fx : Fixes} {root : Nat} {named : String → LookupId} {rs : List Rule}
    (hf : Functional (rs.flatMap substPairs))
    (ign : Glyph → Bool) (alt : Nat) (rev : List Glyph) (g : Glyph) (suf : List Glyph) :
    (buildSubtables (rs.foldl (Builder.add fx root named) (.multiple []))).findSome?
        (fun st => OT.simpleSubtableStep ign alt st rev g suf)
      = Src.substStep rs rev g suf := by
  rw [foldl_add_flatMap .multiple (fun m p => mapInsert p.1 p.2 m) substPairs
    (fun r _ m => by
      cases r with
      | single t r => simp only [Builder.add, substPairs, List.foldl_map]
      | _ => rfl)]
  simp only [buildSubtables, List.findSome?_singleton, OT.simpleSubtableStep, Src.substStep,
    lookup_foldl_rules hf, lookup_substPairs]

theorem single_lookup_correct {fx : Fixes} {root : Nat} {named : String → LookupId} {rs : List Rule}
    (hk : ∀ r ∈ rs, r.kind = .single)
    (hf : Functional (rs.flatMap singlePairsOf))
    (ign : Glyph → Bool) (alt : Nat) (rev : List Glyph) (g : Glyph) (suf : List Glyph) :
    (buildSubtables (rs.foldl (Builder.add fx root named) (.single []))).findSome?
        (fun st => OT.simpleSubtableStep ign alt st rev g suf)
      = Src.substStep rs rev g suf := by
  have hsrc : ∀ r ∈ rs, Src.subst1 r g = ((singlePairsOf r).lookup g).map ([·]) := by
    intro r hr
    have hkr := hk r hr
    cases r <;> first | exact (lookup_singlePairs _ _ g).symm | cases hkr
  rw [foldl_add_flatMap .single (fun m p => mapInsert p.1 p.2 m) singlePairsOf
    (fun r _ m => by cases r <;> rfl)]
  rw [buildSubtables, findSome_unless_empty OT.Subtable.single rfl, Src.substStep, findSome?_congr hsrc]
  simp only [OT.simpleSubtableStep, lookup_foldl_rules hf, List.map_findSome?,
    Option.map_map, Function.comp_def]

/-- `promote_single_sub_to_multi_if_necessary` commutes with adding the rules: a single builder promoted after its
    rules went in is the multiple builder the same rules give, which is the one `multiple_lookup_correct` speaks of when
    it starts from `.multiple []`.  The whole-program theorems exclude a single rule next to a multiple rule in one
    lookup (`NoMixFrom`, `BlockOk`), so nothing is promoted there. -/
theorem promote_multi_foldl (ps : List (Glyph × Glyph)) (m : List (Glyph × Glyph)) :
    (ps.foldl (fun m p => mapInsert p.1 p.2 m) m).map (fun p => (p.1, [p.2]))
      = (ps.map fun p => (p.1, [p.2])).foldl (fun m p => mapInsert p.1 p.2 m) (m.map fun p => (p.1, [p.2])) := by
  have hins : ∀ (k : Glyph) (v : Glyph) (m : List (Glyph × Glyph)),
      (mapInsert k v m).map (fun p => (p.1, [p.2])) = mapInsert k [v] (m.map fun p => (p.1, [p.2])) := by
    intro k v m
    fun_induction mapInsert k v m <;> simp [mapInsert, *]
  induction ps generalizing m with
  | nil => rfl
  | cons p ps ih => simp only [List.foldl_cons, List.map_cons, ih, hins]

/-- `(target glyph, alternates)` of a rule of an alternate substitution lookup -/
def altPairs : Rule → List (Glyph × List Glyph)
  | .alternate t a => [(t, a)]
  | _ => []

theorem lookup_altPairs (r : Rule) (g : Glyph) : (altPairs r).lookup g = Src.altOf r g := by
  cases r <;> simp [altPairs, Src.altOf, lookup_cons_ite]

theorem altPairs_keys (r : Rule) : ((altPairs r).map (·.1)).Sublist (Wf.targets r) := by
  cases r <;> simp [altPairs, Wf.targets]

/-- the same alternates in the same order for every glyph, so the same glyph for every selector `alt` -/
theorem alternate_lookup_correct {fx : Fixes} {root : Nat} {named : String → LookupId} {rs : List Rule}
    (hf : Functional (rs.flatMap altPairs))
    (ign : Glyph → Bool) (alt : Nat) (rev : List Glyph) (g : Glyph) (suf : List Glyph) :
    (buildSubtables (rs.foldl (Builder.add fx root named) (.alternate []))).findSome?
        (fun st => OT.simpleSubtableStep ign alt st rev g suf)
      = Src.altStep alt rs rev g suf := by
  rw [foldl_add_flatMap .alternate (fun m p => mapInsert p.1 p.2 m) altPairs
    (fun r _ m => by cases r <;> rfl)]
  simp only [buildSubtables, List.findSome?_singleton, OT.simpleSubtableStep, Src.altStep,
    lookup_foldl_rules hf, lookup_altPairs]

/-- `(glyph, value record)` pairs of a rule of a single positioning lookup -/
def sposPairs : Rule → List (Glyph × Value)
  | .spos t v => t.glyphs.map (·, v)
  | _ => []

theorem lookup_sposPairs (r : Rule) (g : Glyph) : (sposPairs r).lookup g = Src.sposOf r g := by
  cases r with
  | spos t v => simp only [sposPairs, Src.sposOf, lookup_map_const, GC.has]; rfl
  | _ => simp [sposPairs, Src.sposOf]

theorem sposPairs_keys (r : Rule) : ((sposPairs r).map (·.1)).Sublist (Wf.targets r) := by
  cases r <;> simp [sposPairs, Wf.targets, Function.comp_def]

theorem spos_lookup_correct {fx : Fixes} {root : Nat} {named : String → LookupId} {rs : List Rule}
    (hf : Functional (rs.flatMap sposPairs))
    (ign : Glyph → Bool) (rev : List PGlyph) (x : PGlyph) (suf : List PGlyph) :
    (buildSubtables (rs.foldl (Builder.add fx root named) (.spos []))).findSome?
        (fun st => OT.posSubtableStep ign st rev x suf)
      = Src.sposStep rs rev x suf := by
  rw [foldl_add_flatMap .spos (fun m p => mapInsert p.1 p.2 m) sposPairs
    (fun r _ m => by
      cases r with
      | spos t v => simp only [Builder.add, sposPairs, List.foldl_map]
      | _ => rfl)]
  rw [buildSubtables, findSome_unless_empty OT.Subtable.spos rfl]
  simp only [OT.posSubtableStep, Src.sposStep, lookup_foldl_rules hf, lookup_sposPairs]

end Fontc.FeaCompile
