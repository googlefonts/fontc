/-
  C11: lookup flags.  A lookup flag is written in the source with glyph sets; fea-rs turns the mark
  attachment class and the mark filtering set into ids (first use first) and records the sets in
  GDEF.  Under the compiled flag and the compiled GDEF the same glyphs are skipped as under the
  source flag and the source GDEF classes.
-/
import FontcModel.FeaCompile
import FontcProofs.FeaMap

namespace Fontc.FeaCompile
open Cmp

/-- the low four bits of the flag word, as `St.setLookupFlag` computes them -/
def flagBits (f : Flag) : Nat :=
  (if f.rtl then 1 else 0) + (if f.ib then 2 else 0) + (if f.il then 4 else 0) + (if f.im then 8 else 0)

theorem ite_eq_mul_toNat (b : Bool) (c : Nat) : (if b then c else 0) = c * b.toNat := by
  cases b <;> simp

theorem beq_one_of_toNat {m : Nat} {b : Bool} (h : m = b.toNat) : (m == 1) = b := by
  cases b <;> simp [h]

theorem peel {b h : Nat} (hb : b ≤ 1) : (b + 2 * h) / 2 = h ∧ (b + 2 * h) % 2 = b :=
  ⟨by rw [Nat.add_mul_div_left _ _ (by decide), Nat.div_eq_of_lt (Nat.lt_succ_of_le hb), Nat.zero_add],
   by rw [Nat.add_mul_mod_self_left, Nat.mod_eq_of_lt (Nat.lt_succ_of_le hb)]⟩

theorem horner_digits {b0 b1 b2 b3 x : Nat} (k : Nat) (h0 : b0 ≤ 1) (h1 : b1 ≤ 1) (h2 : b2 ≤ 1) (h3 : b3 ≤ 1) (hx : x ≤ 1) (w : Nat)
    (hw : w = b0 + 2 * (b1 + 2 * (b2 + 2 * (b3 + 2 * (x + 2 * (8 * k)))))) :
    w % 2 = b0 ∧ w / 2 % 2 = b1 ∧ w / 4 % 2 = b2 ∧ w / 8 % 2 = b3 ∧ w / 16 % 2 = x ∧ w / 256 = k := by
  have e4 : w / 4 = w / 2 / 2 := (Nat.div_div_eq_div_mul w 2 2).symm
  have e8 : w / 8 = w / 2 / 2 / 2 := by rw [← e4]; exact (Nat.div_div_eq_div_mul w 4 2).symm
  have e16 : w / 16 = w / 2 / 2 / 2 / 2 := by rw [← e8]; exact (Nat.div_div_eq_div_mul w 8 2).symm
  have e256 : w / 256 = w / 2 / 2 / 2 / 2 / 2 / 8 := by
    rw [← e16, Nat.div_div_eq_div_mul, Nat.div_div_eq_div_mul]
  rw [e4, e8, e16, e256, hw]
  simp only [(peel h0).1, (peel h1).1, (peel h2).1, (peel h3).1, (peel hx).1, (peel h0).2,
    (peel h1).2, (peel h2).2, (peel h3).2, (peel hx).2, Nat.mul_div_cancel_left _ (show 0 < 8 by decide), and_self]

theorem bits_decode (f : Flag) {x : Nat} (k : Nat) (hx : x ≤ 1) :
    ((flagBits f + 16 * x + 256 * k) % 2 == 1) = f.rtl ∧
    ((flagBits f + 16 * x + 256 * k) / 2 % 2 == 1) = f.ib ∧ ((flagBits f + 16 * x + 256 * k) / 4 % 2 == 1) = f.il
    ∧ ((flagBits f + 16 * x + 256 * k) / 8 % 2 == 1) = f.im ∧ ((flagBits f + 16 * x + 256 * k) / 16 % 2 == 1) = (x == 1)
    ∧ (flagBits f + 16 * x + 256 * k) / 256 = k := by
  obtain ⟨d0, d1, d2, d3, d4, d8⟩ := horner_digits k f.rtl.toNat_le f.ib.toNat_le
    f.il.toNat_le f.im.toNat_le hx (flagBits f + 16 * x + 256 * k) (by simp only [flagBits, ite_eq_mul_toNat]; omega)
  exact ⟨beq_one_of_toNat d0, beq_one_of_toNat d1, beq_one_of_toNat d2, beq_one_of_toNat d3, congrArg (· == 1) d4, d8⟩

/-- `cf` is the compiled form of the source flag `f` under the id tables: attachment class `k`
    is `aIds[k-1]`, filtering set `i` is `fIds[i]`. -/
def FlagCode (aIds fIds : List (List Glyph)) (cf : CFlag) (f : Flag) : Prop :=
  ∃ ka x, cf.1 = flagBits f + 16 * x + 256 * ka ∧
    (match f.attach with
     | none => ka = 0
     | some c => ∃ j, ka = j + 1 ∧ aIds[j]? = some (sortedSet c)) ∧
    (match f.filter with
     | none => x = 0 ∧ cf.2 = none
     | some c => x = 1 ∧ ∃ i, cf.2 = some i ∧ fIds[i]? = some (sortedSet c))

theorem FlagCode.mono {aIds fIds : List (List Glyph)} {cf : CFlag} {f : Flag} (h : FlagCode aIds fIds cf f)
    (a' f' : List (List Glyph)) : FlagCode (aIds ++ a') (fIds ++ f') cf f := by
  obtain ⟨ka, x, h1, h2, h3⟩ := h
  refine ⟨ka, x, h1, ?_, ?_⟩
  · cases hfa : f.attach with
    | none => simpa [hfa] using h2
    | some c =>
      rw [hfa] at h2
      obtain ⟨j, hj, hget⟩ := h2
      exact ⟨j, hj, (List.getElem?_append_left (List.getElem?_eq_some_iff.mp hget).1).trans hget⟩
  · cases hff : f.filter with
    | none => simpa [hff] using h3
    | some c =>
      rw [hff] at h3
      obtain ⟨hx, i, hi, hget⟩ := h3
      exact ⟨hx, i, hi, (List.getElem?_append_left (List.getElem?_eq_some_iff.mp hget).1).trans hget⟩

/-- the GDEF tables written for the id tables (`buildGdef`) -/
def gdefOf (gdefSrc : List (Glyph × Nat)) (aIds fIds : List (List Glyph)) : OT.Gdef :=
  { classes := (gdefSrc.filter (·.2 != 0)).mergeSort (fun a b => a.1 ≤ b.1),
    attach := (aIds.zipIdx.flatMap fun (c, i) => c.map (·, i + 1)).mergeSort (fun a b => a.1 ≤ b.1),
    sets := fIds }

theorem buildGdef_eq (p : Program) (s : St) : buildGdef p s = gdefOf p.gdef s.attachIds s.filterIds := rfl

theorem classOf_mergeSort {l : List (Glyph × Nat)} (h : (l.map (·.1)).Nodup) (g : Glyph) :
    OT.classOf (l.mergeSort fun a b => a.1 ≤ b.1) g = OT.classOf l g :=
  congrArg (·.getD 0) (lookup_congr (functional_of_nodup h) (fun _ => (List.mergeSort_perm _ _).mem_iff) g)

theorem classOf_eq_iff {l : List (Glyph × Nat)} (h : (l.map (·.1)).Nodup) (g : Glyph) {k : Nat} (hk : k ≠ 0) :
    OT.classOf l g = k ↔ (g, k) ∈ l := by
  rw [← lookup_eq_some_iff_of_nodup h, OT.classOf]
  cases l.lookup g <;> simp [hk.symm]

theorem classOf_classes {gdefSrc : List (Glyph × Nat)} {aIds fIds : List (List Glyph)}
    (hnd : (gdefSrc.map (·.1)).Nodup) (g : Glyph) :
    OT.classOf (gdefOf gdefSrc aIds fIds).classes g = (gdefSrc.lookup g).getD 0 := by
  have hnd' : ((gdefSrc.filter (·.2 != 0)).map (·.1)).Nodup :=
    (List.Sublist.map _ List.filter_sublist).nodup hnd
  rw [gdefOf, classOf_mergeSort hnd']
  -- dropping the entries of class 0 loses nothing: 0 is the default, every other class is told by its entry
  have key : ∀ k, k ≠ 0 → (OT.classOf (gdefSrc.filter (·.2 != 0)) g = k ↔ OT.classOf gdefSrc g = k) := fun k hk => by
    rw [classOf_eq_iff hnd' g hk, classOf_eq_iff hnd g hk, List.mem_filter]
    simp [hk]
  show _ = OT.classOf gdefSrc g
  by_cases h0 : OT.classOf gdefSrc g = 0
  · by_cases h1 : OT.classOf (gdefSrc.filter (·.2 != 0)) g = 0
    · rw [h0, h1]
    · exact ((key _ h1).mp rfl).symm
  · exact (key _ h0).mpr rfl

theorem attach_keys (aIds : List (List Glyph)) :
    (aIds.zipIdx.flatMap fun (c, i) => c.map (·, i + 1)).map (·.1) = aIds.flatMap id := by
  conv => rhs; rw [← List.zipIdx_map_fst 0 aIds, List.flatMap_map]
  rw [List.map_flatMap]
  simp [Function.comp_def]

theorem mem_attach (aIds : List (List Glyph)) (g : Glyph) (k : Nat) :
    (g, k) ∈ (aIds.zipIdx.flatMap fun (c, i) => c.map (·, i + 1)) ↔ ∃ j c, k = j + 1 ∧ aIds[j]? = some c ∧ g ∈ c := by
  simp only [List.mem_flatMap, List.mem_map, Prod.mk.injEq, Prod.exists, List.mem_zipIdx_iff_getElem?]
  constructor
  · rintro ⟨c, i, hget, a, ha, rfl, rfl⟩
    exact ⟨i, c, rfl, by simpa using hget, ha⟩
  · rintro ⟨j, c, rfl, hget, hg⟩
    exact ⟨c, j, by simpa using hget, g, hg, rfl, rfl⟩

theorem classOf_attach {gdefSrc : List (Glyph × Nat)} {aIds fIds : List (List Glyph)}
    (hnd : (aIds.flatMap id).Nodup) {g : Glyph} {j : Nat} {c : List Glyph} (hc : aIds[j]? = some c) :
    (OT.classOf (gdefOf gdefSrc aIds fIds).attach g == j + 1) = c.contains g := by
  have hk := (attach_keys aIds).symm ▸ hnd
  rw [Bool.eq_iff_iff, beq_iff_eq, List.contains_iff_mem, gdefOf, classOf_mergeSort hk,
    classOf_eq_iff hk g (Nat.succ_ne_zero j), mem_attach]
  constructor
  · rintro ⟨j', c', hj', hget', hg⟩
    obtain rfl : j' = j := by omega
    exact Option.some.inj (hget'.symm.trans hc) ▸ hg
  · exact fun hg => ⟨j, c, rfl, hc, hg⟩

/-- With distinct GDEF entries and pairwise disjoint mark attachment classes the compiled flag skips
    exactly the glyphs the source flag skips. -/
theorem ignored_correct {gdefSrc : List (Glyph × Nat)} {aIds fIds : List (List Glyph)} {cf : CFlag} {f : Flag}
    (hg : (gdefSrc.map (·.1)).Nodup) (ha : (aIds.flatMap id).Nodup) (hc : FlagCode aIds fIds cf f) (g : Glyph) :
    OT.ignored (gdefOf gdefSrc aIds fIds) cf.1 cf.2 g = Src.ignored gdefSrc f g := by
  obtain ⟨ka, x, hbits, hatt, hfil⟩ := hc
  have hx : x ≤ 1 := by
    cases hff : f.filter <;> simp [hff] at hfil <;> omega
  obtain ⟨_, d2, d4, d8, d16, d256⟩ := bits_decode f ka hx
  unfold OT.ignored Src.ignored
  simp only [classOf_classes hg g, hbits, d2, d4, d8, d16, d256]
  cases gdefSrc.lookup g with
  | none => rfl
  | some cl =>
    match cl with
    | 0 | 1 | 2 | n + 4 => rfl
    | 3 =>
      -- a mark: `im`, or outside the filtering set (read through `fIds`), or outside the attachment class (through `aIds`)
      simp only [Option.getD_some]
      congr 1
      · congr 1
        cases hff : f.filter with
        | none => rw [hff] at hfil; simp [hfil.1]
        | some c =>
          rw [hff] at hfil
          obtain ⟨hx1, i, hi, hget⟩ := hfil
          simp [gdefOf, hx1, hi, hget, mem_sortedSet]
      · cases hfa : f.attach with
        | none => rw [hfa] at hatt; simp [hatt]
        | some c =>
          rw [hfa] at hatt
          obtain ⟨j, rfl, hget⟩ := hatt
          simp [bne, classOf_attach ha hget, mem_sortedSet]

end Fontc.FeaCompile
