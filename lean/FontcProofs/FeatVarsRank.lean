/-
  The word-vector ranks read through their value `WRank.val`: the word vectors of the unchanged tree refine the
  natural-number rank for at most 64 rules (one word), the patched word vectors (fixes/C16-rank.patch, the code of
  /repo) for every number of rules.
-/
import FontcProofs.FeatVarsSim
import FontcModel.FeatVarsFixed

namespace Fontc.FeatVars

theorem u64_eq_zero_iff (x : UInt64) : x = 0 ↔ x.toNat = 0 := by
  rw [← UInt64.toNat_inj]; rfl

theorem u64_shr1_toNat (x : UInt64) : (x >>> 1).toNat = x.toNat / 2 := by
  rw [UInt64.toNat_shiftRight]; simp [Nat.shiftRight_eq_div_pow]

theorem u64_and1_toNat (x : UInt64) : (x &&& 1).toNat = x.toNat % 2 := by
  rw [UInt64.toNat_and]; simp [Nat.and_one_is_mod]

theorem or_split {k x y u v : Nat} (hu : u < 2 ^ k) (hv : v < 2 ^ k) :
    (2 ^ k * x + u) ||| (2 ^ k * y + v) = 2 ^ k * (x ||| y) + (u ||| v) := by
  apply Nat.eq_of_testBit_eq
  intro j
  rw [Nat.testBit_or, Nat.testBit_two_pow_mul_add x hu, Nat.testBit_two_pow_mul_add y hv,
    Nat.testBit_two_pow_mul_add (x ||| y) (Nat.or_lt_two_pow hu hv)]
  by_cases h : j < k <;> simp [h, Nat.testBit_or]

theorem popcount_split {k : Nat} : ∀ x u, u < 2 ^ k → popcount (2 ^ k * x + u) = popcount x + popcount u := by
  induction k with
  | zero =>
    intro x u hu
    have : u = 0 := by simpa using hu
    subst this
    simp [popcount_zero]
  | succ k ih =>
    intro x u hu
    have e : 2 ^ (k + 1) * x = 2 * (2 ^ k * x) := by rw [Nat.pow_succ]; ac_rfl
    rw [popcount_step (2 ^ (k + 1) * x + u), popcount_step u, e, Nat.mul_add_mod, Nat.mul_add_div (by decide),
      ih x (u / 2) (by rw [Nat.pow_succ] at hu; omega)]
    omega

/-- little-endian value -/
def lval : List UInt64 → Nat
  | [] => 0
  | w :: l => 2 ^ 64 * lval l + w.toNat

theorem val_append_single (a : WRank) (w : UInt64) : WRank.val (a ++ [w]) = WRank.val a * 2 ^ 64 + w.toNat := by
  simp [WRank.val, List.foldl_append]

theorem val_reverse (l : List UInt64) : WRank.val l.reverse = lval l := by
  induction l with
  | nil => rfl
  | cons w l ih => rw [List.reverse_cons, val_append_single, ih, lval]; omega

theorem val_eq_lval (a : WRank) : WRank.val a = lval a.reverse := by
  rw [← val_reverse, List.reverse_reverse]

theorem two_pow_64_succ (k : Nat) : 2 ^ (64 * (k + 1)) = 2 ^ 64 * 2 ^ (64 * k) := by
  rw [← Nat.pow_add]
  congr 1
  omega

theorem lval_lt (l : List UInt64) : lval l < 2 ^ (64 * l.length) := by
  induction l with
  | nil => simp [lval]
  | cons w l ih =>
    have := UInt64.toNat_lt w
    simp only [lval, List.length_cons]
    rw [two_pow_64_succ]
    have : 2 ^ 64 * (lval l + 1) ≤ 2 ^ 64 * 2 ^ (64 * l.length) := Nat.mul_le_mul_left _ ih
    omega

theorem lval_orFront : ∀ {x y : List UInt64}, y.length ≤ x.length → lval (orFront x y) = lval x ||| lval y := by
  intro x
  induction x with
  | nil =>
    intro y hy
    have : y = [] := by simpa using hy
    subst this
    simp [orFront, lval]
  | cons w xs ih =>
    intro y hy
    cases y with
    | nil => simp [orFront, lval]
    | cons v ys =>
      simp only [orFront, lval, UInt64.toNat_or]
      rw [ih (by simpa using hy), or_split (UInt64.toNat_lt w) (UInt64.toNat_lt v)]

theorem val_orFront_low {x y : WRank} (h : y.length ≤ x.length) :
    WRank.val (orFront x.reverse y.reverse).reverse = x.val ||| y.val := by
  rw [val_reverse, lval_orFront (by simpa using h), ← val_eq_lval, ← val_eq_lval]

theorem val_bitor (a b : WRank) : (WRank.bitor a b).val = a.val ||| b.val := by
  unfold WRank.bitor
  split
  · next h => exact val_orFront_low (by omega)
  · next h => rw [val_orFront_low (by omega), Nat.or_comm]

theorem orFront_eq_zipWith : ∀ (x y : List UInt64), x.length ≤ y.length → orFront x y = List.zipWith (· ||| ·) x y := by
  intro x
  induction x with
  | nil => intro y _; simp [orFront]
  | cons w xs ih =>
    intro y hy
    cases y with
    | nil => simp at hy
    | cons v ys => simp [orFront, ih ys (by simpa using hy)]

theorem val_orFront_same_len {x y : List UInt64} (h : x.length = y.length) :
    WRank.val (orFront x y) = WRank.val x ||| WRank.val y := by
  rw [val_eq_lval, orFront_eq_zipWith x y (by omega), List.reverse_zipWith h,
    ← orFront_eq_zipWith _ _ (by simp; omega), lval_orFront (by simp; omega), ← val_eq_lval, ← val_eq_lval]

theorem val_append (x y : WRank) : WRank.val (x ++ y) = 2 ^ (64 * y.length) * WRank.val x + WRank.val y := by
  rw [val_eq_lval, val_eq_lval x, val_eq_lval y, List.reverse_append]
  generalize x.reverse = xr
  have : y.length = y.reverse.length := by simp
  rw [this]
  generalize y.reverse = yr
  induction yr with
  | nil => simp [lval]
  | cons w l ih =>
    simp only [List.cons_append, lval, ih, List.length_cons]
    rw [two_pow_64_succ, Nat.mul_add, Nat.mul_assoc]
    omega

theorem val_lt (a : WRank) : a.val < 2 ^ (64 * a.length) := by
  rw [val_eq_lval]; simpa using lval_lt a.reverse

theorem val_nil : WRank.val [] = 0 := rfl

theorem val_cons (w : UInt64) (a : WRank) : WRank.val (w :: a) = 2 ^ (64 * a.length) * w.toNat + WRank.val a := by
  have := val_append [w] a
  simpa [WRank.val] using this

/-- `a` is padded to `b`'s length by `b`'s own high words, which or-ed with themselves do not change -/
theorem val_pad_or {a b : WRank} (h : a.length ≤ b.length) :
    WRank.val (b.take (b.length - a.length) ++ a) ||| b.val = a.val ||| b.val := by
  have hdl : (b.drop (b.length - a.length)).length = a.length := by simp; omega
  have hbv : b.val = 2 ^ (64 * a.length) * WRank.val (b.take (b.length - a.length)) + WRank.val (b.drop (b.length - a.length)) := by
    conv => lhs; rw [← List.take_append_drop (b.length - a.length) b]
    rw [val_append, hdl]
  have ha := val_lt a
  have hd := val_lt (b.drop (b.length - a.length))
  rw [hdl] at hd
  rw [val_append, hbv, or_split ha hd]
  have : a.val = 2 ^ (64 * a.length) * 0 + a.val := by simp
  conv => rhs; rw [this]
  rw [or_split ha hd]
  simp

/-- Only when `a` is not longer than `b`: the `|=` of the unchanged tree goes word by word from the front
    (DESIGN.md §7 F5). -/
theorem val_bitorAssign_of_le {a b : WRank} (h : a.length ≤ b.length) :
    (WRank.bitorAssign a b).val = a.val ||| b.val := by
  unfold WRank.bitorAssign
  rw [val_orFront_same_len (by simp; omega), val_pad_or h]

theorem countZeros_add_popcount (a : WRank) : a.countZeros + popcount a.val = 64 * a.length := by
  induction a with
  | nil => simp [WRank.countZeros, WRank.val, popcount_zero]
  | cons w a ih =>
    rw [val_cons, popcount_split _ _ (val_lt a)]
    have hw := popcount_le_of_lt_two_pow (UInt64.toNat_lt w)
    simp only [WRank.countZeros, List.map_cons, List.sum_cons, countZeros64, List.length_cons] at ih ⊢
    omega

theorem val_replicate_zero (k : Nat) : WRank.val (List.replicate k 0) = 0 := by
  induction k with
  | zero => rfl
  | succ k ih => rw [List.replicate_succ, val_cons, ih]; simp

theorem val_new (i : Nat) : WRank.val (WRank.new i) = 2 ^ i := by
  unfold WRank.new
  rw [val_cons, val_replicate_zero, List.length_replicate]
  have h1 : ((1 : UInt64) <<< (i % 64).toUInt64).toNat = 2 ^ (i % 64) := by
    have hlt : i % 64 < 64 := Nat.mod_lt _ (by omega)
    have h1 : (i % 64).toUInt64.toNat = i % 64 := by
      show (UInt64.ofNat (i % 64)).toNat = i % 64
      rw [UInt64.toNat_ofNat']; omega
    rw [UInt64.toNat_shiftLeft, h1, UInt64.toNat_one, Nat.one_shiftLeft, Nat.mod_mod]
    exact Nat.mod_eq_of_lt (Nat.pow_lt_pow_right (by omega) hlt)
  rw [h1, Nat.add_zero, ← Nat.pow_add]
  congr 1
  have := Nat.div_add_mod i 64
  omega

theorem val_bitorAssignFixed (a b : WRank) : (WRank.bitorAssignFixed a b).val = a.val ||| b.val := by
  unfold WRank.bitorAssignFixed
  rw [val_orFront_low (by simp; omega)]
  by_cases hlen : a.length ≤ b.length
  · exact val_pad_or hlen
  · have : b.length - a.length = 0 := by omega
    rw [this, List.take_zero, List.nil_append]

theorem countOnes_eq_popcount (a : WRank) : a.countOnes = popcount a.val := by
  induction a with
  | nil => simp [WRank.countOnes, val_nil, popcount_zero]
  | cons w a ih =>
    rw [val_cons, popcount_split _ _ (val_lt a), ← ih]
    simp [WRank.countOnes]

theorem val_eq_zero_iff (a : WRank) : a.val = 0 ↔ WRank.isAllZeros a = true := by
  induction a with
  | nil => simp [val_nil, WRank.isAllZeros]
  | cons w a ih =>
    have hpos : 2 ^ (64 * a.length) ≠ 0 := Nat.ne_of_gt (Nat.two_pow_pos _)
    have hall : WRank.isAllZeros (w :: a) = true ↔ w = 0 ∧ WRank.isAllZeros a = true := by
      simp [WRank.isAllZeros]
    rw [val_cons, Nat.add_eq_zero_iff, Nat.mul_eq_zero, or_iff_right hpos, ih, hall, u64_eq_zero_iff]

theorem firstBitIsSet_eq (a : WRank) : WRank.firstBitIsSet a = a.val.testBit 0 := by
  have key : ∀ x : UInt64, ((x &&& 1) != 0) = x.toNat.testBit 0 := by
    intro x
    rw [Nat.testBit_zero, ← u64_and1_toNat]
    have h01 : (x &&& 1).toNat = 0 ∨ (x &&& 1).toNat = 1 := by rw [u64_and1_toNat]; omega
    rcases h01 with h | h
    · have : (x &&& 1) = 0 := (u64_eq_zero_iff _).2 h
      simp [this]
    · have : (x &&& 1) ≠ 0 := fun h0 => by rw [(u64_eq_zero_iff _).1 h0] at h; cases h
      simp [h, this]
  rcases List.eq_nil_or_concat a with rfl | ⟨l, w, rfl⟩
  · simp [WRank.firstBitIsSet, val_nil]
  · simp only [WRank.firstBitIsSet, List.concat_eq_append, List.getLast?_append, List.getLast?_singleton,
      Option.some_or, Option.getD_some]
    rw [key, val_append_single, Nat.testBit_zero, Nat.testBit_zero]
    have : (WRank.val l * 2 ^ 64 + w.toNat) % 2 = w.toNat % 2 := by omega
    rw [this]

theorem length_shiftAux (a : WRank) (c : UInt64) : (shiftAux a c).length = a.length := by
  induction a generalizing c with
  | nil => rfl
  | cons v vs ih => simp [shiftAux, ih]

theorem shift_word_toNat {v c : UInt64} (hc : c.toNat ≤ 1) :
    ((v >>> 1) ||| (c <<< 63)).toNat = v.toNat / 2 + c.toNat * 2 ^ 63 := by
  have hv := UInt64.toNat_lt v
  have h1 : (c <<< 63).toNat = 2 ^ 63 * c.toNat := by
    rw [UInt64.toNat_shiftLeft]
    have : (63 : UInt64).toNat % 64 = 63 := by decide
    rw [this, Nat.shiftLeft_eq, Nat.mul_comm]
    apply Nat.mod_eq_of_lt
    have : c.toNat = 0 ∨ c.toNat = 1 := by omega
    rcases this with h | h <;> rw [h] <;> decide
  rw [UInt64.toNat_or, u64_shr1_toNat, h1, Nat.or_comm, ← Nat.two_pow_add_eq_or_of_lt (by omega)]
  omega

theorem val_shiftAux (a : WRank) : ∀ c : UInt64, c.toNat ≤ 1 →
    WRank.val (shiftAux a c) = (c.toNat * 2 ^ (64 * a.length) + WRank.val a) / 2 := by
  induction a with
  | nil => intro c hc; simp [shiftAux, val_nil]; omega
  | cons v vs ih =>
    intro c hc
    have hlow : (v &&& 1).toNat ≤ 1 := by rw [u64_and1_toNat]; omega
    rw [shiftAux, val_cons, length_shiftAux, ih _ hlow, shift_word_toNat hc, u64_and1_toNat, val_cons]
    -- the numerator is twice the new leading word (times its weight) plus the numerator of the tail
    have e : c.toNat * 2 ^ (64 * (v :: vs).length) + (2 ^ (64 * vs.length) * v.toNat + WRank.val vs)
        = 2 * (2 ^ (64 * vs.length) * (v.toNat / 2 + c.toNat * 2 ^ 63))
          + (v.toNat % 2 * 2 ^ (64 * vs.length) + WRank.val vs) := by
      have h64 : 2 ^ (64 * (v :: vs).length) = 2 * 2 ^ 63 * 2 ^ (64 * vs.length) := by
        rw [List.length_cons, Nat.mul_add, Nat.pow_add, Nat.mul_comm]
      have hv := Nat.div_add_mod v.toNat 2
      generalize 2 ^ (64 * vs.length) = K at *
      grind
    rw [e, Nat.mul_add_div (by decide)]

theorem val_rightShiftOne (a : WRank) : (WRank.rightShiftOne a).val = a.val / 2 := by
  unfold WRank.rightShiftOne
  rw [val_shiftAux a 0 (by decide)]
  simp

theorem orFront_nil_right (x : WRank) : orFront x [] = x := by cases x <;> rfl

theorem length_orFront : ∀ x y : WRank, (orFront x y).length = x.length
  | [], _ => rfl
  | _ :: _, [] => rfl
  | _ :: xs, _ :: ys => by simp [orFront, length_orFront xs ys]

theorem length_bitor (a b : WRank) : (WRank.bitor a b).length = max a.length b.length := by
  unfold WRank.bitor
  split <;> simp [length_orFront] <;> omega

theorem length_bitorAssign (a b : WRank) : (WRank.bitorAssign a b).length = max a.length b.length := by
  simp [WRank.bitorAssign, length_orFront]; omega

/-- an accumulator of at most one word is never longer than a non-empty right-hand side, so for it `|=` is right -/
theorem val_bitorAssign_of_short {a b : WRank} (h : a.length ≤ 1) : (WRank.bitorAssign a b).val = a.val ||| b.val := by
  by_cases hab : a.length ≤ b.length
  · exact val_bitorAssign_of_le hab
  · have : b = [] := List.length_eq_zero_iff.1 (by omega)
    subst this
    simp [WRank.bitorAssign, orFront_nil_right, val_nil]

theorem wordOpsFixed_le (a b : WRank) : wordOpsFixed.le a b = natOps.le a.val b.val := by
  show decide (b.countOnes ≤ a.countOnes) = decide (popcount b.val ≤ popcount a.val)
  rw [countOnes_eq_popcount, countOnes_eq_popcount]

theorem wordOps_le_of_length_eq {a b : WRank} (h : a.length = b.length) : wordOps.le a b = natOps.le a.val b.val := by
  have ha := countZeros_add_popcount a
  have hb := countZeros_add_popcount b
  show decide (a.countZeros ≤ b.countZeros) = decide (popcount b.val ≤ popcount a.val)
  rw [h] at ha
  rw [decide_eq_decide]
  omega

theorem wordRefinesFixed {N : Nat} :
    RefinesNat wordOpsFixed N (fun _ => True) WRank.val where
  zero := ⟨trivial, rfl⟩
  single i _ := ⟨trivial, by rw [Nat.one_shiftLeft]; exact val_new i⟩
  or a b _ _ := ⟨trivial, val_bitor a b⟩
  orAssign a b _ _ := ⟨trivial, val_bitorAssignFixed a b⟩
  shift a _ := ⟨trivial, val_rightShiftOne a⟩
  isZero a _ := by rw [Bool.eq_iff_iff, beq_iff_eq]; exact (val_eq_zero_iff a).symm
  firstBit a _ := firstBitIsSet_eq a
  bound a _ := val_lt a
  le_trans a b c hab hbc := decide_eq_true (Nat.le_trans (of_decide_eq_true hbc) (of_decide_eq_true hab))
  le_total a b := (Nat.le_total b.countOnes a.countOnes).imp decide_eq_true decide_eq_true
  le_eq a b _ _ _ _ := wordOpsFixed_le a b

/-- With at most 64 rules every rank that occurs has at most one word; then `|=` is right, and a non-zero rank has
    exactly one word, so that `count_zeros` is 64 minus the number of set bits. -/
theorem wordRefines64 {N : Nat} (hN : N ≤ 64) :
    RefinesNat wordOps N (fun a => a.length ≤ 1) WRank.val where
  zero := ⟨Nat.zero_le 1, rfl⟩
  single i hi := ⟨by simp [wordOps, WRank.new]; omega, by rw [Nat.one_shiftLeft]; exact val_new i⟩
  or a b ha hb := ⟨by show (WRank.bitor a b).length ≤ 1; rw [length_bitor]; exact Nat.max_le.2 ⟨ha, hb⟩, val_bitor a b⟩
  orAssign a b ha hb :=
    ⟨by show (WRank.bitorAssign a b).length ≤ 1; rw [length_bitorAssign]; exact Nat.max_le.2 ⟨ha, hb⟩,
      val_bitorAssign_of_short ha⟩
  shift a ha := ⟨by show (shiftAux a 0).length ≤ 1; rw [length_shiftAux]; exact ha, val_rightShiftOne a⟩
  isZero a _ := by rw [Bool.eq_iff_iff, beq_iff_eq]; exact (val_eq_zero_iff a).symm
  firstBit a _ := firstBitIsSet_eq a
  bound a _ := val_lt a
  le_trans a b c hab hbc := decide_eq_true (Nat.le_trans (of_decide_eq_true hab) (of_decide_eq_true hbc))
  le_total a b := (Nat.le_total a.countZeros b.countZeros).imp decide_eq_true decide_eq_true
  le_eq a b ha hb hza hzb := by
    have one : ∀ c : WRank, c.length ≤ 1 → c.val ≠ 0 → c.length = 1 := by
      intro c hc hz
      cases c with
      | nil => exact absurd rfl hz
      | cons _ _ => simp at hc ⊢; omega
    exact wordOps_le_of_length_eq (by rw [one a ha hza, one b hb hzb])

end Fontc.FeatVars
