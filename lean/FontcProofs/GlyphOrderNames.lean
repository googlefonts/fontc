/-
  Fresh-name search (`suffixed`, `firstFree`, `nameForDerivative`) and post names.
-/
import FontcModel.GlyphOrder
import FontcProofs.ListFacts

namespace Fontc.GlyphOrder

theorem suffixed_inj {name : String} {a b : Nat} (h : suffixed name a = suffixed name b) : a = b := by
  unfold suffixed at h
  have h1 := congrArg String.toList ((String.append_right_inj (name ++ ".")).mp h)
  simpa using congrArg (Nat.ofDigitChars 10 · 0) h1

/-- The `none` arm of the search is dead: it would put `used.length + 1` distinct names into `used`. -/
theorem firstFree_spec (used : List String) (name : String) (n : Nat) :
    ∃ j, firstFree used name n = n + j ∧ suffixed name (n + j) ∉ used ∧ ∀ i < j, suffixed name (n + i) ∈ used := by
  unfold firstFree
  cases hfind : (List.range (used.length + 1)).find? (fun j => suffixed name (n + j) ∉ used) with
  | some j =>
    obtain ⟨hj, -, hlt⟩ := List.find?_range_eq_some.mp hfind
    exact ⟨j, rfl, by simpa using hj, fun i hi => by simpa using hlt i hi⟩
  | none =>
    have hsub : (List.range (used.length + 1)).map (fun j => suffixed name (n + j)) ⊆ used := by
      intro x hx
      obtain ⟨j, hj, rfl⟩ := List.mem_map.mp hx
      simpa using List.find?_eq_none.mp hfind j hj
    have hnd : ((List.range (used.length + 1)).map fun j => suffixed name (n + j)).Nodup :=
      List.Pairwise.map _ (fun a b hab e => hab (by have := suffixed_inj e; omega)) List.nodup_range
    have := hnd.length_le_of_subset hsub
    simp only [List.length_map, List.length_range] at this
    omega

theorem firstFree_ge (used : List String) (name : String) (n : Nat) : n ≤ firstFree used name n := by
  obtain ⟨j, h, -⟩ := firstFree_spec used name n
  omega

theorem firstFree_not_mem (used : List String) (name : String) (n : Nat) :
    suffixed name (firstFree used name n) ∉ used := by
  obtain ⟨j, h, hj, -⟩ := firstFree_spec used name n
  rwa [h]

theorem firstFree_min {used : List String} {name : String} {n k : Nat} (h1 : n ≤ k)
    (h2 : k < firstFree used name n) : suffixed name k ∈ used := by
  obtain ⟨j, h, -, hlt⟩ := firstFree_spec used name n
  obtain ⟨i, rfl⟩ := Nat.exists_eq_add_of_le h1
  exact hlt i (by omega)

theorem nameForDerivative_not_mem (base : String) (inUse : List String) :
    nameForDerivative base inUse ∉ inUse := firstFree_not_mem inUse base 0

/-- a derived name ends in a decimal digit -/
theorem suffixed_ne_notdef (name : String) (n : Nat) : suffixed name n ≠ notdef := by
  intro h
  have hl := congrArg String.toList h
  unfold suffixed notdef at hl
  have ht : (toString n).toList = Nat.toDigits 10 n := Nat.toList_repr
  simp only [String.toList_append, ht] at hl
  have hd : ∀ c ∈ Nat.toDigits 10 n, c.isDigit = true := fun c hc =>
    Nat.isDigit_of_mem_toDigits (by omega) (by omega) hc
  have hlast := congrArg List.getLast? hl
  obtain ⟨c, hc, hcm⟩ : ∃ c, (Nat.toDigits 10 n).getLast? = some c ∧ c ∈ Nat.toDigits 10 n := by
    cases hg : (Nat.toDigits 10 n).getLast? with
    | none => exact absurd (List.getLast?_eq_none_iff.mp hg) Nat.toDigits_ne_nil
    | some c => exact ⟨c, rfl, List.mem_of_getLast? hg⟩
  rw [List.getLast?_append, hc] at hlast
  have hcf : c = 'f' := by
    have : (".notdef" : String).toList.getLast? = some 'f' := by
      -- a literal is `String.ofList` of its characters: read so, it is not decoded through its UTF-8 bytes
      rw [String.toList_ofList]
      rfl
    rw [this] at hlast
    simpa using hlast
  have := hd c hcm
  rw [hcf] at this
  exact absurd this (by decide)

/-- invariant of the fold of `postStep` after `n` glyphs -/
structure PostInv (n : Nat) (st : PostState) : Prop where
  nodup : st.out.Nodup
  recorded : ∀ x ∈ st.out, x ∈ st.seen.map (·.1)
  length : st.out.length = n

theorem PostInv.push {n : Nat} {st : PostState} (h : PostInv n st) {x : String} {seen' : List (String × Nat)}
    (hx : x ∉ st.seen.map (·.1)) (hseen : ∀ k, k = x ∨ k ∈ st.seen.map (·.1) → k ∈ seen'.map (·.1)) :
    PostInv (n + 1) { seen := seen', out := st.out ++ [x] } := by
  refine ⟨nodup_snoc h.nodup fun hm => hx (h.recorded _ hm), ?_, by simp [h.length]⟩
  intro a ha
  rcases List.mem_append.mp ha with ha | ha
  · exact hseen a (Or.inr (h.recorded a ha))
  · exact hseen a (Or.inl (List.mem_singleton.mp ha))

theorem postStep_inv (rename : List (String × String)) {n : Nat} {st : PostState} (g : String) (h : PostInv n st) :
    PostInv (n + 1) (postStep rename st g) := by
  simp only [postStep]
  generalize sanitize ((rename.lookup g).getD g) = name
  split
  · rename_i k _
    apply h.push (firstFree_not_mem (st.seen.map (·.1)) name k)
    intro k hk
    simp only [List.map_cons, List.mem_cons]
    exact hk.imp_right Or.inr
  · rename_i hl
    apply h.push
    · intro hm
      obtain ⟨p, hp, hpk⟩ := List.mem_map.mp hm
      simpa [hpk] using List.lookup_eq_none_iff.mp hl p hp
    · intro k hk
      simpa using hk

theorem foldl_postStep_inv (rename : List (String × String)) : ∀ (order : List String) (n : Nat) (st : PostState),
    PostInv n st → PostInv (n + order.length) (order.foldl (postStep rename) st)
  | [], _, _, h => h
  | g :: rest, n, st, h => by
    have := foldl_postStep_inv rename rest (n + 1) _ (postStep_inv rename g h)
    rwa [Nat.add_assoc, Nat.add_comm 1] at this

end Fontc.GlyphOrder
