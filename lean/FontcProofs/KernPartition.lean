/-
  C09: the emitted classes of one side are pairwise equal or disjoint, PROVIDED every glyph whose
  group differs between sources is, in every source, in a group that source's kerning references (or in none).
  (Without the proviso the statement is false: FontcProps/C09.lean, `classes_partition_counterexample`.)
  A class is determined by any one of its glyphs: a whole group by the one group of a glyph that is not divergent, the
  signature class of a divergent glyph by the signature alone.
-/
import FontcProofs.KernBuild

namespace Fontc.Kern
open Fontc

/-- The proviso: a divergent glyph is, in every source, in a group that source's kerning references on that side, or in none. -/
def KernedWhereDivergent (srcs : List Source) : Prop :=
  ∀ side g, isDivergent srcs side g = true → ∀ s ∈ srcs, s.kernedGroupOf side g = s.groupOf side g

/-- Two sources disagree on the group of a divergent glyph, so one of them has it in a group. -/
theorem mem_sideGlyphs_of_divergent {srcs : List Source} {side : Side} {g : Nat}
    (h : isDivergent srcs side g = true) : g ∈ sideGlyphs srcs side := by
  cases srcs with
  | nil => cases h
  | cons s₀ rest =>
    obtain ⟨s, hs, hne⟩ := List.any_eq_true.mp h
    cases h₀ : s₀.groupOf side g with
    | some G => exact groupOf_mem_sideGlyphs List.mem_cons_self h₀
    | none =>
      cases hg : s.groupOf side g with
      | some G => exact groupOf_mem_sideGlyphs (List.mem_cons_of_mem _ hs) hg
      | none => rw [h₀, hg] at hne; cases hne

/-- The executable check the driver evaluates is the same hypothesis. -/
theorem kernedWhereDivergent_iff (srcs : List Source) :
    kernedWhereDivergent srcs = true ↔ KernedWhereDivergent srcs := by
  have key : ∀ side, ((sideGlyphs srcs side).all fun g =>
        !isDivergent srcs side g || srcs.all fun s => s.kernedGroupOf side g == s.groupOf side g) = true ↔
      ∀ g, isDivergent srcs side g = true → ∀ s ∈ srcs, s.kernedGroupOf side g = s.groupOf side g := by
    intro side
    simp only [List.all_eq_true, Bool.or_eq_true, Bool.not_eq_true', beq_iff_eq]
    constructor
    · intro h g hd
      exact (h g (mem_sideGlyphs_of_divergent hd)).resolve_left (by rw [hd]; decide)
    · intro h g _
      cases hd : isDivergent srcs side g with
      | false => exact Or.inl rfl
      | true => exact Or.inr (h g hd)
  unfold kernedWhereDivergent KernedWhereDivergent
  simp only [List.all_cons, List.all_nil, Bool.and_true, Bool.and_eq_true, key]
  constructor
  · intro h side
    cases side
    · exact h.1
    · exact h.2
  · exact fun h => ⟨h .first, h .second⟩

theorem group_unique_of_not_divergent {srcs : List Source} {side : Side} {G G' g : Nat}
    (hnd : isDivergent srcs side g = false)
    (hg : g ∈ allMembers srcs side G) (hg' : g ∈ allMembers srcs side G') : G = G' := by
  obtain ⟨_, s, hs, h⟩ := (mem_allMembers srcs side G g).mp hg
  obtain ⟨_, s', hs', h'⟩ := (mem_allMembers srcs side G' g).mp hg'
  have := groupOf_eq_of_not_divergent hnd hs hs'
  rw [h, h'] at this
  cases this; rfl

theorem class_of_whole_group {srcs : List Source} {side : Side} {G G' g : Nat} (hd : divergentGroup srcs side G = false)
    (hg : g ∈ allMembers srcs side G) {u' : KUnit} (hu' : u' ∈ unitsFor srcs side (.group G')) {c' : List Nat}
    (hc' : u'.emit = .cls c') (hg' : g ∈ c') : c' = allMembers srcs side G := by
  have hnd := not_divergent_of_group hd hg
  rcases (mem_unitsFor_group srcs side G' u').mp hu' with ⟨hd', m, _, rfl⟩ | ⟨_, _, rfl⟩ <;> cases hc'
  · cases group_unique_of_not_divergent hnd hg (mem_sigClass.mp hg').1
    rw [hd] at hd'; cases hd'
  · rw [group_unique_of_not_divergent hnd hg hg']

/-- The right-hand side does not depend on `G`: where the glyph is in `G`, that source kerns `G`, so a glyph of the same
    signature is in `G` there too. -/
theorem sigClass_of_divergent {srcs : List Source} (hK : KernedWhereDivergent srcs) {side : Side} {G g : Nat}
    (hdiv : isDivergent srcs side g = true) (hg : g ∈ allMembers srcs side G) :
    sigClass srcs side G (signature srcs side g) =
      (sideGlyphs srcs side).filter fun m => signature srcs side m == signature srcs side g := by
  obtain ⟨_, s, hs, hsG⟩ := (mem_allMembers srcs side G g).mp hg
  rw [sigClass, allMembers, List.filter_filter]
  refine List.filter_congr fun m _ => ?_
  cases hm : (signature srcs side m == signature srcs side g) with
  | false => rfl
  | true =>
    have h : s.kernedGroupOf side m = some G := by
      rw [signature_pointwise (eq_of_beq hm) hs, hK side g hdiv s hs, hsG]
    rw [Bool.true_and, List.any_eq_true]
    exact ⟨s, hs, by rw [(kernedGroupOf_some h).1]; exact beq_self_eq_true _⟩

theorem units_class_eq {srcs : List Source} (hK : KernedWhereDivergent srcs) {side : Side} {k k' : KSide}
    {u u' : KUnit} (hu : u ∈ unitsFor srcs side k) (hu' : u' ∈ unitsFor srcs side k')
    {c c' : List Nat} (hc : u.emit = .cls c) (hc' : u'.emit = .cls c') (g : Nat) (hg : g ∈ c) (hg' : g ∈ c') :
    c = c' := by
  obtain ⟨G, hu⟩ := cls_unit hu hc
  obtain ⟨G', hu'⟩ := cls_unit hu' hc'
  rcases (mem_unitsFor_group srcs side G u).mp hu with ⟨_, m, _, rfl⟩ | ⟨hd, _, rfl⟩ <;> cases hc
  · rcases (mem_unitsFor_group srcs side G' u').mp hu' with ⟨_, m', _, rfl⟩ | ⟨hd', _, rfl⟩ <;> cases hc'
    · -- two signature classes: both hold the glyphs of the signature of g, of its one group or, g being divergent, all of them
      obtain ⟨hgm, hσ⟩ := mem_sigClass.mp hg
      obtain ⟨hgm', hσ'⟩ := mem_sigClass.mp hg'
      rw [← hσ, ← hσ']
      cases hdiv : isDivergent srcs side g with
      | false => rw [group_unique_of_not_divergent hdiv hgm hgm']
      | true => rw [sigClass_of_divergent hK hdiv hgm, sigClass_of_divergent hK hdiv hgm']
    · exact class_of_whole_group hd' hg' hu rfl hg
  · exact (class_of_whole_group hd hg hu' hc' hg').symm

theorem compat_build {srcs : List Source} (hK : KernedWhereDivergent srcs) : Compat (build srcs) := by
  refine ⟨fun p hp q hq c c' hc hc' => ?_, fun p hp q hq c c' hc hc' => ?_⟩ <;>
    obtain ⟨_, _, u₁, u₂, hu₁, hu₂, _⟩ := emitted_of_mem_build hp <;>
    obtain ⟨_, _, v₁, v₂, hv₁, hv₂, _⟩ := emitted_of_mem_build hq
  · exact units_class_eq hK hu₁ hv₁ hc hc'
  · exact units_class_eq hK hu₂ hv₂ hc hc'

theorem outputClasses_unit {srcs : List Source} {side : Side} {c : List Nat} (hc : c ∈ outputClasses srcs side) :
    ∃ G u, u ∈ unitsFor srcs side (.group G) ∧ u.emit = .cls c := by
  unfold outputClasses at hc
  simp only [List.mem_eraseDups, List.mem_flatMap] at hc
  obtain ⟨G, _, hcG⟩ := hc
  refine ⟨G, ?_⟩
  split at hcG
  · cases hcG
  · rename_i he
    have hne : allMembers srcs side G ≠ [] := fun h => he (by rw [h]; rfl)
    split at hcG
    · rename_i hd
      obtain ⟨⟨c', σ⟩, hmem, rfl⟩ := List.mem_map.mp hcG
      obtain ⟨m, hm, rfl, rfl⟩ := (mem_refinedClasses srcs side G c' σ).mp hmem
      exact ⟨_, (mem_unitsFor_group srcs side G _).mpr (Or.inl ⟨hd, m, hm, rfl⟩), rfl⟩
    · rename_i hd
      rw [List.mem_singleton.mp hcG]
      exact ⟨_, (mem_unitsFor_group srcs side G _).mpr (Or.inr ⟨by simpa using hd, hne, rfl⟩), rfl⟩

end Fontc.Kern
