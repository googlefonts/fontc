/-
  What the recursive walks through components need: children that each return from some fuel on return together
  (`walkAll_eventually`), one child that never returns blocks its parent; the stop conditions of the workload model.
-/
import FontcProofs.CompGraphSort
namespace Fontc.CompGraph
variable {α : Type}

theorem walkAll_congr {β : Type} (f f' : α → Option β) (cs : List α) (h : ∀ c ∈ cs, f c = f' c) : walkAll f cs = walkAll f' cs := by
  induction cs with
  | nil => rfl
  | cons c cs ih =>
    simp only [walkAll]
    rw [h c (List.mem_cons_self ..), ih fun x hx => h x (List.mem_cons_of_mem _ hx)]

theorem walkAll_none_of_mem {β : Type} (f : α → Option β) (cs : List α) (c : α) (hc : c ∈ cs) (h : f c = none) : walkAll f cs = none := by
  induction cs with
  | nil => simp at hc
  | cons x cs ih =>
    simp only [walkAll]
    rcases List.mem_cons.mp hc with hc | hc
    · subst hc; rw [h]
    · rw [ih hc]; cases f x <;> rfl

theorem walkAll_eventually {β : Type} (f : Nat → α → Option β) (bound : α → Nat) (cs : List α)
    (h : ∀ c ∈ cs, ∃ r, ∀ k, bound c < k → f k c = some r) :
    ∃ rs, ∀ k, (∀ c ∈ cs, bound c < k) → walkAll (f k) cs = some rs := by
  induction cs with
  | nil => exact ⟨[], fun _ _ => rfl⟩
  | cons c cs ih =>
    obtain ⟨r, hr⟩ := h c List.mem_cons_self
    obtain ⟨rs, hrs⟩ := ih fun x hx => h x (List.mem_cons_of_mem _ hx)
    refine ⟨r :: rs, fun k hk => ?_⟩
    simp only [walkAll, hr k (hk c List.mem_cons_self), hrs k fun x hx => hk x (List.mem_cons_of_mem _ hx)]

theorem walk_succ [DecidableEq α] {β : Type} (leaf : α → β) (node : α → List β → β) (fuel : Nat) (g : Graph α) (n : α) :
    walk leaf node (fuel + 1) g n =
      match compsOf g n with
      | [] => some (leaf n)
      | c :: cs => (walkAll (fun x => walk leaf node fuel g x) (c :: cs)).map (node n) := rfl

theorem workload_ok {jobs : List JobResult} {pending : Nat} (h : workload jobs pending = .ok ()) :
    pending = 0 ∧ ∀ j ∈ jobs, j = JobResult.ok := by
  induction jobs with
  | nil => cases pending <;> simp [workload] at h ⊢
  | cons j js ih =>
    cases j with
    | ok =>
      simp only [workload] at h
      obtain ⟨h1, h2⟩ := ih h
      refine ⟨h1, fun j hj => ?_⟩
      rcases List.mem_cons.mp hj with hj | hj
      · exact hj
      · exact h2 j hj
    | err m' => simp [workload] at h
    | panic m' => simp [workload] at h

end Fontc.CompGraph
