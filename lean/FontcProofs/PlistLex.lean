/-
  C20 — lexer level of the plist model: what `lex` and `expect` read from each kind of printed token, what
  may follow a bare word (`Stop`), the text of an integer (`intText_alnum`, `parseAtom_intText`).  These are
  all that the reader's proofs use of the text.
-/
import FontcModel.Plist
namespace Fontc.Plist

/-- the text is at its end or continues with a character that is not part of a bare word -/
def Stop (r : List Char) : Prop := ∀ c, r.head? = some c → isAlnum c = false

theorem stop_nil : Stop [] := by intro c h; simp at h
theorem stop_cons {c : Char} (r : List Char) (h : isAlnum c = false) : Stop (c :: r) := by
  intro d hd
  simp at hd
  subst hd
  exact h

theorem beq_false_of_class {p : Char → Bool} {c d : Char} (hc : p c = true) (hd : p d = false) :
    (c == d) = false := by
  cases h : c == d with
  | false => rfl
  | true => rw [eq_of_beq h, hd] at hc; cases hc

theorem isAlnum_not_ws {c : Char} (h : isAlnum c = true) : isWs c = false := by
  simp only [isWs, beq_false_of_class h (d := ' ') (by decide), beq_false_of_class h (d := '\t') (by decide),
    beq_false_of_class h (d := '\r') (by decide), beq_false_of_class h (d := '\n') (by decide), Bool.or_self]

theorem span_append {α : Type} {p : α → Bool} (l r : List α) (hl : ∀ c ∈ l, p c = true)
    (hr : ∀ c, r.head? = some c → p c = false) :
    (l ++ r).takeWhile p = l ∧ (l ++ r).dropWhile p = r := by
  rw [List.takeWhile_append_of_pos hl, List.dropWhile_append_of_pos hl]
  cases r with
  | nil => simp
  | cons c r => simp [List.takeWhile, List.dropWhile, hr c rfl]

theorem ws_all (l : List Char) : ∀ c ∈ ws l, isWs c = true := by
  intro c hc
  simp [ws] at hc
  exact hc.2

theorem stop_ws_append (l r : List Char) (h : Stop r) : Stop (ws l ++ r) := by
  intro d hd
  cases hl : ws l with
  | nil => rw [hl] at hd; exact h d (by simpa using hd)
  | cons a w =>
    rw [hl] at hd
    simp at hd
    subst hd
    have := ws_all l a (by simp [hl])
    cases h : isAlnum a with
    | false => rfl
    | true => rw [isAlnum_not_ws h] at this; cases this

theorem stop_ws_cons (l : List Char) (c : Char) (r : List Char) (hc : isAlnum c = false) :
    Stop (ws l ++ c :: r) :=
  stop_ws_append l _ (stop_cons r hc)

theorem stop_ws (l : List Char) : Stop (ws l) := by
  simpa using stop_ws_append l [] stop_nil

theorem skipWs_ws (l s : List Char) : skipWs (ws l ++ s) = skipWs s :=
  List.dropWhile_append_of_pos (ws_all l)

theorem skipWs_cons {c : Char} (r : List Char) (hc : isWs c = false) : skipWs (c :: r) = c :: r := by
  simp [skipWs, List.dropWhile, hc]

theorem lex_ws (l s : List Char) : lex (ws l ++ s) = lex s := by
  unfold lex; rw [skipWs_ws]

theorem expect_ws (l s : List Char) (d : Char) : expect (ws l ++ s) d = expect s d := by
  unfold expect; rw [skipWs_ws]

theorem expect_hit (l : List Char) (c : Char) (r : List Char) (hc : isWs c = false) :
    expect (ws l ++ c :: r) c = some r := by
  rw [expect_ws, expect, skipWs_cons r hc]
  simp

theorem expect_miss (l : List Char) (c d : Char) (r : List Char) (hd : isWs d = false) (hne : (d == c) = false) :
    expect (ws l ++ d :: r) c = none := by
  rw [expect_ws, expect, skipWs_cons r hd]
  simp [hne]

theorem expect_close_none {s : List Char} {p : Tok × List Char} (h : lex s = some p) :
    expect s ')' = none ∧ expect s '}' = none := by
  rw [lex] at h
  unfold expect
  cases hs : skipWs s with
  | nil => exact ⟨rfl, rfl⟩
  | cons c u =>
    rw [hs] at h
    constructor
    · cases hc : c == ')' with
      | false => simp [hc]
      | true => cases eq_of_beq hc; simp [show isAlnum ')' = false by decide] at h
    · cases hc : c == '}' with
      | false => simp [hc]
      | true => cases eq_of_beq hc; simp [show isAlnum '}' = false by decide] at h

theorem expect_append_none {s : List Char} {c : Char} (hs : lex s ≠ some (.eof, [])) (h : expect s c = none)
    (r : List Char) : expect (s ++ r) c = none := by
  rw [expect] at h ⊢
  rw [skipWs, List.dropWhile_append, ← skipWs]
  cases hw : skipWs s with
  | nil => exact absurd (by rw [lex, hw]) hs
  | cons d u => rw [hw] at h; simpa using h

theorem hexVal_hexDigitCh : ∀ n, n < 16 → ∀ u, hexVal (hexDigitCh n u) = some n := by decide
theorem hexDigitCh_ne_gt : ∀ n, n < 16 → ∀ u, (hexDigitCh n u != '>') = true := by decide

theorem hexRun_digit {k n : Nat} (hn : n < 16) (u : Bool) (s : List Char) (acc : Nat) :
    hexRun (k + 1) (hexDigitCh n u :: s) acc = hexRun k s (acc * 16 + n) := by
  rw [hexRun, hexVal_hexDigitCh n hn u]

theorem hex4_digits (v : Nat) (hv : v < 65536) (u : Bool) (tail : List Char) :
    hex4 (hex4Digits v u ++ tail) = some (v, tail) := by
  have lt16 : ∀ n, n % 16 < 16 := fun n => Nat.mod_lt n (by decide)
  simp only [hex4Digits, List.cons_append, List.nil_append, hex4, hexVal_hexDigitCh _ (lt16 _) u,
    Option.isSome_some, if_true]
  rw [hexRun_digit (lt16 _), hexRun_digit (lt16 _), hexRun_digit (lt16 _), hexRun_digit (lt16 _), hexRun]
  congr 2
  omega

theorem char_valid (c : Char) : c.toNat < 0xD800 ∨ (0xE000 ≤ c.toNat ∧ c.toNat < 0x110000) := by
  have := c.valid
  unfold UInt32.isValidChar Nat.isValidChar at this
  unfold Char.toNat
  omega

theorem scalar_toNat (c : Char) : scalar? c.toNat = some c := by
  have := char_valid c
  unfold scalar?
  have h : (c.toNat < 0xD800 || (0xE000 ≤ c.toNat && c.toNat < 0x110000)) = true := by
    simp; omega
  rw [if_pos h, Char.ofNat_toNat]

theorem parseEscape_uni (v : Nat) (hv : v < 65536) (hs : isSurrogate v = false) (u : Bool) (t : List Char) :
    parseEscape ('U' :: hex4Digits v u ++ t) = (scalar? v).map (·, t) := by
  have hne : (hex4Digits v u ++ t).isEmpty = false := by simp [hex4Digits]
  simp [parseEscape, hne, hex4_digits v hv u t, hs]

theorem parseEscape_uni_pair (hi lo : Nat) (hhi : hi < 65536) (hlo : lo < 65536) (hs : isSurrogate hi = true)
    (u : Bool) (t : List Char) :
    parseEscape ('U' :: hex4Digits hi u ++ '\\' :: 'U' :: hex4Digits lo u ++ t) = (decodePair hi lo).map (·, t) := by
  have h4 := hex4_digits hi hhi u ('\\' :: 'U' :: hex4Digits lo u ++ t)
  have hne : ∀ x y, (hex4Digits x u ++ y).isEmpty = false := by intros; simp [hex4Digits]
  simp only [List.cons_append, List.append_assoc] at h4 ⊢
  simp [parseEscape, hne, h4, hs, hex4_digits lo hlo u t]

/-- a surrogate pair carries ten bits in each half -/
theorem decodePair_halves (a b : Nat) (ha : a < 1024) (hb : b < 1024) :
    decodePair (0xD800 + a) (0xDC00 + b) = scalar? (0x10000 + a * 1024 + b) := by
  unfold decodePair
  rw [if_pos (by simp only [Bool.and_eq_true, decide_eq_true_eq]; omega),
    show 0x10000 + (0xD800 + a - 0xD800) * 1024 + (0xDC00 + b - 0xDC00) = 0x10000 + a * 1024 + b by omega]

theorem oct_head : ∀ n, n < 4 → (digitCh n == '"') = false ∧ (digitCh n == '\\') = false ∧ (digitCh n == 'n') = false ∧
    (digitCh n == 'r') = false ∧ (digitCh n == 't') = false ∧ (digitCh n == 'U') = false ∧
    (decide (48 ≤ (digitCh n).toNat) && decide ((digitCh n).toNat ≤ 51)) = true ∧ (digitCh n).toNat - 48 = n := by decide
theorem oct_tail : ∀ m, m < 8 → isOct (digitCh m) = true ∧ (digitCh m).toNat - 48 = m := by decide

theorem parseEscape_octal (n m k : Nat) (hn : n < 4) (hm : m < 8) (hk : k < 8) (t : List Char) :
    parseEscape (digitCh n :: digitCh m :: digitCh k :: t) = some (Char.ofNat (n * 64 + m * 8 + k), t) := by
  obtain ⟨a1, a2, a3, a4, a5, a6, a7, a8⟩ := oct_head n hn
  obtain ⟨b1, b2⟩ := oct_tail m hm
  obtain ⟨c1, c2⟩ := oct_tail k hk
  simp [parseEscape, a1, a2, a3, a4, a5, a6, a7, a8, b1, b2, c1, c2]

theorem lexQuoted_raw (c : Char) (h1 : (c == '"') = false) (h2 : (c == '\\') = false) (f : Nat)
    (acc t : List Char) : lexQuoted (f + 1) acc (c :: t) = lexQuoted f (c :: acc) t := by
  simp [lexQuoted, h1, h2]

theorem lexQuoted_esc {r : List Char} {c : Char} {t : List Char} (h : parseEscape r = some (c, t)) (f : Nat)
    (acc : List Char) : lexQuoted (f + 1) acc ('\\' :: r) = lexQuoted f (c :: acc) t := by
  simp [lexQuoted, h]

theorem lexQuoted_short (c : Char) (f : Nat) (acc t : List Char) :
    lexQuoted (f + 1) acc (shortEsc c ++ t) = lexQuoted f (c :: acc) t := by
  fun_cases shortEsc c
  -- the five characters with an escape of their own: the loop computes
  case case1 h | case2 _ h | case3 _ _ h | case4 _ _ _ h | case5 _ _ _ _ h => cases eq_of_beq h; rfl
  case case6 h1 h2 _ _ _ => exact lexQuoted_raw c (by simpa using h1) (by simpa using h2) f acc t

theorem lexQuoted_rawEsc (c : Char) (f : Nat) (acc t : List Char) :
    lexQuoted (f + 1) acc (rawEsc c ++ t) = lexQuoted f (c :: acc) t := by
  unfold rawEsc
  split
  · exact lexQuoted_short c f acc t
  · next h =>
    simp at h
    exact lexQuoted_raw c (by simpa using h.1) (by simpa using h.2) f acc t

theorem lexQuoted_step (c : Char) (e : Esc) (f : Nat) (acc t : List Char) :
    lexQuoted (f + 1) acc (escChar c e ++ t) = lexQuoted f (c :: acc) t := by
  cases e with
  | raw => exact lexQuoted_rawEsc c f acc t
  | short => exact lexQuoted_short c f acc t
  | octal =>
    simp only [escChar]
    split
    · next h =>
      have := parseEscape_octal (c.toNat / 64) (c.toNat / 8 % 8) (c.toNat % 8) (by omega) (by omega) (by omega) t
      have hv : c.toNat / 64 * 64 + c.toNat / 8 % 8 * 8 + c.toNat % 8 = c.toNat := by omega
      rw [hv, Char.ofNat_toNat] at this
      exact lexQuoted_esc this f acc
    · exact lexQuoted_rawEsc c f acc t
  | uni u =>
    have hv := char_valid c
    simp only [escChar]
    split
    · next h =>
      have := parseEscape_uni c.toNat h (by simp [isSurrogate]; omega) u t
      rw [scalar_toNat] at this
      exact lexQuoted_esc this f acc
    · next h =>
      -- `c = 0x10000 + w` with ten bits of `w` in each half of the pair
      have hc : c.toNat = 0x10000 + (c.toNat - 0x10000) := by omega
      have hw : c.toNat - 0x10000 < 0x100000 := by omega
      generalize c.toNat - 0x10000 = w at hc hw ⊢
      have := parseEscape_uni_pair (0xD800 + w / 1024) (0xDC00 + w % 1024) (by omega) (by omega)
        (by simp [isSurrogate]; omega) u t
      rw [decodePair_halves _ _ (by omega) (by omega), show 0x10000 + w / 1024 * 1024 + w % 1024 = c.toNat by omega,
        scalar_toNat] at this
      simp only [List.cons_append, List.append_assoc] at this ⊢
      exact lexQuoted_esc this f acc

/-- were the rendering empty, `lexQuoted_step` with no fuel left would equate reading the closing quote with
    running out of fuel -/
theorem escChar_ne_nil (c : Char) (e : Esc) : escChar c e ≠ [] := by
  intro h
  have := lexQuoted_step c e 0 [] ['"']
  rw [h] at this
  simp [lexQuoted] at this

/-- The fuel is measured against the text, as `lex` supplies it. -/
theorem lexQuoted_body (s : List Char) (es : List Esc) (f : Nat) (hf : (quotedBody s es).length < f) (acc r : List Char) :
    lexQuoted f acc (quotedBody s es ++ '"' :: r) = some (acc.reverse ++ s, r) := by
  induction s generalizing es f acc with
  | nil =>
    cases f with
    | zero => simp at hf
    | succ f => simp [quotedBody, lexQuoted]
  | cons c cs ih =>
    cases f with
    | zero => simp at hf
    | succ f =>
      have := List.length_pos_iff.2 (escChar_ne_nil c (es.headD .raw))
      simp only [quotedBody, List.append_assoc, List.length_append] at hf ⊢
      rw [lexQuoted_step, ih es.tail f (by omega)]
      simp

theorem hexBytes_ne_gt (bs : List UInt8) (us : List Bool) : ∀ c ∈ hexBytes bs us, (c != '>') = true := by
  induction bs generalizing us with
  | nil => simp [hexBytes]
  | cons b bs ih =>
    intro c hc
    simp only [hexBytes, List.mem_cons] at hc
    have hb := b.toNat_lt
    rcases hc with rfl | rfl | hc
    · exact hexDigitCh_ne_gt _ (by omega) _
    · exact hexDigitCh_ne_gt _ (by omega) _
    · exact ih _ c hc

theorem hexPairs_hexBytes (bs : List UInt8) (us : List Bool) : hexPairs (hexBytes bs us) = some bs := by
  induction bs generalizing us with
  | nil => simp [hexBytes, hexPairs]
  | cons b bs ih =>
    have hb := b.toNat_lt
    have h1 := hexVal_hexDigitCh (b.toNat / 16) (by omega) (us.headD false)
    have h2 := hexVal_hexDigitCh (b.toNat % 16) (by omega) (us.tail.headD false)
    simp only [hexBytes, hexPairs, h1, h2, ih]
    have : b.toNat / 16 * 16 + b.toNat % 16 = b.toNat := by omega
    rw [this, UInt8.ofNat_toNat]

theorem lexData_hex (bs : List UInt8) (us : List Bool) (r : List Char) :
    lexData (hexBytes bs us ++ '>' :: r) = some (bs, r) := by
  obtain ⟨h1, h2⟩ := span_append (p := (· != '>')) (hexBytes bs us) ('>' :: r) (hexBytes_ne_gt bs us)
    (by rintro c ⟨⟩; rfl)
  unfold lexData
  rw [h2, h1, hexPairs_hexBytes]
  rfl

theorem digitCh_eq : ∀ n, n < 10 → digitCh n = n.digitChar := by decide

theorem natDigitsAux_eq (f n : Nat) (hf : n ≤ f) : natDigitsAux f n = Nat.toDigits 10 n := by
  induction f generalizing n with
  | zero => rw [show n = 0 by omega]; rfl
  | succ f ih =>
    rw [natDigitsAux, Nat.toDigits_eq_if (by decide)]
    split
    · rw [digitCh_eq n ‹_›]
    · rw [ih _ (by omega), digitCh_eq _ (by omega)]

/-- the printer's digits are core's `Nat.toDigits 10`: the facts about decimal text are core's -/
theorem natDigits_eq (n : Nat) : natDigits n = Nat.toDigits 10 n :=
  natDigitsAux_eq n n (Nat.le_refl n)

theorem isDigit_eq (c : Char) : isDigit c = c.isDigit := by
  simp [isDigit, Char.isDigit, UInt32.le_iff_toNat_le]

theorem digitsVal_eq (ds : List Char) : digitsVal ds = Nat.ofDigitChars 10 ds 0 := by
  simp only [digitsVal, Nat.ofDigitChars, Nat.mul_comm]
  rfl

theorem toDigits_head_ne_zero (n : Nat) (h : 0 < n) : (Nat.toDigits 10 n).head? ≠ some '0' := by
  induction n using Nat.strongRecOn with
  | _ n ih =>
    rw [Nat.toDigits_eq_if (by decide)]
    split
    · exact (by decide : ∀ k, k < 10 → 0 < k → [k.digitChar].head? ≠ some '0') n ‹_› h
    · have := ih (n / 10) (by omega) (by omega)
      cases hd : Nat.toDigits 10 (n / 10) with
      | nil => exact absurd hd Nat.toDigits_ne_nil
      | cons a l => rw [hd] at this; exact this

theorem natDigits_spec (n : Nat) :
    (natDigits n).all isDigit = true ∧ natDigits n ≠ [] ∧ digitsVal (natDigits n) = n ∧
    ((natDigits n).length > 1 → (natDigits n).head? ≠ some '0') := by
  rw [natDigits_eq, digitsVal_eq]
  refine ⟨List.all_eq_true.2 fun c hc => (isDigit_eq c).trans (Nat.isDigit_of_mem_toDigits (by decide) (by decide) hc),
    Nat.toDigits_ne_nil, Nat.ofDigitChars_ten_toDigits, fun h => toDigits_head_ne_zero n ?_⟩
  have := Nat.length_toDigits_le_iff (b := 10) (n := n) (k := 1) (by decide) (by decide)
  omega

theorem isDigit_isAlnum {c : Char} (h : isDigit c = true) : isAlnum c = true := by
  simp [isAlnum, isNumericCh, h]

theorem isDigit_not_upper {c : Char} (h : isDigit c = true) : isUpper c = false := by
  simp only [isDigit, Bool.and_eq_true, decide_eq_true_eq] at h
  simp [isUpper]; omega

theorem isInfNan_cons_false (c : Char) (t : List Char) (hu : isUpper c = false) (hi : (c == 'i') = false)
    (hn : (c == 'n') = false) : isInfNan (c :: t) = false := by
  simp [isInfNan, eqIgnoreCase, asciiLower, hu]
  simp at hi hn
  simp [hi, hn]

theorem numericOk_digits (ds : List Char) (hd : ds.all isDigit = true) (hne : ds ≠ [])
    (h0 : ds.length > 1 → ds.head? ≠ some '0') : numericOk ds = true := by
  cases ds with
  | nil => exact absurd rfl hne
  | cons c t =>
    have hc : isDigit c = true := by simp at hd; exact hd.1
    have hq : ((c :: t).length > 1 && (c :: t).head? == some '"' && (c :: t).getLast? == some '"') = false := by
      have := beq_false_of_class hc (d := '"') (by decide)
      simp at this; simp [this]
    have hz : ((c :: t).length > 1 && (c :: t).head? == some '0') = false := by
      by_cases hl : (c :: t).length > 1
      · have := h0 hl
        simp at this
        simp [this]
      · simp at hl; simp [hl]
    unfold numericOk
    simp only [List.isEmpty_cons, Bool.false_eq_true, if_false, hq, hd, Bool.not_true, Bool.and_false, hz,
      isInfNan_cons_false c t (isDigit_not_upper hc) (beq_false_of_class hc (by decide))
        (beq_false_of_class hc (by decide))]

theorem numericOk_neg (ds : List Char) : numericOk ('-' :: ds) = true := by
  have hq : (('-' :: ds).length > 1 && ('-' :: ds).head? == some '"' && ('-' :: ds).getLast? == some '"') = false := by
    simp
  have hh : (('-' :: ds).all isHexUpper) = false := by simp [isHexUpper, isDigit]
  have hz : (('-' :: ds).length > 1 && ('-' :: ds).head? == some '0') = false := by simp
  unfold numericOk
  simp only [List.isEmpty_cons, Bool.false_eq_true, if_false, hq, hh, Bool.false_and, hz,
    isInfNan_cons_false '-' ds (by decide) (by decide) (by decide)]

theorem stripSign_digit (c : Char) (t : List Char) (hc : isDigit c = true) : stripSign (c :: t) = c :: t := by
  have f4 := beq_false_of_class hc (d := '-') (by decide)
  have f5 := beq_false_of_class hc (d := '+') (by decide)
  simp at f4 f5
  unfold stripSign
  split
  · next h => simp at h; exact absurd h.1 f4
  · next h => simp at h; exact absurd h.1 f5
  · rfl

theorem parseI64_natDigits (n : Nat) (hn : n ≤ 9223372036854775807) : parseI64 (natDigits n) = some (n : Int) := by
  obtain ⟨h1, h2, h3, _⟩ := natDigits_spec n
  cases hd : natDigits n with
  | nil => exact absurd hd h2
  | cons c t =>
    rw [hd] at h1 h3
    have hc : isDigit c = true := by simp at h1; exact h1.1
    have f4 := beq_false_of_class hc (d := '-') (by decide)
    simp at f4
    unfold parseI64
    simp only [stripSign_digit c t hc, h1, h3]
    simp [f4]
    omega

theorem parseI64_neg (n : Nat) (hn : n ≤ 9223372036854775808) : parseI64 ('-' :: natDigits n) = some (-(n : Int)) := by
  obtain ⟨h1, h2, h3, _⟩ := natDigits_spec n
  unfold parseI64
  simp only [stripSign, h1, h3]
  cases hd : natDigits n with
  | nil => exact absurd hd h2
  | cons c t => simp; omega

theorem intText_alnum (i : Int) : (intText i).all isAlnum = true ∧ intText i ≠ [] := by
  obtain ⟨h1, h2, _⟩ := natDigits_spec i.natAbs
  have hall : (natDigits i.natAbs).all isAlnum = true := by
    rw [List.all_eq_true] at h1 ⊢
    intro c hc; exact isDigit_isAlnum (h1 c hc)
  unfold intText
  split
  · refine ⟨?_, by simp⟩
    simp only [List.all_cons, hall, Bool.and_true]; decide
  · exact ⟨hall, h2⟩

theorem parseAtom_intText (i : Int) (hlo : -9223372036854775808 ≤ i) (hhi : i ≤ 9223372036854775807) :
    parseAtom (intText i) = .int i := by
  obtain ⟨h1, h2, _, h4⟩ := natDigits_spec i.natAbs
  unfold intText
  split
  · next hneg =>
    unfold parseAtom
    rw [numericOk_neg, if_pos rfl, parseI64_neg _ (by omega)]
    simp; omega
  · next hpos =>
    unfold parseAtom
    rw [numericOk_digits _ h1 h2 h4, if_pos rfl, parseI64_natDigits _ (by omega)]
    simp; omega

theorem lex_openParen (l r : List Char) : lex (ws l ++ '(' :: r) = some (.openParen, r) := by
  rw [lex_ws]; rfl

theorem lex_openBrace (l r : List Char) : lex (ws l ++ '{' :: r) = some (.openBrace, r) := by
  rw [lex_ws]; rfl

theorem lex_atom (l a r : List Char) (hne : a ≠ []) (ha : a.all isAlnum = true) (hr : Stop r) :
    lex (ws l ++ (a ++ r)) = some (.atom a, r) := by
  cases a with
  | nil => exact absurd rfl hne
  | cons c t =>
    have hc : isAlnum c = true := by simp at ha; exact ha.1
    obtain ⟨h1, h2⟩ := span_append (c :: t) r (List.all_eq_true.1 ha) hr
    rw [lex_ws, lex, List.cons_append, skipWs_cons _ (isAlnum_not_ws hc)]
    simp only [beq_false_of_class hc (d := '{') (by decide), beq_false_of_class hc (d := '(') (by decide),
      beq_false_of_class hc (d := '<') (by decide), beq_false_of_class hc (d := '"') (by decide), hc,
      Bool.false_eq_true, if_false, if_true]
    rw [← List.cons_append, h1, h2]

theorem lex_quoted (l s : List Char) (es : List Esc) (r : List Char) :
    lex (ws l ++ (printQuoted s es ++ r)) = some (.str s, r) := by
  have key := fun n hn => lexQuoted_body s es n hn [] r
  rw [lex_ws, printQuoted]
  simp only [List.cons_append, List.append_assoc, List.reverse_nil, List.nil_append] at key ⊢
  rw [lex, skipWs_cons _ (by decide)]
  simp
  exact key _ (by simp)

theorem lex_data (l : List Char) (bs : List UInt8) (us : List Bool) (r : List Char) :
    lex (ws l ++ '<' :: (hexBytes bs us ++ '>' :: r)) = some (.data bs, r) := by
  rw [lex_ws, lex, skipWs_cons _ (by decide)]
  simp [lexData_hex]

theorem lex_word (s : List Char) (b : Bool) (es : List Esc) (hb : b = true → bareKeyOk s = true)
    (l r : List Char) (hr : Stop r) :
    lex (ws l ++ ((if b then s else printQuoted s es) ++ r)) = some (if b then .atom s else .str s, r) := by
  cases b with
  | true =>
    obtain ⟨h1, h2⟩ := Bool.and_eq_true_iff.1 (hb rfl)
    exact lex_atom l s r (by intro h; subst h; simp at h1) h2 hr
  | false => exact lex_quoted l s es r

end Fontc.Plist
