/- What the sfnt layout rests on: the byte encoders against their readers, the unreduced OpenType checksum `rawSum` over
   4-aligned concatenations and zero padding, the sort by a key, the checker's `pairwiseB` as `List.Pairwise`. -/
import FontcModel.Sfnt
import FontcProofs.ListFacts

namespace Fontc.SfntProofs
open Fontc.Bytes Fontc.Sfnt

@[simp] theorem length_be16 (n : Nat) : (be16 n).length = 2 := rfl
@[simp] theorem length_be32 (n : Nat) : (be32 n).length = 4 := rfl

theorem take2_be16 {n : Nat} {rest : Bytes} (h : n < 65536) :
    take2 (be16 n ++ rest) = some (n, rest) := by
  simp [be16, take2, UInt8.toNat_ofNat']
  omega

theorem word_be32 {n : Nat} (h : n < 4294967296) :
    word (UInt8.ofNat (n / 16777216)) (UInt8.ofNat (n / 65536)) (UInt8.ofNat (n / 256)) (UInt8.ofNat n) = n := by
  simp only [word, UInt8.toNat_ofNat']
  -- the quotients by 2^16 and 2^24 as iterated quotients by 256, so that one divisor occurs
  have h1 : n / 65536 = n / 256 / 256 := by rw [Nat.div_div_eq_div_mul]
  have h2 : n / 16777216 = n / 256 / 256 / 256 := by rw [Nat.div_div_eq_div_mul, Nat.div_div_eq_div_mul]
  rw [h1, h2]
  omega

theorem take4_be32 {n : Nat} {rest : Bytes} (h : n < 4294967296) :
    take4 (be32 n ++ rest) = some (n, rest) := by
  simp only [be32, List.cons_append, List.nil_append, take4, word_be32 h]

theorem pad4_ge (n : Nat) : n ≤ pad4 n := by unfold pad4; omega
theorem pad4_mod (n : Nat) : pad4 n % 4 = 0 := by unfold pad4; omega
theorem pad4_lt (n : Nat) : pad4 n < n + 4 := by unfold pad4; omega
theorem pad4_of_mod (n : Nat) (h : n % 4 = 0) : pad4 n = n := by unfold pad4; omega

theorem headerLen_mod (n : Nat) : headerLen n % 4 = 0 := by unfold headerLen; omega

theorem sumWords_acc : ∀ (bs : Bytes) (acc : Nat), sumWords acc bs = acc + sumWords 0 bs
  | a :: b :: c :: d :: rest, acc => by
    simp only [sumWords]
    rw [sumWords_acc rest (acc + word a b c d), sumWords_acc rest (0 + word a b c d)]; omega
  | [_, _, _], _ => by simp [sumWords]
  | [_, _], _ => by simp [sumWords]
  | [_], _ => by simp [sumWords]
  | [], _ => by simp [sumWords]

theorem rawSum_nil : rawSum [] = 0 := rfl

theorem rawSum_cons4 (a b c d : UInt8) (rest : Bytes) :
    rawSum (a :: b :: c :: d :: rest) = word a b c d + rawSum rest := by
  simp only [rawSum, sumWords]; rw [sumWords_acc]; omega

theorem rawSum_append : ∀ (a b : Bytes), a.length % 4 = 0 → rawSum (a ++ b) = rawSum a + rawSum b
  | [], b, _ => by simp [rawSum_nil]
  | x :: y :: z :: w :: rest, b, h => by
    have hlen : rest.length % 4 = 0 := by simp at h; omega
    simp only [List.cons_append, rawSum_cons4, rawSum_append rest b hlen]; omega
  | [_], _, h => by simp at h
  | [_, _], _, h => by simp at h
  | [_, _, _], _, h => by simp at h

theorem rawSum_be32 {v : Nat} (h : v < 4294967296) : rawSum (be32 v) = v := by
  simp only [be32, rawSum_cons4, rawSum_nil, word_be32 h, Nat.add_zero]

/-- Zero padding up to a multiple of 4 does not change the sum: `sumWords` zero-extends a last group of 1–3 bytes itself. -/
theorem rawSum_padded : ∀ d : Bytes, rawSum (padded d) = rawSum d
  | a :: b :: c :: e :: rest => by
    have hp : padded (a :: b :: c :: e :: rest) = a :: b :: c :: e :: padded rest := by
      simp only [padded, List.length_cons, List.cons_append]
      rw [show pad4 (rest.length + 1 + 1 + 1 + 1) - (rest.length + 1 + 1 + 1 + 1) = pad4 rest.length - rest.length by
        unfold pad4; omega]
    rw [hp, rawSum_cons4, rawSum_cons4, rawSum_padded rest]
  | [_, _, _] => by simp [padded, pad4, rawSum, sumWords]
  | [_, _] => by simp [padded, pad4, rawSum, sumWords]
  | [_] => by simp [padded, pad4, rawSum, sumWords]
  | [] => rfl

theorem sortBy_spec {α} (key : α → Nat) :
    InsertionSort (fun a b => decide (key a ≤ key b)) (insertBy key) (sortBy key) :=
  ⟨fun _ => rfl, fun _ _ _ => by simp [insertBy], rfl, fun _ _ => rfl⟩

theorem sortBy_perm {α} (key : α → Nat) (l : List α) : (sortBy key l).Perm l := (sortBy_spec key).perm_sort l

theorem sortBy_sorted {α} (key : α → Nat) (l : List α) :
    List.Pairwise (fun x y => key x ≤ key y) (sortBy key l) :=
  (sortBy_spec key).pairwise_rank key (fun _ _ => of_decide_eq_true) (fun _ _ h => decide_eq_true (Nat.le_of_lt h)) l

theorem sortBy_strict {α} (key : α → Nat) (l : List α) (hnd : (l.map key).Nodup) :
    List.Pairwise (fun x y => key x < key y) (sortBy key l) :=
  pairwise_strict_of_nodup Nat.lt_of_le_of_ne key (sortBy_sorted key l) (((sortBy_perm key l).map key).nodup_iff.2 hnd)

theorem pairwiseB_iff {α} {R : α → α → Bool} {l : List α} :
    pairwiseB R l = true ↔ List.Pairwise (fun a b => R a b = true) l := by
  induction l with
  | nil => simp [pairwiseB]
  | cons a l ih => simp [pairwiseB, List.pairwise_cons, List.all_eq_true, ih]

end Fontc.SfntProofs
