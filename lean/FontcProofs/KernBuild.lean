/-
  C09: what `build` (the model of `build_variable_kern_adjustments`) emits: for every key, the pairs of the units of its two
  sides, a glyph/group key standing for the glyph/glyph keys of the group's members.  A pair is one unit per side; it
  carries, at every source, the cascade from its level on for every glyph pair it covers; and every key a source defines
  leaves, for every glyph pair it stands for, a pair at its level.
-/
import FontcProofs.KernBasic
import FontcProofs.Rounding

namespace Fontc.Kern
open Fontc

theorem mem_sideGlyphs (srcs : List Source) (side : Side) (g : Nat) :
    g ∈ sideGlyphs srcs side ↔ ∃ s ∈ srcs, ∃ p ∈ s.groups side, g ∈ p.2 := by
  simp only [sideGlyphs, mem_insertSort, List.mem_eraseDups, List.mem_flatMap]

theorem groupOf_mem_sideGlyphs {srcs : List Source} {s : Source} (hs : s ∈ srcs) {side : Side} {g G : Nat}
    (h : s.groupOf side g = some G) : g ∈ sideGlyphs srcs side := by
  obtain ⟨ms, hm, hg⟩ := groupOfLast_some_mem h
  exact (mem_sideGlyphs srcs side g).mpr ⟨s, hs, (G, ms), hm, hg⟩

theorem mem_allMembers (srcs : List Source) (side : Side) (G g : Nat) :
    g ∈ allMembers srcs side G ↔ g ∈ sideGlyphs srcs side ∧ ∃ s ∈ srcs, s.groupOf side g = some G := by
  simp only [allMembers, List.mem_filter, List.any_eq_true, beq_iff_eq]

theorem mem_allMembers_of_groupOf {srcs : List Source} {s : Source} (hs : s ∈ srcs) {side : Side} {g G : Nat}
    (h : s.groupOf side g = some G) : g ∈ allMembers srcs side G :=
  (mem_allMembers srcs side G g).mpr ⟨groupOf_mem_sideGlyphs hs h, s, hs, h⟩

theorem groupOf_eq_of_not_divergent {srcs : List Source} {side : Side} {g : Nat}
    (h : isDivergent srcs side g = false) {s s' : Source} (hs : s ∈ srcs) (hs' : s' ∈ srcs) :
    s.groupOf side g = s'.groupOf side g := by
  cases srcs with
  | nil => cases hs
  | cons s₀ rest =>
    have key : ∀ x ∈ s₀ :: rest, x.groupOf side g = s₀.groupOf side g := by
      simpa [isDivergent] using h
    rw [key s hs, key s' hs']

theorem not_divergent_of_group {srcs : List Source} {side : Side} {G g : Nat}
    (hG : divergentGroup srcs side G = false) (hg : g ∈ allMembers srcs side G) :
    isDivergent srcs side g = false := by
  unfold divergentGroup at hG
  have := (List.any_eq_false.mp hG) g hg
  simpa using this

theorem kernedGroupOf_eq (s : Source) (side : Side) (g : Nat) :
    s.kernedGroupOf side g = (s.groupOf side g).filter fun G => (s.kernedNames side).contains G := by
  unfold Source.kernedGroupOf
  cases s.groupOf side g <;> rfl

theorem kernedGroupOf_some {s : Source} {side : Side} {g H : Nat} (h : s.kernedGroupOf side g = some H) :
    s.groupOf side g = some H ∧ H ∈ s.kernedNames side := by
  rw [kernedGroupOf_eq, Option.filter_eq_some_iff] at h
  exact ⟨h.1, List.contains_iff_mem.mp h.2⟩

theorem kernedGroupOf_none {s : Source} {side : Side} {g : Nat} (h : s.kernedGroupOf side g = none) :
    s.groupOf side g = none ∨ ∃ H, s.groupOf side g = some H ∧ H ∉ s.kernedNames side := by
  rw [kernedGroupOf_eq, Option.filter_eq_none_iff] at h
  cases hg : s.groupOf side g with
  | none => exact Or.inl rfl
  | some G => exact Or.inr ⟨G, rfl, fun hm => h G hg (List.contains_iff_mem.mpr hm)⟩

theorem lookup_none_of_unkerned {s : Source} {side : Side} {H : Nat} (h : H ∉ s.kernedNames side) {k : Key}
    (hk : keySide side k = .group H) : s.kerns.lookup k = none := by
  cases hl : s.kerns.lookup k with
  | none => rfl
  | some v =>
    refine absurd ?_ h
    unfold Source.kernedNames
    rw [List.mem_filterMap]
    exact ⟨_, mem_of_lookup_eq_some hl, by rw [hk]⟩

theorem lookup_none_of_unkerned_glyph {s : Source} {side : Side} {g : Nat} (h : s.kernedGroupOf side g = none)
    {k : Key} (hk : (keySide side k).stands s side g) (hg : (keySide side k).isGlyph = false) :
    s.kerns.lookup k = none := by
  cases hks : keySide side k with
  | glyph a => rw [hks] at hg; cases hg
  | group H =>
    rw [hks] at hk
    have hk : s.groupOf side g = some H := hk
    rcases kernedGroupOf_none h with hn | ⟨H', hH, hu⟩
    · rw [hn] at hk; cases hk
    · rw [hH] at hk; cases hk
      exact lookup_none_of_unkerned hu hks

theorem resolveUnits_uniform (srcs : List Source) (a b : KSide) (e₁ e₂ : Emit) :
    resolveUnits srcs ⟨.uniform a, e₁⟩ ⟨.uniform b, e₂⟩ = resolvePair srcs (a, b) := rfl

theorem resolveUnits_eq (srcs : List Source) (u₁ u₂ : KUnit) :
    resolveUnits srcs u₁ u₂ = srcs.zipIdx.map fun (s, i) =>
      match u₁.names.at i, u₂.names.at i with
      | some a, some b => s.lookup (a, b)
      | _, _ => 0 := by
  obtain ⟨n₁ | σ₁, e₁⟩ := u₁ <;> obtain ⟨n₂ | σ₂, e₂⟩ := u₂
  case uniform.uniform =>
    -- a uniform name is the name at every source
    rw [resolveUnits_uniform]
    exact (map_zipIdx_eq srcs _ (·.lookup (n₁, n₂)) fun _ _ _ => rfl).symm
  all_goals rfl

theorem signature_getElem? {srcs : List Source} (side : Side) (g : Nat) {i : Nat} {s : Source} (hs : srcs[i]? = some s) :
    (signature srcs side g)[i]? = some (s.kernedGroupOf side g) := by
  unfold signature
  rw [List.getElem?_map, hs]
  rfl

theorem signature_pointwise {srcs : List Source} {side : Side} {m g : Nat}
    (h : signature srcs side m = signature srcs side g) {s : Source} (hs : s ∈ srcs) :
    s.kernedGroupOf side m = s.kernedGroupOf side g := by
  unfold signature at h
  exact (List.map_inj_left.mp h) s hs

/-- The members of group `G` whose signature is `σ`: a class `refine_divergent_groups` makes of `G` (the first component of an
    entry of `refinedClasses`, `mem_refinedClasses`). -/
def sigClass (srcs : List Source) (side : Side) (G : Nat) (σ : List (Option Nat)) : List Nat :=
  (allMembers srcs side G).filter fun g => signature srcs side g == σ

theorem mem_sigClass {srcs : List Source} {side : Side} {G : Nat} {σ : List (Option Nat)} {g : Nat} :
    g ∈ sigClass srcs side G σ ↔ g ∈ allMembers srcs side G ∧ signature srcs side g = σ := by
  rw [sigClass, List.mem_filter, beq_iff_eq]

theorem mem_refinedClasses (srcs : List Source) (side : Side) (G : Nat) (c : List Nat) (σ : List (Option Nat)) :
    (c, σ) ∈ refinedClasses srcs side G ↔
      ∃ m ∈ allMembers srcs side G, σ = signature srcs side m ∧ c = sigClass srcs side G σ := by
  simp only [refinedClasses, List.mem_map, List.mem_eraseDups, Prod.mk.injEq, sigClass]
  constructor
  · rintro ⟨σ', ⟨m, hm, rfl⟩, rfl, rfl⟩; exact ⟨m, hm, rfl, rfl⟩
  · rintro ⟨m, hm, rfl, rfl⟩; exact ⟨_, ⟨m, hm, rfl⟩, rfl, rfl⟩

theorem mem_unitsFor_group (srcs : List Source) (side : Side) (G : Nat) (u : KUnit) :
    u ∈ unitsFor srcs side (.group G) ↔
      (divergentGroup srcs side G = true ∧ ∃ m ∈ allMembers srcs side G,
        u = ⟨.perSource (signature srcs side m), .cls (sigClass srcs side G (signature srcs side m))⟩) ∨
      (divergentGroup srcs side G = false ∧ allMembers srcs side G ≠ [] ∧
        u = ⟨.uniform (.group G), .cls (allMembers srcs side G)⟩) := by
  unfold unitsFor
  simp only
  cases hd : divergentGroup srcs side G with
  | true =>
    simp only [if_true, List.mem_map, true_and, Bool.true_eq_false, false_and, or_false]
    constructor
    · rintro ⟨⟨c, σ⟩, hc, rfl⟩
      obtain ⟨m, hm, rfl, rfl⟩ := (mem_refinedClasses srcs side G c σ).mp hc
      exact ⟨m, hm, rfl⟩
    · rintro ⟨m, hm, rfl⟩
      exact ⟨(_, _), (mem_refinedClasses srcs side G _ _).mpr ⟨m, hm, rfl, rfl⟩, rfl⟩
  | false =>
    simp only [Bool.false_eq_true, if_false, false_and, false_or, true_and]
    cases allMembers srcs side G with
    | nil => simp
    | cons x xs => simp

theorem mem_allKeys (srcs : List Source) (key : Key) :
    key ∈ allKeys srcs ↔ ∃ s ∈ srcs, ∃ v, (key, v) ∈ s.kerns := by
  simp only [allKeys, List.mem_eraseDups, List.mem_flatMap, List.mem_map, Prod.exists, exists_and_right,
    exists_eq_right]

/-- the pairs of the units of the two sides of a key: the second arm of `emitKey` -/
def emitGeneric (srcs : List Source) (key : Key) : List EPair :=
  let cc := !key.1.isGlyph && !key.2.isGlyph
  (unitsFor srcs .first key.1).flatMap fun u₁ =>
    (unitsFor srcs .second key.2).filterMap fun u₂ =>
      let vals := resolveUnits srcs u₁ u₂
      if cc && vals.all (· == 0) then none else some ⟨u₁.emit, u₂.emit, vals⟩

theorem mem_emitGeneric (srcs : List Source) (key : Key) (p : EPair) :
    p ∈ emitGeneric srcs key ↔
      ∃ u₁ ∈ unitsFor srcs .first key.1, ∃ u₂ ∈ unitsFor srcs .second key.2,
        p = ⟨u₁.emit, u₂.emit, resolveUnits srcs u₁ u₂⟩ ∧
        ((!key.1.isGlyph && !key.2.isGlyph) && (resolveUnits srcs u₁ u₂).all (· == 0)) = false := by
  unfold emitGeneric
  simp only [List.mem_flatMap, List.mem_filterMap]
  refine exists_congr fun u₁ => and_congr_right fun _ => exists_congr fun u₂ => and_congr_right fun _ => ?_
  cases ((!key.1.isGlyph && !key.2.isGlyph) && (resolveUnits srcs u₁ u₂).all (· == 0)) <;> simp [eq_comm]

/-- The keys a key is emitted as: a glyph/group key stands for the glyph/glyph keys of the group's members (it is expanded
    cell by cell), every other key for itself. -/
def cells (srcs : List Source) : Key → List Key
  | (.glyph f, .group S) => (allMembers srcs .second S).map fun m => (.glyph f, .glyph m)
  | k => [k]

theorem emitKey_eq_cells (srcs : List Source) (key : Key) :
    emitKey srcs key = (cells srcs key).flatMap (emitGeneric srcs) := by
  obtain ⟨f | G, m | S⟩ := key
  case glyph.group =>
    -- a glyph/glyph key has the one pair of its two glyph units, which is what the first arm writes for the cell
    rw [cells, List.flatMap_map]
    exact List.map_eq_flatMap
  all_goals exact (List.flatMap_singleton ..).symm

theorem mem_build (srcs : List Source) (p : EPair) :
    p ∈ build srcs ↔ ∃ key ∈ allKeys srcs, ∃ k ∈ cells srcs key, p ∈ emitGeneric srcs k := by
  simp only [build, emitKey_eq_cells, List.mem_flatMap]

theorem cells_shape {srcs : List Source} {key k : Key} (hk : k ∈ cells srcs key) :
    k.1.isGlyph = true → k.2.isGlyph = true := by
  obtain ⟨f | G, m | S⟩ := key
  case glyph.group =>
    obtain ⟨m, _, rfl⟩ := List.mem_map.mp hk
    exact fun _ => rfl
  all_goals cases List.mem_singleton.mp hk
  · exact fun _ => rfl
  · exact nofun
  · exact nofun

theorem cells_cover {srcs : List Source} {s : Source} (hs : s ∈ srcs) (key : Key) {g₁ g₂ : Nat}
    (h₁ : key.1.stands s .first g₁) (h₂ : key.2.stands s .second g₂) :
    ∃ k ∈ cells srcs key, k.1.stands s .first g₁ ∧ k.2.stands s .second g₂ ∧ k.level = key.level := by
  obtain ⟨f | G, m | S⟩ := key
  case glyph.group =>
    exact ⟨(.glyph f, .glyph g₂), List.mem_map.mpr ⟨g₂, mem_allMembers_of_groupOf hs h₂, rfl⟩,
      h₁, rfl, rfl⟩
  all_goals exact ⟨_, List.mem_singleton.mpr rfl, h₁, h₂, rfl⟩

/-- What the name of a unit at one source (`Names::at`) is for a glyph `g` the unit covers, `c` saying whether the unit is a
    class: a name of `g` in that source, a group iff the unit is a class; or no name, and then `g` is in no group that `s`
    kerns on that side. -/
def NameStands (s : Source) (side : Side) (g : Nat) (c : Bool) : Option KSide → Prop
  | some k => k.stands s side g ∧ c = !k.isGlyph
  | none => c = true ∧ s.kernedGroupOf side g = none

theorem unitsFor_spec {srcs : List Source} {side : Side} {k : KSide} {u : KUnit} (hu : u ∈ unitsFor srcs side k) :
    u.emit.isCls = !k.isGlyph ∧ (∃ g, u.emit.covers g = true) ∧
      ∀ g, u.emit.covers g = true → ∀ i s, srcs[i]? = some s → NameStands s side g u.emit.isCls (u.names.at i) := by
  cases k with
  | glyph a =>
    rw [unitsFor, List.mem_singleton] at hu
    subst hu
    exact ⟨rfl, ⟨a, (covers_glyph a a).mpr rfl⟩, fun g hg i s _ => ⟨(covers_glyph a g).mp hg, rfl⟩⟩
  | group G =>
    rcases (mem_unitsFor_group srcs side G u).mp hu with ⟨_, m, hm, rfl⟩ | ⟨hd, hne, rfl⟩
    · -- a class of equal signatures: the name at source `i` is the signature's entry, the glyph's kerned group there
      refine ⟨rfl, ⟨m, (covers_cls _ m).mpr (mem_sigClass.mpr ⟨hm, rfl⟩)⟩, fun g hg i s hs => ?_⟩
      have hi : (signature srcs side m)[i]? = some (s.kernedGroupOf side g) := by
        rw [← (mem_sigClass.mp ((covers_cls _ g).mp hg)).2]; exact signature_getElem? side g hs
      simp only [Names.at, hi]
      cases hk : s.kernedGroupOf side g with
      | none => exact ⟨rfl, hk⟩
      | some H => exact ⟨(kernedGroupOf_some hk).1, rfl⟩
    · -- the whole group, none of whose members is divergent: it is the group of each of them in every source
      obtain ⟨m, hm⟩ := List.exists_mem_of_ne_nil _ hne
      refine ⟨rfl, ⟨m, (covers_cls _ m).mpr hm⟩, fun g hg i s hs => ⟨?_, rfl⟩⟩
      have hg := (covers_cls _ g).mp hg
      obtain ⟨_, s', hs', hG⟩ := (mem_allMembers srcs side G g).mp hg
      exact (groupOf_eq_of_not_divergent (not_divergent_of_group hd hg) (List.mem_of_getElem? hs) hs').trans hG

theorem unitsFor_cover {srcs : List Source} {s : Source} (hs : s ∈ srcs) {side : Side} {k : KSide} {g : Nat}
    (h : k.stands s side g) : ∃ u ∈ unitsFor srcs side k, u.emit.covers g = true := by
  cases k with
  | glyph a => exact ⟨_, List.mem_singleton.mpr rfl, (covers_glyph a g).mpr h⟩
  | group G =>
    have hg := mem_allMembers_of_groupOf hs h
    cases hd : divergentGroup srcs side G with
    | true =>
      exact ⟨_, (mem_unitsFor_group srcs side G _).mpr (Or.inl ⟨hd, g, hg, rfl⟩),
        (covers_cls _ g).mpr (mem_sigClass.mpr ⟨hg, rfl⟩)⟩
    | false =>
      exact ⟨_, (mem_unitsFor_group srcs side G _).mpr (Or.inr ⟨hd, List.ne_nil_of_mem hg, rfl⟩), (covers_cls _ g).mpr hg⟩

theorem cls_unit {srcs : List Source} {side : Side} {k : KSide} {u : KUnit} (hu : u ∈ unitsFor srcs side k) {c : List Nat}
    (h : u.emit = .cls c) : ∃ G, u ∈ unitsFor srcs side (.group G) := by
  have := (unitsFor_spec hu).1
  rw [h] at this
  cases k with
  | glyph a => cases this
  | group G => exact ⟨G, hu⟩

/-- The value `resolveUnits` writes at one source (`resolveUnits_eq`), for names that are what `unitsFor_spec` says, is the
    cascade from the level of the two units on.  The hypotheses stand behind the colon: as binders the `match` would take
    them for further discriminants. -/
theorem val_at {s : Source} {g₁ g₂ : Nat} {c₁ c₂ : Bool} {a₁ a₂ : Option KSide} :
    NameStands s .first g₁ c₁ a₁ → NameStands s .second g₂ c₂ a₂ →
    (match a₁, a₂ with
      | some a, some b => s.lookup (a, b)
      | _, _ => 0) = cascade s c₁ c₂ g₁ g₂ := by
  -- a side without a name: every key of the cascade has an unkerned group on that side
  have zero : (c₁ = true ∧ s.kernedGroupOf .first g₁ = none) ∨ (c₂ = true ∧ s.kernedGroupOf .second g₂ = none) →
      cascade s c₁ c₂ g₁ g₂ = 0 := by
    intro hside
    rcases cascade_cases s c₁ c₂ g₁ g₂ with h0 | ⟨k, v, hk₁, hk₂, hg₁, hg₂, hl, _⟩
    · exact h0
    · rcases hside with ⟨hc, hu⟩ | ⟨hc, hu⟩
      · rw [lookup_none_of_unkerned_glyph hu hk₁ (hg₁ hc)] at hl; cases hl
      · rw [lookup_none_of_unkerned_glyph hu hk₂ (hg₂ hc)] at hl; cases hl
  intro h₁ h₂
  cases a₁ with
  | none => exact (zero (Or.inl h₁)).symm
  | some k₁ =>
    cases a₂ with
    | none => exact (zero (Or.inr h₂)).symm
    | some k₂ =>
      rw [h₁.2, h₂.2]
      exact lookup_eq_cascade (k₁, k₂) h₁.1 h₂.1

/-- A pair made of one unit per side, never a glyph with a class.  Every pair of `build srcs` is one: a glyph/group key, which
    is expanded cell by cell, yields the pairs of the glyph's unit with the units of the group's member glyphs. -/
inductive Emitted (srcs : List Source) : EPair → Prop
  | mk (k₁ k₂ : KSide) (u₁ u₂ : KUnit) (hu₁ : u₁ ∈ unitsFor srcs .first k₁) (hu₂ : u₂ ∈ unitsFor srcs .second k₂)
      (hg : k₁.isGlyph = true → k₂.isGlyph = true) : Emitted srcs ⟨u₁.emit, u₂.emit, resolveUnits srcs u₁ u₂⟩

theorem emitted_of_mem_build {srcs : List Source} {p : EPair} (hp : p ∈ build srcs) : Emitted srcs p := by
  obtain ⟨key, _, k, hk, hpk⟩ := (mem_build srcs p).mp hp
  obtain ⟨u₁, h₁, u₂, h₂, rfl, _⟩ := (mem_emitGeneric srcs _ p).mp hpk
  exact .mk _ _ u₁ u₂ h₁ h₂ (cells_shape hk)

theorem Emitted.val {srcs : List Source} {p : EPair} (hp : Emitted srcs p) (g₁ g₂ : Nat) (hc : p.Covers g₁ g₂) :
    p.vals = srcs.map fun s => cascade s p.e₁.isCls p.e₂.isCls g₁ g₂ := by
  obtain ⟨k₁, k₂, u₁, u₂, hu₁, hu₂, _⟩ := hp
  rw [resolveUnits_eq]
  exact map_zipIdx_eq _ _ _ fun i s hs => val_at ((unitsFor_spec hu₁).2.2 g₁ hc.1 i s hs)
    ((unitsFor_spec hu₂).2.2 g₂ hc.2 i s hs)

theorem Emitted.roundedAt {srcs : List Source} {p : EPair} (hp : Emitted srcs p) {g₁ g₂ : Nat} (hc : p.Covers g₁ g₂)
    {i : Nat} {s : Source} (hs : srcs[i]? = some s) :
    p.roundedAt i = otRound (cascade s p.e₁.isCls p.e₂.isCls g₁ g₂) := by
  rw [EPair.roundedAt, hp.val g₁ g₂ hc, List.getD_eq_getElem?_getD, List.getElem?_map, hs]
  rfl

theorem Emitted.covers {srcs : List Source} {p : EPair} (hp : Emitted srcs p) : ∃ g₁ g₂, p.Covers g₁ g₂ := by
  obtain ⟨k₁, k₂, u₁, u₂, hu₁, hu₂, _⟩ := hp
  obtain ⟨g₁, h₁⟩ := (unitsFor_spec hu₁).2.1
  obtain ⟨g₂, h₂⟩ := (unitsFor_spec hu₂).2.1
  exact ⟨g₁, g₂, h₁, h₂⟩

theorem Emitted.shape {srcs : List Source} {p : EPair} (hp : Emitted srcs p) (h : p.e₁.isCls = false) :
    p.e₂.isCls = false := by
  obtain ⟨k₁, k₂, u₁, u₂, hu₁, hu₂, hg⟩ := hp
  rw [(unitsFor_spec hu₁).1] at h
  rw [(unitsFor_spec hu₂).1, hg (by simpa using h)]
  rfl

/-- The pair is in `build` only if it survives: a class/class pair whose values are all zero is not emitted. -/
theorem build_complete {srcs : List Source} {s : Source} (hs : s ∈ srcs) {key : Key} {v : Rat} (hkey : (key, v) ∈ s.kerns)
    {g₁ g₂ : Nat} (h₁ : key.1.stands s .first g₁) (h₂ : key.2.stands s .second g₂) :
    ∃ p, Emitted srcs p ∧ p.Covers g₁ g₂ ∧ p.level = key.level ∧ (p.Live → p ∈ build srcs) := by
  obtain ⟨k, hk, h₁, h₂, hlev⟩ := cells_cover hs key h₁ h₂
  obtain ⟨u₁, hu₁, hc₁⟩ := unitsFor_cover hs h₁
  obtain ⟨u₂, hu₂, hc₂⟩ := unitsFor_cover hs h₂
  have e₁ := (unitsFor_spec hu₁).1
  have e₂ := (unitsFor_spec hu₂).1
  refine ⟨_, .mk _ _ u₁ u₂ hu₁ hu₂ (cells_shape hk), ⟨hc₁, hc₂⟩,
    by rw [EPair.level, e₁, e₂, ← hlev, Key.level],
    fun hl => (mem_build srcs _).mpr ⟨key, (mem_allKeys srcs key).mpr ⟨s, hs, v, hkey⟩, k, hk, ?_⟩⟩
  rw [mem_emitGeneric]
  refine ⟨u₁, hu₁, u₂, hu₂, rfl, ?_⟩
  cases hz : (resolveUnits srcs u₁ u₂).all (· == 0)
  · exact Bool.and_false _
  · -- values that are all zero round to zero, so the surviving pair is not class/class
    have hall : (EPair.mk u₁.emit u₂.emit (resolveUnits srcs u₁ u₂)).allZero = true :=
      List.all_eq_true.mpr fun x hx => by
        rw [eq_of_beq (List.all_eq_true.mp hz x hx)]; exact beq_iff_eq.mpr (otRound_intCast 0)
    rw [EPair.Live, hall, Bool.and_true, EPair.isCC, e₁, e₂] at hl
    rw [hl]; rfl

/-- A key below level `R` would have left a glyph/glyph or class/glyph pair, and those always survive. -/
theorem void_below {srcs : List Source} {s : Source} (hs : s ∈ srcs) (g₁ g₂ R : Nat)
    (hR : ∀ q ∈ build srcs, q.Live → q.Covers g₁ g₂ → R ≤ q.level) (hR2 : R ≤ 2) (k : Key)
    (h₁ : k.1.stands s .first g₁) (h₂ : k.2.stands s .second g₂) (hlt : k.level < R) :
    s.kerns.lookup k = none := by
  cases hl : s.kerns.lookup k with
  | none => rfl
  | some v =>
    obtain ⟨p, _, hc, hlev, hin⟩ := build_complete hs (mem_of_lookup_eq_some hl) h₁ h₂
    have hlive : p.Live := by
      cases h : p.isCC with
      | false => exact live_of_not_isCC h
      | true => rw [(isCC_iff_level p).mp h] at hlev; omega
    have := hR p (hin hlive) hlive hc
    omega

/-- At the class/class level a defined key may leave no surviving pair: all its values are 0 (not emitted), or all round
    to 0 (removed before the subtables are built).  Either way the source's value rounds to 0. -/
theorem otRound_cc_eq_zero {srcs : List Source} {s : Source} (hs : s ∈ srcs) {g₁ g₂ : Nat}
    (hno : ∀ q ∈ build srcs, q.Live → ¬ q.Covers g₁ g₂) : otRound (cascade s true true g₁ g₂) = 0 := by
  rcases cascade_cases s true true g₁ g₂ with h0 | ⟨k, v, h₁, h₂, hg₁, hg₂, hl, _⟩
  · rw [h0]; exact otRound_intCast 0
  · obtain ⟨p, hpe, hc, hlev, hin⟩ := build_complete hs (mem_of_lookup_eq_some hl) h₁ h₂
    rw [Key.level, hg₁ rfl, hg₂ rfl] at hlev
    have hcc := (isCC_iff_level p).mpr hlev
    have hval : cascade s true true g₁ g₂ ∈ p.vals := by
      rw [EPair.isCC, Bool.and_eq_true] at hcc
      rw [hpe.val g₁ g₂ hc, hcc.1, hcc.2]
      exact List.mem_map_of_mem hs
    -- the pair does not survive, so its values round to 0
    cases hz : p.allZero with
    | false =>
      have hlive : p.Live := by rw [EPair.Live, hz, Bool.and_false]
      exact absurd hc (hno p (hin hlive) hlive)
    | true => exact of_decide_eq_true (by simpa using (List.all_eq_true.mp hz) _ hval)

end Fontc.Kern
