/-
  The whole-file checksum of `build ts` (the body sums to the table checksums plus the adjustment, once), the
  conjuncts of `wellFormedSfnt (build ts)` one by one, the tables read back through the records, and that the
  table selection of fontbe hands `build` distinct tags (`selectTables_nodup`).
-/
import FontcProofs.SfntLayout

namespace Fontc.SfntProofs
open Fontc.Bytes Fontc.Sfnt

/-- the unreduced sum over the bytes that are checksummed (`head` with its adjustment field zeroed) -/
def zsum (l : List Table) : Nat := (l.map fun t => rawSum (zeroed t)).sum

/-- how many tables get the adjustment written into them; one, when tags are distinct and there is a `head` of
    at least 12 bytes (`headCount_one`) -/
def headCount (l : List Table) : Nat := (l.filter fun t => decide (isHeadAdj t)).length

theorem rawSum_setAdj {d : Bytes} {v : Nat} (h : 12 ≤ d.length) (hv : v < 4294967296) :
    rawSum (setAdj d v) = rawSum (zeroAdj d) + v := by
  have h8 : (List.take 8 d).length % 4 = 0 := by simp; omega
  unfold setAdj zeroAdj
  rw [List.append_assoc, List.append_assoc, rawSum_append _ _ h8, rawSum_append _ _ h8,
    rawSum_append (be32 v) _ (by simp), rawSum_append [0, 0, 0, 0] _ (by simp), rawSum_be32 hv]
  have : rawSum [0, 0, 0, 0] = 0 := rfl
  omega

theorem rawSum_final (adj : Nat) (t : Table) (hv : adj < 4294967296) :
    rawSum (final adj t) = rawSum (zeroed t) + (if isHeadAdj t then adj else 0) := by
  rw [zeroed_eq]
  unfold final
  split
  · rename_i h; exact rawSum_setAdj h.2 hv
  · rfl

theorem rawSum_body (adj : Nat) (hv : adj < 4294967296) :
    ∀ l : List Table, rawSum (body adj l) = zsum l + adj * headCount l
  | [] => by simp [body, zsum, headCount, rawSum_nil]
  | t :: l => by
    have hlen : (padded (final adj t)).length % 4 = 0 := by rw [length_padded]; exact pad4_mod _
    rw [body_cons, rawSum_append _ _ hlen, rawSum_padded, rawSum_final adj t hv, rawSum_body adj hv l]
    simp only [zsum, headCount, List.map_cons, List.sum_cons, List.filter_cons]
    by_cases h : isHeadAdj t
    · simp only [h, if_true, decide_true, List.length_cons, Nat.mul_add, Nat.mul_one]; omega
    · simp only [h, if_false, decide_false]; simp; omega

theorem headCount_one (l : List Table) (hnd : (l.map (·.tag)).Nodup) (hh : ∃ t ∈ l, isHeadAdj t) :
    headCount l = 1 := by
  obtain ⟨t, ht, h⟩ := hh
  rw [headCount, filter_eq_singleton _ hnd ht (decide_eq_true h)
    fun b _ hb => (of_decide_eq_true hb).1.trans h.1.symm]
  rfl

theorem foldl_wrapping : ∀ (cs : List Nat) (init : Nat), init < 4294967296 →
    cs.foldl (fun a c => (a + c) % 4294967296) init = (init + cs.sum) % 4294967296
  | [], init, h => by simp [Nat.mod_eq_of_lt h]
  | c :: cs, init, _ => by
    rw [List.foldl_cons, foldl_wrapping cs _ (Nat.mod_lt _ (by decide)), List.sum_cons]
    omega

theorem wrappingSum_eq (cs : List Nat) : wrappingSum cs = cs.sum % 4294967296 := by
  rw [wrappingSum, foldl_wrapping cs 0 (by decide), Nat.zero_add]

theorem sum_checksums_mod : ∀ l : List Table,
    (l.map fun t => checksum (zeroed t)).sum % 4294967296 = zsum l % 4294967296
  | [] => rfl
  | t :: l => by
    have ih := sum_checksums_mod l
    simp only [zsum, List.map_cons, List.sum_cons, checksum] at ih ⊢
    omega

theorem adjustment_lt (ts : List Table) : adjustment ts < 4294967296 := by
  unfold adjustment; exact Nat.mod_lt _ (by decide)

theorem physOrder_perm (ts : List Table) : (physOrder ts).Perm ts := sortBy_perm _ _

theorem bodyLen_perm {l₁ l₂ : List Table} (h : l₁.Perm l₂) : bodyLen l₁ = bodyLen l₂ :=
  (h.map _).sum_nat

theorem length_records (ts : List Table) : (records ts).length = ts.length := by
  unfold records
  rw [(sortBy_perm _ _).length_eq, length_assign, (physOrder_perm ts).length_eq]

theorem length_directory_records (ts : List Table) : (directory (records ts)).length = headerLen ts.length := by
  rw [length_directory, length_records]

theorem length_build (ts : List Table) : (build ts).length = headerLen ts.length + bodyLen ts := by
  unfold build
  rw [List.length_append, length_directory_records, length_body, bodyLen_perm (physOrder_perm ts)]

theorem records_facts {ts : List Table} {r : Rec} (hr : r ∈ records ts) :
    ∃ t ∈ ts, RecFacts (adjustment ts) (build ts) (headerLen ts.length) r t := by
  have hmem : r ∈ assign (headerLen ts.length) (physOrder ts) := (sortBy_perm _ _).mem_iff.1 hr
  rw [← length_directory_records] at hmem
  obtain ⟨t, ht, ft⟩ := assign_facts (adjustment ts) (physOrder ts) (directory (records ts)) r hmem
  rw [length_directory_records] at ft
  exact ⟨t, (physOrder_perm ts).mem_iff.1 ht, ft⟩

theorem records_readback (ts : List Table) :
    ((records ts).map fun r => (⟨r.tag, recData (build ts) r⟩ : Table)).Perm
      (ts.map fun t => ⟨t.tag, final (adjustment ts) t⟩) := by
  have hrb := assign_readback (adjustment ts) (physOrder ts) (directory (records ts))
  rw [length_directory_records] at hrb
  refine ((sortBy_perm recKey _).map _).trans ?_
  show List.Perm (List.map (fun r => (⟨r.tag, recData (build ts) r⟩ : Table)) _) _
  unfold build
  rw [hrb]
  exact (physOrder_perm ts).map _

theorem records_fit {ts : List Table} (hf : fits ts) : ∀ r ∈ records ts, recFits r := by
  intro r hr
  obtain ⟨t, _, ft⟩ := records_facts hr
  have hu := ft.upper
  rw [length_build] at hu
  have := pad4_ge r.length
  have hc : r.checksum < 4294967296 := by rw [ft.cks]; exact Nat.mod_lt _ (by decide)
  exact ⟨hc, by have := hf.2; omega, by have := hf.2; omega⟩

theorem records_inBounds (ts : List Table) : ∀ r ∈ records ts, r.offset + r.length ≤ (build ts).length := by
  intro r hr
  obtain ⟨t, _, ft⟩ := records_facts hr
  have := ft.upper
  have := pad4_ge r.length
  omega

theorem parseDir_build {ts : List Table} (hf : fits ts) :
    parseDir (build ts) =
      some ⟨sfntVersion (records ts), ts.length, (searchParams ts.length).2.1, (searchParams ts.length).1,
            (searchParams ts.length).2.2, records ts⟩ := by
  have h := parseDir_directory (records ts) (body (adjustment ts) (physOrder ts))
    (by rw [length_records]; exact hf.1) (records_fit hf)
  rw [length_records] at h
  exact h

theorem nodup_toNat {l : List UInt32} (h : l.Nodup) : (l.map (·.toNat)).Nodup :=
  List.Pairwise.map _ (fun _ _ hne e => hne (UInt32.toNat.inj e)) h

theorem records_sorted {ts : List Table} (hnd : (ts.map (·.tag)).Nodup) :
    List.Pairwise (fun a b => recKey a < recKey b) (records ts) := by
  have h := nodup_toNat (((physOrder_perm ts).map (·.tag)).nodup_iff.2 hnd)
  rw [← assign_map (fun tag _ => tag) _ (headerLen ts.length), List.map_map] at h
  exact sortBy_strict recKey _ h

/-- `records_readback` in the order of the records: both lists are strictly sorted by tag, so the permutation is an equality -/
theorem records_readback_eq {ts : List Table} (hnd : (ts.map (·.tag)).Nodup) :
    ((records ts).map fun r => (⟨r.tag, recData (build ts) r⟩ : Table)) = expectedTables ts := by
  apply List.Perm.eq_of_pairwise (le := fun a b : Table => tagKey a < tagKey b) (fun a b _ _ h h' => by omega)
  · rw [List.pairwise_map]
    -- `recKey r` and `tagKey ⟨r.tag, _⟩` both unfold to `r.tag.toNat`
    exact (records_sorted hnd).imp (fun h => h)
  · unfold expectedTables
    rw [List.pairwise_map]
    have hk : (ts.map tagKey).Nodup := by
      have h := nodup_toNat hnd
      rw [List.map_map] at h
      exact h
    exact (sortBy_strict tagKey ts hk).imp (fun h => h)
  · exact (records_readback ts).trans ((sortBy_perm tagKey ts).symm.map _)

theorem records_disjoint (ts : List Table) : List.Pairwise disjointP (records ts) := by
  have := assign_disjoint (physOrder ts) (directory (records ts))
  rw [length_directory_records] at this
  exact (sortBy_perm recKey _).symm.pairwise this (fun h => h.symm)

theorem records_compact (ts : List Table) :
    headerLen ts.length + ((records ts).map fun r => pad4 r.length).sum = (build ts).length := by
  rw [length_build]
  congr 1
  have h1 : ((records ts).map fun r => pad4 r.length).Perm
      ((assign (headerLen ts.length) (physOrder ts)).map fun r => pad4 r.length) :=
    (sortBy_perm recKey _).map _
  rw [h1.sum_nat, assign_map fun _ n => pad4 n]
  exact bodyLen_perm (physOrder_perm ts)

theorem recOk_build {ts : List Table} {r : Rec} (hr : r ∈ records ts) :
    recOk (build ts) ts.length r = true := by
  obtain ⟨t, _, ft⟩ := records_facts hr
  have hal := ft.aligned
  have hlo := ft.lower
  have hck : r.checksum = checksum (zeroedRaw r.tag (recData (build ts) r)) := by
    rw [ft.cks, ft.data, ft.tag, zeroedRaw_final]
  have hdr := headerLen_mod ts.length
  unfold recOk
  simp only [Bool.and_eq_true, decide_eq_true_eq, List.all_eq_true]
  refine ⟨⟨⟨⟨by omega, hlo⟩, ft.upper⟩, hck⟩, ?_⟩
  intro b hb
  rw [ft.padz] at hb
  rw [(List.mem_replicate.1 hb).2]
  rfl

theorem checksum_build {ts : List Table} (hnd : (ts.map (·.tag)).Nodup)
    (hh : ∃ t ∈ ts, isHeadAdj t) : checksum (build ts) = magic := by
  have hadj := adjustment_lt ts
  have hdl : (directory (records ts)).length % 4 = 0 := by
    rw [length_directory_records]; exact headerLen_mod _
  have hcount : headCount (physOrder ts) = 1 := by
    apply headCount_one
    · exact ((physOrder_perm ts).map _).nodup_iff.2 hnd
    · obtain ⟨t, ht, h⟩ := hh
      exact ⟨t, (physOrder_perm ts).mem_iff.2 ht, h⟩
  unfold checksum build
  rw [rawSum_append _ _ hdl, rawSum_body _ hadj, hcount]
  have hA := sum_checksums_mod (physOrder ts)
  have hT : adjustment ts =
      (magic + 4294967296 -
        ((((physOrder ts).map fun t => checksum (zeroed t)).sum + checksum (directory (records ts))) % 4294967296))
        % 4294967296 := by
    unfold adjustment
    simp only [wrappingSum_eq, List.sum_append_nat, List.sum_cons, List.sum_nil, Nat.add_zero]
  have hD : checksum (directory (records ts)) = rawSum (directory (records ts)) % 4294967296 := rfl
  rw [hT, hD]
  -- modulo 2^32 the file sums to directory + tables + adjustment, and the adjustment is `magic` minus the first two
  unfold magic at *
  omega

theorem headOk_build {ts : List Table} (hnd : (ts.map (·.tag)).Nodup)
    (hhead : ∀ t ∈ ts, t.tag = headTag → 12 ≤ t.data.length) :
    headOk (build ts) (records ts) = true := by
  unfold headOk
  split
  · rfl
  · rename_i r hfind
    have hr := List.mem_of_find?_eq_some hfind
    have htag : r.tag = headTag := by simpa using List.find?_some hfind
    obtain ⟨t, ht, ft⟩ := records_facts hr
    have htt : t.tag = headTag := by rw [← ft.tag]; exact htag
    have hlen := hhead t ht htt
    simp only [Bool.and_eq_true, decide_eq_true_eq]
    exact ⟨by rw [ft.len]; exact hlen, checksum_build hnd ⟨t, ht, htt, hlen⟩⟩

theorem addRaw_nodup (ts : List Table) (t : Table) (h : (ts.map (·.tag)).Nodup) :
    ((addRaw ts t).map (·.tag)).Nodup := by
  unfold addRaw
  rw [List.map_append, List.nodup_append]
  refine ⟨List.Nodup.sublist (List.Sublist.map _ List.filter_sublist) h, by simp, ?_⟩
  intro a ha b hb
  simp only [List.map_cons, List.map_nil, List.mem_singleton] at hb
  obtain ⟨u, hu, rfl⟩ := List.mem_map.1 ha
  have := (List.mem_filter.1 hu).2
  subst hb
  simpa using this

theorem foldl_addRaw_nodup (ps : List (UInt32 × Slot)) : ∀ (acc : List Table), (acc.map (·.tag)).Nodup →
    ((ps.foldl (fun acc p => match p.2 with | .bytes b => addRaw acc ⟨p.1, b⟩ | _ => acc) acc).map (·.tag)).Nodup := by
  induction ps with
  | nil => intro acc h; exact h
  | cons p ps ih =>
    intro acc h
    simp only [List.foldl_cons]
    apply ih
    split
    · exact addRaw_nodup _ _ h
    · exact h

theorem selectTables_nodup (base debg : Option Bytes) (slots : List Slot) :
    ((selectTables base debg slots).map (·.tag)).Nodup := by
  unfold selectTables
  apply foldl_addRaw_nodup
  have h0 : ((match base with | some b => addRaw [] ⟨baseTag, b⟩ | none => ([] : List Table)).map
      (fun t : Table => t.tag)).Nodup := by
    cases base with
    | none => simp
    | some b => exact addRaw_nodup _ _ (by simp)
  cases debg with
  | none => exact h0
  | some b => exact addRaw_nodup _ _ h0

end Fontc.SfntProofs
