/-
  For C12: replacing one glyph by an instance that draws the same keeps the drawing of every glyph (`set_cong`);
  each operation of FontcModel/Components.lean is such a replacement (`*_rank`, `*_draw`); `Preserves`, the preorder
  on (environment, rank) in which every such step lies.
-/
import FontcProofs.Components

namespace Fontc.Components
open Fontc

/-- Preorders on drawings that are compatible with how `resolve` assembles a glyph. -/
structure Cong (R : List Contour → List Contour → Prop) : Prop where
  refl : ∀ xs, R xs xs
  trans : ∀ {xs ys zs}, R xs ys → R ys zs → R xs zs
  append : ∀ {xs ys xs' ys'}, R xs ys → R xs' ys' → R (xs ++ xs') (ys ++ ys')
  mapApply : ∀ (t : Affine) {xs ys}, R xs ys → R (xs.map (applyC t)) (ys.map (applyC t))

theorem Cong.flatMap {R} (hR : Cong R) {α} {l : List α} {f g : α → List Contour} (h : ∀ a ∈ l, R (f a) (g a)) :
    R (l.flatMap f) (l.flatMap g) :=
  flatMap_rel (hR.refl []) hR.append h

theorem congEq : Cong (· = ·) := ⟨fun _ => rfl, Eq.trans, fun h1 h2 => by rw [h1, h2], fun _ _ _ h => by rw [h]⟩
theorem congSame : Cong SameDrawing := ⟨SameDrawing.refl, SameDrawing.trans, SameDrawing.append, SameDrawing.mapApply⟩

theorem Env.set_self (G : Env) (n : String) (i : Inst) : G.set n i n = some i := if_pos rfl

theorem Env.set_ne (G : Env) (i : Inst) {m n : String} (h : m ≠ n) : G.set n i m = G m := if_neg h

theorem Fits.set {G : Env} {rk : String → Nat} (hfit : Fits G rk) (n : String) (i' : Inst)
    (hi' : ∀ c ∈ i'.comps, rk c.base < rk n) : Fits (G.set n i') rk := by
  intro m j hj c hc
  by_cases hm : m = n
  · subst hm
    rw [Env.set_self] at hj
    cases hj
    exact hi' c hc
  · rw [Env.set_ne G i' hm] at hj
    exact hfit m j hj c hc

theorem Fits.comps_lt {G : Env} {rk : String → Nat} (hfit : Fits G rk) {n : String} {i : Inst} (hG : G n = some i)
    {F : Nat} (hF : rk n ≤ F) : ∀ c ∈ i.comps, rk c.base < F :=
  fun c hc => Nat.lt_of_lt_of_le (hfit n i hG c hc) hF

theorem set_cong {R} (hR : Cong R) {G : Env} {rk : String → Nat} (hfit : Fits G rk)
    {n : String} {i i' : Inst} (hG : G n = some i) (hi' : ∀ c ∈ i'.comps, rk c.base < rk n)
    (hloc : R (drawInst G rk i') (drawInst G rk i)) (m : String) :
    R (draw (G.set n i') rk m) (draw G rk m) := by
  have hfit' := hfit.set n i' hi'
  induction hk : rk m using Nat.strongRecOn generalizing m with
  | _ k ih =>
    subst hk
    -- an instance whose components lie below `m` draws the same in both environments
    have key (j : Inst) (hj : ∀ c ∈ j.comps, rk c.base < rk m) : R (drawInst (G.set n i') rk j) (drawInst G rk j) :=
      hR.append (hR.refl _) (hR.flatMap fun c hc => hR.mapApply c.t (ih _ (hj c hc) c.base rfl))
    by_cases hmn : m = n
    · subst hmn
      rw [draw_eq hfit' (Env.set_self G m i'), draw_eq hfit hG]
      exact hR.trans (key i' hi') hloc
    · cases hGm : G m with
      | none => rw [draw_none _ hGm, draw_none _ ((Env.set_ne G i' hmn).trans hGm)]; exact hR.refl _
      | some j =>
        rw [draw_eq hfit' ((Env.set_ne G i' hmn).trans hGm), draw_eq hfit hGm]
        exact key j (hfit m j hGm)

theorem set_cong_resolve {R} (hR : Cong R) {G : Env} {rk : String → Nat} (hfit : Fits G rk)
    {n : String} {i i' : Inst} (hG : G n = some i) (hi' : ∀ c ∈ i'.comps, rk c.base < rk n)
    (hloc : R (drawInst G rk i') (drawInst G rk i)) {f : Nat} {m : String} (hm : rk m < f) :
    R (resolve (G.set n i') f m) (resolve G f m) := by
  rw [resolve_eq_draw (hfit.set n i' hi') hm, resolve_eq_draw hfit hm]
  exact set_cong hR hfit hG hi' hloc m

/-- No glyph reachable from `b` (including `b`) has both components and contours. flatten_glyph assumes this
    ("Assumed to run after component consistency is checked/fixed", glyph.rs:615). -/
def NoMixedFrom (G : Env) (b : String) : Prop :=
  ∀ m r, Reach G b m → G m = some r → r.comps ≠ [] → r.contours = []

theorem NoMixedFrom.step {G : Env} {b : String} {r : Inst} {rc : Comp} (h : NoMixedFrom G b)
    (hG : G b = some r) (hrc : rc ∈ r.comps) : NoMixedFrom G rc.base :=
  fun m r' hreach => h m r' (Reach.step hG hrc hreach)

theorem flattenComp_draw {G : Env} {rk : String → Nat} (hfit : Fits G rk) {F : Nat} {c : Comp}
    (hF : rk c.base < F) (hmix : NoMixedFrom G c.base) :
    (flattenComp G F c).flatMap (drawComp G rk) = drawComp G rk c := by
  fun_induction flattenComp G F c with
  | case1 c => omega
  | case2 fuel c hG => simp
  | case3 fuel c r hG he => simp
  | case4 fuel c r hG he ih =>
    -- a composite has no contours of its own, so it draws what its components, composed with `c`, draw
    have hcont : r.contours = [] := hmix c.base r (Reach.refl _) hG (by simpa using he)
    rw [List.flatMap_assoc, drawComp_eq hfit hG, hcont]
    simp only [childComps, hG, List.map_nil, List.nil_append, List.flatMap_map]
    exact flatMap_congr fun rc hrc =>
      ih rc (hfit.comps_lt hG (Nat.le_of_lt_succ hF) rc hrc) (hmix.step (rc := rc) hG hrc)

theorem flattenInst_draw {G : Env} {rk : String → Nat} (hfit : Fits G rk) {F : Nat} {i : Inst}
    (hF : ∀ c ∈ i.comps, rk c.base < F) (hmix : ∀ c ∈ i.comps, NoMixedFrom G c.base) :
    drawInst G rk (flattenInst G F i) = drawInst G rk i := by
  simp only [drawInst, flattenInst]
  rw [List.flatMap_assoc]
  exact congrArg _ (flatMap_congr fun c hc => flattenComp_draw hfit (hF c hc) (hmix c hc))

theorem flattenComp_rank {G : Env} {rk : String → Nat} (hfit : Fits G rk) (F : Nat) (c : Comp) :
    ∀ c' ∈ flattenComp G F c, rk c'.base ≤ rk c.base := by
  fun_induction flattenComp G F c with
  | case1 c => simp
  | case2 fuel c hG => simp
  | case3 fuel c r hG he => simp
  | case4 fuel c r hG he ih =>
    intro c' h
    obtain ⟨rc, hrc, hc'⟩ := List.mem_flatMap.1 h
    exact Nat.le_of_lt (Nat.lt_of_le_of_lt (ih rc c' hc') (hfit c.base r hG rc hrc))

theorem flattenInst_rank {G : Env} {rk : String → Nat} (hfit : Fits G rk) (F : Nat) {n : String} {i : Inst}
    (hG : G n = some i) : ∀ c ∈ (flattenInst G F i).comps, rk c.base < rk n := by
  intro c' h
  simp only [flattenInst, List.mem_flatMap] at h
  obtain ⟨c, hc, hc'⟩ := h
  exact Nat.lt_of_le_of_lt (flattenComp_rank hfit F c c' hc') (hfit n i hG c hc)

/-- One level of `resolveAcc orient`, in terms of what the queue emits and enqueues for a frontier entry. -/
theorem resolveAcc_orient_succ (G : Env) (f : Nat) (c : Comp) :
    resolveAcc orient G (f + 1) c.t c.base =
      childContours G c ++ (childComps G c).flatMap fun c' => resolveAcc orient G f c'.t c'.base := by
  simp only [resolveAcc, childContours, childComps]
  cases G c.base with
  | none => rfl
  | some r => simp only [List.flatMap_map]

/-- One level of the breadth-first queue is one unit of fuel of `resolveAcc`. -/
theorem decomposeLevels_perm (G : Env) : ∀ (F : Nat) (cs : List Comp),
    List.Perm (decomposeLevels G F cs) (cs.flatMap fun c => resolveAcc orient G F c.t c.base) := by
  intro F
  induction F with
  | zero => intro cs; simp [decomposeLevels, resolveAcc]
  | succ F ih =>
    intro cs
    have hrhs : (cs.flatMap fun c => resolveAcc orient G (F + 1) c.t c.base) =
        cs.flatMap fun c => childContours G c ++ (childComps G c).flatMap fun c' => resolveAcc orient G F c'.t c'.base :=
      flatMap_congr fun c _ => resolveAcc_orient_succ G F c
    rw [hrhs, decomposeLevels]
    refine List.Perm.trans ?_ (flatMap_append_perm cs _ _).symm
    apply List.Perm.append_left
    rw [← List.flatMap_assoc]
    exact ih _

theorem decomposeInst_oriented {G : Env} {rk : String → Nat} (hfit : Fits G rk) {n : String} {i : Inst}
    (hG : G n = some i) {F : Nat} (hF : rk n ≤ F) {f : Nat} (hf : rk n < f) :
    List.Perm (decomposeInst G F i).contours (resolveO G f n) := by
  obtain ⟨f0, rfl⟩ : ∃ f0, f = f0 + 1 := ⟨f - 1, by omega⟩
  have hid : orient Affine.id = id := funext orient_id
  simp only [decomposeInst, resolveO, resolveAcc, hG, hid, List.map_id, Affine.id_comp]
  refine List.Perm.append_left _ ((decomposeLevels_perm G F i.comps).trans (List.Perm.of_eq ?_))
  exact flatMap_congr fun c hc =>
    resolveAcc_stable orient hfit c.t (hfit.comps_lt hG hF c hc) (hfit.comps_lt hG (by omega) c hc)

/-- The witness is the orientation-corrected outline: a permutation of the new contours and, contour by contour, the old
    outline up to direction. -/
theorem decomposeInst_draw {G : Env} {rk : String → Nat} (hfit : Fits G rk) {n : String} {i : Inst}
    (hG : G n = some i) {F : Nat} (hF : rk n ≤ F) :
    SameDrawing (drawInst G rk (decomposeInst G F i)) (drawInst G rk i) := by
  rw [← draw_eq hfit hG]
  simp only [drawInst, decomposeInst, List.flatMap_nil, List.append_nil]
  exact ⟨_, decomposeInst_oriented hfit hG hF (Nat.lt_succ_self _), resolveO_revEq G _ n⟩

theorem inlineComp_draw {G : Env} {rk : String → Nat} (hfit : Fits G rk) (exported : String → Bool) (c : Comp) :
    RevEq (inlineContours G exported c ++ (inlineComps G exported c).flatMap (drawComp G rk)) (drawComp G rk c) := by
  simp only [inlineContours, inlineComps]
  cases hG : G c.base with
  | none => simp [childContours, hG]; exact RevEq.refl _
  | some r =>
    by_cases he : exported c.base
    · simp [he]; exact RevEq.refl _
    · simp only [he, Bool.false_eq_true, if_false, childContours, hG, drawComp_eq hfit hG]
      exact (RevEq.map_orient c.t r.contours).append (.refl _)

/-- The witness gathers, per component, the inlined contours followed by what the remaining components draw. -/
theorem inlineInst_draw {G : Env} {rk : String → Nat} (hfit : Fits G rk) (exported : String → Bool) (i : Inst) :
    SameDrawing (drawInst G rk (inlineInst G exported i)) (drawInst G rk i) := by
  simp only [drawInst, inlineInst, List.append_assoc]
  rw [List.flatMap_assoc]
  exact ⟨_, (flatMap_append_perm i.comps _ _).symm.append_left _,
    (RevEq.refl _).append (RevEq.flatMap fun c _ => inlineComp_draw hfit exported c)⟩

theorem childComps_rank {G : Env} {rk : String → Nat} (hfit : Fits G rk) (c : Comp) :
    ∀ c' ∈ childComps G c, rk c'.base < rk c.base := by
  intro c' h
  simp only [childComps] at h
  cases hG : G c.base with
  | none => simp [hG] at h
  | some r =>
    simp only [hG, List.mem_map] at h
    obtain ⟨rc, hrc, rfl⟩ := h
    exact hfit c.base r hG rc hrc

theorem inlineComps_rank {G : Env} {rk : String → Nat} (hfit : Fits G rk) (exported : String → Bool) (c : Comp) :
    ∀ c' ∈ inlineComps G exported c, rk c'.base ≤ rk c.base := by
  intro c' h
  simp only [inlineComps] at h
  cases hG : G c.base with
  | none => simp [hG] at h; subst h; exact Nat.le_refl _
  | some r =>
    simp only [hG] at h
    by_cases he : exported c.base
    · simp [he] at h
      subst h
      exact Nat.le_refl _
    · simp only [he, Bool.false_eq_true, if_false] at h
      exact Nat.le_of_lt (childComps_rank hfit c c' h)

theorem inlineInst_rank {G : Env} {rk : String → Nat} (hfit : Fits G rk) (exported : String → Bool) {n : String}
    {i : Inst} (hG : G n = some i) : ∀ c ∈ (inlineInst G exported i).comps, rk c.base < rk n := by
  intro c' h
  simp only [inlineInst, List.mem_flatMap] at h
  obtain ⟨c, hc, hc'⟩ := h
  exact Nat.lt_of_le_of_lt (inlineComps_rank hfit exported c c' hc') (hfit n i hG c hc)

/-- The rank after a split: the new glyph `nn` takes the contours and has no components, so it sits at 0. -/
def splitRank (rk : String → Nat) (nn : String) : String → Nat := fun m => if m = nn then 0 else rk m

theorem splitRank_self (rk : String → Nat) (nn : String) : splitRank rk nn nn = 0 := if_pos rfl

theorem splitRank_ne (rk : String → Nat) {m nn : String} (h : m ≠ nn) : splitRank rk nn m = rk m := if_neg h

/-- `nn` is unused in `G`: it names no glyph, and no component of any glyph has it as base. -/
def Fresh (G : Env) (nn : String) : Prop := G nn = none ∧ ∀ m j, G m = some j → ∀ c ∈ j.comps, c.base ≠ nn

theorem Fresh.ne {G : Env} {nn n : String} {i : Inst} (hfresh : Fresh G nn) (hG : G n = some i) : n ≠ nn :=
  fun h => by rw [h, hfresh.1] at hG; cases hG

theorem draw_set_fresh {G : Env} {rk : String → Nat} (hfit : Fits G rk) {nn : String} (i' : Inst)
    (hfresh : Fresh G nn) {m : String} (hm : m ≠ nn) :
    draw (G.set nn i') (splitRank rk nn) m = draw G rk m := by
  rw [draw, draw, splitRank_ne rk hm]
  exact resolveWith_agree applyC hfit (P := fun m => m ≠ nn) (fun _ => Env.set_ne G i')
    (fun m j _ hG c hc => hfresh.2 m j hG c hc) hm (Nat.lt_succ_self _) (Nat.lt_succ_self _)

theorem Fits.splitRank {G : Env} {rk : String → Nat} (hfit : Fits G rk) {nn : String} (hfresh : Fresh G nn) :
    Fits G (splitRank rk nn) := by
  intro m j hj c hc
  rw [splitRank_ne rk (hfresh.2 m j hj c hc), splitRank_ne rk (hfresh.ne hj)]
  exact hfit m j hj c hc

theorem splitInst_rank {G : Env} {rk : String → Nat} (hfit : Fits G rk) {n nn : String} {i : Inst} (hG : G n = some i)
    (hne : i.comps ≠ []) (hfresh : Fresh G nn) :
    ∀ c ∈ (splitInst i nn).2.comps, splitRank rk nn c.base < splitRank rk nn n := by
  have hnn := hfresh.ne hG
  obtain ⟨c0, hc0⟩ := List.exists_mem_of_ne_nil _ hne
  intro c hc
  simp only [splitInst, List.mem_append, List.mem_singleton] at hc
  rcases hc with hc | hc
  · rw [splitRank_ne rk (hfresh.2 n i hG c hc), splitRank_ne rk hnn]
    exact hfit n i hG c hc
  · subst hc
    rw [splitRank_self, splitRank_ne rk hnn]
    exact Nat.zero_lt_of_lt (hfit n i hG c0 hc0)

/-- The contours of the mixed glyph come last, through the identity component. -/
theorem splitInst_draw (G : Env) (rk : String → Nat) (nn : String) (i : Inst) :
    SameDrawing (drawInst (G.set nn (splitInst i nn).1) rk (splitInst i nn).2)
      (drawInst (G.set nn (splitInst i nn).1) rk i) := by
  have hnn : draw (G.set nn (splitInst i nn).1) rk nn = i.contours := by
    simp [draw, resolve, resolveWith, Env.set, splitInst]
  simp only [drawInst, drawComp, splitInst, List.nil_append, List.flatMap_append, List.flatMap_cons, List.flatMap_nil,
    List.append_nil] at hnn ⊢
  rw [hnn, map_applyC_id]
  exact SameDrawing.of_perm List.perm_append_comm

/-- On an acyclic state, the next state is acyclic and every glyph is still there, with its advance and its drawing. -/
def Preserves (s t : Env × (String → Nat)) : Prop :=
  Fits s.1 s.2 → Fits t.1 t.2 ∧ ∀ m, s.1 m ≠ none →
    t.1 m ≠ none ∧ advanceOf t.1 m = advanceOf s.1 m ∧ SameDrawing (draw t.1 t.2 m) (draw s.1 s.2 m)

theorem Preserves.refl (s : Env × (String → Nat)) : Preserves s s :=
  fun hfit => ⟨hfit, fun _ hm => ⟨hm, rfl, SameDrawing.refl _⟩⟩

theorem Preserves.trans {s t u : Env × (String → Nat)} (h1 : Preserves s t) (h2 : Preserves t u) : Preserves s u := by
  intro hfit
  obtain ⟨hfit1, k1⟩ := h1 hfit
  obtain ⟨hfit2, k2⟩ := h2 hfit1
  refine ⟨hfit2, fun m hm => ?_⟩
  obtain ⟨hm1, ha1, hd1⟩ := k1 m hm
  obtain ⟨hm2, ha2, hd2⟩ := k2 m hm1
  exact ⟨hm2, ha2.trans ha1, hd2.trans hd1⟩

theorem Preserves.of_set {G : Env} {rk : String → Nat} {n : String} {i i' : Inst} (hG : G n = some i)
    (hadv : i'.advance = i.advance) (hrank : Fits G rk → ∀ c ∈ i'.comps, rk c.base < rk n)
    (hloc : Fits G rk → SameDrawing (drawInst G rk i') (drawInst G rk i)) :
    Preserves (G, rk) (G.set n i', rk) := by
  refine fun hfit => ⟨hfit.set n i' (hrank hfit), fun m hm =>
    ⟨?_, ?_, set_cong congSame hfit hG (hrank hfit) (hloc hfit) m⟩⟩
  · simp only [Env.set]; split
    · exact Option.some_ne_none i'
    · exact hm
  · simp only [advanceOf, Env.set]; split
    · next h => rw [h, hG, Option.map_some, Option.map_some, hadv]
    · rfl

theorem Preserves.add_fresh {G : Env} {rk : String → Nat} {nn : String} (j : Inst) (hj : j.comps = [])
    (hfresh : Fresh G nn) : Preserves (G, rk) (G.set nn j, splitRank rk nn) := by
  refine fun hfit => ⟨(hfit.splitRank hfresh).set nn j (fun _ hc => by simp [hj] at hc), fun m hm => ?_⟩
  have hmnn : m ≠ nn := fun h => hm (h ▸ hfresh.1)
  refine ⟨by simpa [Env.set, hmnn] using hm, by simp [advanceOf, Env.set, hmnn], ?_⟩
  exact SameDrawing.of_eq (draw_set_fresh hfit j hfresh hmnn)

end Fontc.Components
