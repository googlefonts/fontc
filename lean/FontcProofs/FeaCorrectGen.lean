/-
  C11: `compile_correct_gen`, `shape (compileWith fx p) = interp p` for programs with `languagesystem`
  statements, top-level lookup blocks and feature blocks containing `lookupflag`, rules, lookup blocks,
  lookup references and `script` / `language` statements.
-/
import FontcProofs.FeaGenAssemble

namespace Fontc.FeaCompile
open Cmp

/-- `languagesystem` statements as top-level statements -/
def lsTops (ls : List (Tag × Tag)) : List Top := ls.map fun x => Top.langsys x.1 x.2
/-- feature blocks `(tag, body)` as top-level statements -/
def featTops (fs : List (Tag × List Stmt)) : List Top := fs.map fun x => Top.feature x.1 x.2

theorem entriesOf_lsTops (lsE : List (Tag × Tag)) (es : List Src.Entry) (ls : List (Tag × Tag)) (rest : List Top) :
    Src.entriesOf lsE es (lsTops ls ++ rest) = Src.entriesOf lsE es rest := by
  induction ls with
  | nil => rfl
  | cons x ls ih => simpa [lsTops, Src.entriesOf] using ih

theorem foldl_lsTops (fx : Fixes) (ls : List (Tag × Tag)) :
    ∀ (s : St), ∃ ls', (lsTops ls).foldl (St.top fx) s = { s with langsys := ls' } ∧
      ∀ sys, sys ∈ ls' ↔ sys ∈ s.langsys ∨ sys ∈ ls := by
  induction ls with
  | nil => intro s; exact ⟨s.langsys, rfl, by simp⟩
  | cons x ls ih =>
    intro s
    obtain ⟨ls', h1, h2⟩ := ih (St.top fx s (Top.langsys x.1 x.2))
    refine ⟨ls', h1, fun sys => ?_⟩
    rw [h2]
    simp only [St.top]
    by_cases hc : s.langsys.contains (x.1, x.2) = true
    · have hm : x ∈ s.langsys := by simpa using hc
      simp only [hc, ↓reduceIte, List.mem_cons]
      constructor
      · rintro (h | h)
        · exact Or.inl h
        · exact Or.inr (Or.inr h)
      · rintro (h | rfl | h)
        · exact Or.inl h
        · exact Or.inl hm
        · exact Or.inr h
    · have hx : (x.1, x.2) = x := rfl
      simp only [hc, Bool.false_eq_true, ↓reduceIte, List.mem_append, List.mem_cons, or_assoc, hx,
        List.not_mem_nil, false_or]

theorem filterMap_langsys_of_topsOk {U : List (List Glyph)} {dls : List Sys} {rest : List Top} :
    ∀ {used}, TopsOk U dls used rest → rest.filterMap Src.langsysStmt? = [] := by
  induction rest with
  | nil => intro _ _; rfl
  | cons t rest ih =>
    intro used hok
    cases t with
    | langsys a b => exact hok.elim
    | lookup n body => exact ih hok.2.2
    | feature tag body => exact ih hok.2.2.2

theorem filterMap_lsTops (ls : List (Tag × Tag)) : (lsTops ls).filterMap Src.langsysStmt? = ls := by
  induction ls with
  | nil => rfl
  | cons x ls ih => simp only [lsTops, List.map_cons, List.filterMap_cons, Src.langsysStmt?] at ih ⊢; rw [ih]

/-- Programs: `languagesystem` statements, then top-level lookup blocks and
    feature blocks (`TopsOk`: lookup blocks are `lookupflag`s followed by rules of one type; names are
    defined once and before use; a `script` statement names a new script, a `language` statement a
    new non-default language of the current script, both declared by a `languagesystem` statement; no
    single-substitution rule stands next to a multiple / ligature rule under one flag outside a lookup
    block; flags are normalised with attachment classes from the pairwise disjoint family `U`).
    Every lookup of the program is of a type whose lookup-level correctness is proved (`GsubRunOk`,
    `GposRunOk`: single / multiple / alternate / ligature substitution, contextual substitution with
    in-line single or multiple substitutions, single positioning; no glyph or sequence targeted
    twice).  `hlang`: each table has a record for the language or no fallback: a lookup of the table is
    registered for the language system (`Src.registersAny`), or none is for the script's default one. -/
theorem compile_correct_gen {fx : Fixes} {p : Program} {ls : List (Tag × Tag)} {rest : List Top}
    {U : List (List Glyph)}
    (htops : p.tops = lsTops ls ++ rest)
    (hok : TopsOk U (Src.langsysOf p.tops) [] rest)
    (hents : ∀ e ∈ Src.entries p, GsubRunOk e.lookup.rules ∨ GposRunOk e.lookup.rules)
    (hgdef : (p.gdef.map (·.1)).Nodup)
    (hU1 : ∀ c ∈ U, c.Nodup) (hU2 : ∀ c ∈ U, ∀ c' ∈ U, c ≠ c' → ∀ g ∈ c, g ∉ c')
    {script lang : Tag}
    (hlang : ∀ isPos, lang = "dflt" ∨ Src.registersAny p isPos script lang = true ∨ Src.registersAny p isPos script "dflt" = false)
    {feats : List Tag} {alt : Nat} {str : List Glyph} :
    shape (compileWith fx p) script lang feats alt str = interp p script lang feats alt str := by
  -- after the `languagesystem` statements `TopInvG` holds of no entries (`hinit`); `tops_fold` carries it through the rest
  obtain ⟨ls', hs0, h0⟩ := foldl_lsTops fx ls {}
  have hlsof : Src.langsysOf p.tops = if ls.isEmpty then [("DFLT", "dflt")] else ls := by
    simp only [Src.langsysOf, htops, List.filterMap_append, filterMap_lsTops,
      filterMap_langsys_of_topsOk hok, List.append_nil]
  have hdls : ∀ sys, sys ∈ ({ langsys := ls' } : St).defaultSystems ↔ sys ∈ Src.langsysOf p.tops := by
    intro sys
    rw [hlsof]
    have hmem : ∀ x, x ∈ ls' ↔ x ∈ ls := by intro x; rw [h0]; simp
    have hemp : ls'.isEmpty = ls.isEmpty := by
      rw [Bool.eq_iff_iff, List.isEmpty_iff, List.isEmpty_iff, List.eq_nil_iff_forall_not_mem,
        List.eq_nil_iff_forall_not_mem]
      constructor
      · intro h x hx; exact h x ((hmem x).mpr hx)
      · intro h x hx; exact h x ((hmem x).mp hx)
    simp only [St.defaultSystems, hemp]
    split
    · rfl
    · exact hmem sys
  have hinit : TopInvG fx U (Src.langsysOf p.tops) [] { langsys := ls' } [] [] := {
    closed := ⟨rfl, rfl, rfl, rfl, rfl⟩
    dlsOk := hdls
    idsInv := ⟨List.nodup_nil, List.nodup_nil⟩
    attachU := by simp
    len := rfl
    ents := by intro l id hm; simp [entPairs] at hm
    ordered := List.Pairwise.nil
    below := by simp
    featKeys := List.nodup_nil
    feats := by intro tag lang script id; simp [List.lookup]
    namedKeys := by intro n; simp [List.lookup]
    namedEnt := by intro n id; simp [List.lookup, entPairs] }
  obtain ⟨ids, used, hinv⟩ := tops_fold hinit hok
  have hentries : Src.entriesOf (Src.langsysOf p.tops) [] rest = Src.entries p := by
    simp only [Src.entries]
    rw [htops, entriesOf_lsTops]
  have hstate : rest.foldl (St.top fx) { langsys := ls' } = p.tops.foldl (St.top fx) {} := by
    rw [htops, List.foldl_append, hs0]
  rw [hentries, hstate] at hinv
  exact correct_of_topInvG hinv hents hgdef hU1 hU2 hlang

end Fontc.FeaCompile
