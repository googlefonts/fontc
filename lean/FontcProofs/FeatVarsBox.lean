/-
  Boxes and `NBox::overlay_onto` (model: FontcModel/FeatVars.lean): the intersection, the remainder in closed form
  (`other` itself, nothing when `self` covers it, or `other` cut on one axis: `overlayOnto_snd_cases`), and the two
  steps of the overlay invariant they give (`step_inter`, `step_rem`).
-/
import FontcProofs.FeatVarsSpec

namespace Fontc.FeatVars

theorem ratMax_le_iff (a b x : Rat) : ratMax a b ≤ x ↔ (a ≤ x ∧ b ≤ x) := by
  unfold ratMax
  grind

theorem le_ratMin_iff (a b x : Rat) : x ≤ ratMin a b ↔ (x ≤ a ∧ x ≤ b) := by
  unfold ratMin
  grind

theorem le_ratMax (a b : Rat) : a ≤ ratMax a b ∧ b ≤ ratMax a b := (ratMax_le_iff a b _).1 Rat.le_refl
theorem ratMin_le (a b : Rat) : ratMin a b ≤ a ∧ ratMin a b ≤ b := (le_ratMin_iff a b _).1 Rat.le_refl

theorem ratMax_ind {P : Rat → Prop} {a b : Rat} (ha : P a) (hb : P b) : P (ratMax a b) := by
  unfold ratMax
  split <;> assumption

theorem ratMin_ind {P : Rat → Prop} {a b : Rat} (ha : P a) (hb : P b) : P (ratMin a b) := by
  unfold ratMin
  split <;> assumption

theorem clampIns_id {lo hi : Rat} (h1 : -1 ≤ lo) (h2 : hi ≤ 1) : clampIns lo hi = (lo, hi) := by
  unfold clampIns ratMax ratMin
  ext <;> simp <;> grind

theorem contains_some_cons (lo hi x : Rat) (b : NBox) (p : Point) :
    contains (some (lo, hi) :: b) (x :: p) = true ↔ (lo ≤ x ∧ x ≤ hi) ∧ contains b p = true := by
  simp [contains]

theorem contains_cons {e : Option Range} {x : Rat} {b : NBox} {p : Point} :
    contains (e :: b) (x :: p) = true ↔ (∀ lo hi, e = some (lo, hi) → lo ≤ x ∧ x ≤ hi) ∧ contains b p = true := by
  cases e with
  | none => simp [contains]
  | some r => obtain ⟨lo, hi⟩ := r; simp [contains]

theorem regionContains_iff {r : Region} {p : Point} : regionContains r p = true ↔ ∃ c ∈ r, contains c p = true := by
  simp [regionContains]

theorem boxes_point_induction
    {motive : (c w : NBox) → (p : Point) → c.length = w.length → p.length = w.length → Prop}
    (nil : motive [] [] [] rfl rfl)
    (cons : ∀ ce we x c w p (hl : c.length = w.length) (hp : p.length = w.length), motive c w p hl hp →
      motive (ce :: c) (we :: w) (x :: p) (by simp [hl]) (by simp [hp])) :
    ∀ c w p hl hp, motive c w p hl hp
  | [], [], [], _, _ => nil
  | ce :: c, we :: w, x :: p, hl, hp =>
    cons ce we x c w p (by simpa using hl) (by simpa using hp) (boxes_point_induction nil cons c w p _ _)

theorem BoxOk.tail {e : Option Range} {b : NBox} (h : BoxOk (e :: b)) : BoxOk b := by
  intro lo hi hm; exact h lo hi (List.mem_cons_of_mem _ hm)
theorem BoxOk.head {lo hi : Rat} {b : NBox} (h : BoxOk (some (lo, hi) :: b)) : -1 ≤ lo ∧ hi ≤ 1 :=
  h lo hi (List.mem_cons_self)
theorem BoxOk.cons_some {lo hi : Rat} {b : NBox} (h1 : -1 ≤ lo) (h2 : hi ≤ 1) (h : BoxOk b) :
    BoxOk (some (lo, hi) :: b) := by
  intro lo' hi' hm
  simp at hm
  rcases hm with ⟨rfl, rfl⟩ | hm
  · exact ⟨h1, h2⟩
  · exact h _ _ hm

theorem clampIns_ok (lo hi : Rat) : -1 ≤ (clampIns lo hi).1 ∧ (clampIns lo hi).2 ≤ 1 := by
  unfold clampIns ratMax ratMin
  simp
  grind

theorem emptyBox_ok (n : Nat) : BoxOk (emptyBox n) := by
  intro lo hi h; simp [emptyBox] at h

theorem BoxOk.set {b : NBox} (h : BoxOk b) {i : Nat} {lo hi : Rat} :
    BoxOk (b.set i (some (clampIns lo hi))) := by
  intro lo' hi' hm
  rcases List.mem_or_eq_of_mem_set hm with hm | hm
  · exact h _ _ hm
  · have := clampIns_ok lo hi
    cases hc : clampIns lo hi with
    | mk x y =>
      rw [hc] at hm this
      cases hm
      exact this

theorem boxOfRaw_ok (n : Nat) (raw : List (Nat × Option Rat × Option Rat)) : BoxOk (boxOfRaw n raw) := by
  unfold boxOfRaw
  suffices h : ∀ (b : NBox), BoxOk b → BoxOk (raw.foldl (fun b (x : Nat × Option Rat × Option Rat) => insertRaw b x.1 x.2.1 x.2.2) b) from
    h _ (emptyBox_ok n)
  induction raw with
  | nil => intro b hb; exact hb
  | cons x xs ih =>
    intro b hb
    simp only [List.foldl_cons]
    apply ih
    unfold insertRaw
    exact hb.set

theorem length_boxOfRaw (n : Nat) (raw : List (Nat × Option Rat × Option Rat)) : (boxOfRaw n raw).length = n := by
  unfold boxOfRaw
  suffices h : ∀ (b : NBox), (raw.foldl (fun b (x : Nat × Option Rat × Option Rat) => insertRaw b x.1 x.2.1 x.2.2) b).length = b.length by
    rw [h]; simp [emptyBox]
  induction raw with
  | nil => intro b; rfl
  | cons x xs ih =>
    intro b
    simp only [List.foldl_cons]
    rw [ih]
    simp [insertRaw]

theorem interAxis_none_left (o : Option Range) : interAxis none o = o := by cases o <;> rfl
theorem interAxis_some_none (r : Range) : interAxis (some r) none = some r := rfl
theorem interAxis_some_some (a b c d : Rat) :
    interAxis (some (a, b)) (some (c, d)) = some (clampIns (ratMax a c) (ratMin b d)) := rfl

/-- the intersection box computed by `overlay_onto` -/
def interBox (s o : NBox) : NBox := (s.zip o).map fun x => interAxis x.1 x.2

theorem interBox_cons (se oe : Option Range) (s o : NBox) :
    interBox (se :: s) (oe :: o) = interAxis se oe :: interBox s o := rfl

theorem length_interBox {c w : NBox} (hl : c.length = w.length) : (interBox c w).length = w.length := by
  simp [interBox, hl]

theorem interBox_ok {c w : NBox} (hcok : BoxOk c) (hwok : BoxOk w) : BoxOk (interBox c w) := by
  intro lo hi hm
  obtain ⟨⟨ce, we⟩, hz, he⟩ := List.mem_map.1 hm
  have hmem := List.of_mem_zip hz
  -- an entry of the intersection is an entry of one of the two boxes or a clamped range
  cases ce with
  | none => rw [interAxis_none_left] at he; exact hwok lo hi (he ▸ hmem.2)
  | some r =>
    cases we with
    | none => exact hcok lo hi (he ▸ hmem.1)
    | some r' =>
      obtain ⟨a, b⟩ := r
      obtain ⟨u, v⟩ := r'
      rw [interAxis_some_some] at he
      have := clampIns_ok (ratMax a u) (ratMin b v)
      rw [Option.some.inj he] at this
      exact this

theorem interAxis_ok_eq {a b c d : Rat} (h1 : -1 ≤ a ∧ b ≤ 1) (h2 : -1 ≤ c ∧ d ≤ 1) :
    interAxis (some (a, b)) (some (c, d)) = some (ratMax a c, ratMin b d) := by
  rw [interAxis_some_some,
    clampIns_id (ratMax_ind (P := (-1 ≤ ·)) h1.1 h2.1) (ratMin_ind (P := (· ≤ 1)) h1.2 h2.2)]

theorem contains_inter {s o : NBox} {p : Point} (hs : BoxOk s) (ho : BoxOk o)
    (hl : s.length = o.length) (hp : p.length = o.length) :
    contains (interBox s o) p = (contains s p && contains o p) := by
  induction s, o, p, hl, hp using boxes_point_induction with
  | nil => simp [interBox, contains]
  | cons se oe x s o p hl hp ih =>
    have ih' := ih hs.tail ho.tail
    rw [interBox_cons]
    cases se with
    | none =>
      rw [interAxis_none_left]
      cases oe with
      | none => simp only [contains, ih']
      | some r => obtain ⟨c, d⟩ := r; simp only [contains, ih']; ac_rfl
    | some r =>
      obtain ⟨a, b⟩ := r
      cases oe with
      | none => rw [interAxis_some_none]; simp only [contains, ih']; ac_rfl
      | some r' =>
        obtain ⟨c, d⟩ := r'
        rw [interAxis_ok_eq hs.head ho.head]
        simp only [contains, ih', ratMax_le_iff, le_ratMin_iff, Bool.decide_and]
        ac_rfl

/-- the bound sets of the axes after the first, renumbered from 0 -/
def shiftB (L : Bnd) : Bnd := fun k => L (k + 1)

/-- `b` contains `p`, and wherever `p` sits exactly on a face of `b`, that face is a lower bound taken from
    a lower bound of the input (resp. upper from upper).  Containment alone is not an invariant of the
    overlay loop: `overlay_onto` answers "no intersection" already when the common range on an axis has zero width
    (`min >= max`, :112), so two boxes that both contain `p` need not intersect.  With every face through `p` traced
    to a bound of the input, that only happens when a coordinate of `p` is both a lower and an upper bound of the
    input, which `NoTouch` excludes. -/
def Good (L H : Bnd) : NBox → Point → Prop
  | [], _ => True
  | _ :: _, [] => False
  | none :: b, _ :: p => Good (shiftB L) (shiftB H) b p
  | some (lo, hi) :: b, x :: p =>
    lo ≤ x ∧ x ≤ hi ∧ (lo < x ∨ L 0 lo) ∧ (x < hi ∨ H 0 hi) ∧ Good (shiftB L) (shiftB H) b p

/-- the faces of `b` are among the bounds: lower faces in `L`, upper faces in `H` -/
def InB (L H : Bnd) (b : NBox) : Prop := ∀ k lo hi, b[k]? = some (some (lo, hi)) → L k lo ∧ H k hi

/-- no coordinate of `p` is both a lower and an upper bound on its axis -/
def NoTouch (L H : Bnd) (p : Point) : Prop := ∀ k x, p[k]? = some x → ¬ (L k x ∧ H k x)

theorem InB.tail {L H : Bnd} {e : Option Range} {b : NBox} (h : InB L H (e :: b)) : InB (shiftB L) (shiftB H) b :=
  fun k lo hi hk => h (k + 1) lo hi (by simpa using hk)

theorem NoTouch.tail {L H : Bnd} {x : Rat} {p : Point} (h : NoTouch L H (x :: p)) : NoTouch (shiftB L) (shiftB H) p :=
  fun k y hk => h (k + 1) y (by simpa using hk)

theorem Good.contains {L H : Bnd} {b : NBox} {p : Point} (h : Good L H b p) : contains b p = true := by
  induction b generalizing L H p with
  | nil => simp [FeatVars.contains]
  | cons e b ih =>
    cases p with
    | nil => cases e <;> simp [Good] at h
    | cons x p =>
      cases e with
      | none => simp only [Good] at h; simp [FeatVars.contains, ih h]
      | some r =>
        obtain ⟨lo, hi⟩ := r
        simp only [Good] at h
        simp [FeatVars.contains, ih h.2.2.2.2, h.1, h.2.1]

theorem Good.tail {L H : Bnd} {e : Option Range} {b : NBox} {x : Rat} {p : Point}
    (h : Good L H (e :: b) (x :: p)) : Good (shiftB L) (shiftB H) b p := by
  cases e with
  | none => exact h
  | some r => obtain ⟨lo, hi⟩ := r; exact h.2.2.2.2

theorem Good.cons_tail {L H : Bnd} {e : Option Range} {b b' : NBox} {x : Rat} {p : Point}
    (h : Good L H (e :: b) (x :: p)) (h' : Good (shiftB L) (shiftB H) b' p) : Good L H (e :: b') (x :: p) := by
  cases e with
  | none => exact h'
  | some r => obtain ⟨lo, hi⟩ := r; exact ⟨h.1, h.2.1, h.2.2.1, h.2.2.2.1, h'⟩

theorem good_of_contains_of_inB {L H : Bnd} {b : NBox} {p : Point} (h : contains b p = true) (hin : InB L H b) :
    Good L H b p := by
  induction b generalizing L H p with
  | nil => simp [Good]
  | cons e b ih =>
    cases p with
    | nil => cases e <;> simp [FeatVars.contains] at h
    | cons x p =>
      cases e with
      | none => simp only [FeatVars.contains] at h; exact ih h hin.tail
      | some r =>
        obtain ⟨lo, hi⟩ := r
        simp [FeatVars.contains] at h
        have h0 := hin 0 lo hi rfl
        exact ⟨h.1.1, h.1.2, Or.inr h0.1, Or.inr h0.2, ih h.2 hin.tail⟩

theorem good_of_contains {b : NBox} {p : Point} (h : contains b p = true) :
    Good (fun _ _ => True) (fun _ _ => True) b p :=
  good_of_contains_of_inB h fun _ _ _ _ => ⟨trivial, trivial⟩

theorem good_emptyBox {L H : Bnd} {n : Nat} {p : Point} (hp : p.length = n) : Good L H (emptyBox n) p := by
  induction n generalizing L H p with
  | zero => simp [emptyBox, Good]
  | succ n ih =>
    cases p with
    | nil => simp at hp
    | cons x p =>
      have : emptyBox (n + 1) = none :: emptyBox n := by simp [emptyBox, List.replicate_succ]
      rw [this]
      simp only [Good]
      exact ih (by simpa using hp)

theorem commonEmpty_some_some (a b c d : Rat) :
    commonEmpty (some (a, b)) (some (c, d)) = decide (ratMin b d ≤ ratMax a c) := rfl
theorem commonEmpty_none_left (o : Option Range) : commonEmpty none o = false := by cases o <;> rfl
theorem commonEmpty_none_right (s : Option Range) : commonEmpty s none = false := by cases s <;> rfl

theorem inter_good {L H : Bnd} {c w : NBox} {p : Point}
    (hc : Good L H c p) (hg : Good L H w p) (hnt : NoTouch L H p)
    (hcok : BoxOk c) (hwok : BoxOk w) (hl : c.length = w.length) (hp : p.length = w.length) :
    (c.zip w).any (fun x => commonEmpty x.1 x.2) = false ∧ Good L H (interBox c w) p := by
  induction c, w, p, hl, hp using boxes_point_induction generalizing L H with
  | nil => simp [interBox, Good]
  | cons ce we x c w p hl' hp' ih =>
    rw [interBox_cons]
    simp only [List.zip_cons_cons, List.any_cons]
    have := ih hc.tail hg.tail hnt.tail hcok.tail hwok.tail
    cases ce with
    | none =>
      rw [interAxis_none_left, commonEmpty_none_left]
      exact ⟨by simpa using this.1, hg.cons_tail this.2⟩
    | some r =>
      obtain ⟨a, b⟩ := r
      cases we with
      | none =>
        rw [interAxis_some_none, commonEmpty_none_right]
        exact ⟨by simpa using this.1, hc.cons_tail this.2⟩
      | some r' =>
        obtain ⟨c', d⟩ := r'
        rw [interAxis_ok_eq hcok.head hwok.head, commonEmpty_some_some]
        simp only [Good] at hc hg ⊢
        have hlo : ratMax a c' ≤ x ∧ (ratMax a c' < x ∨ L 0 (ratMax a c')) :=
          ratMax_ind (P := fun lo => lo ≤ x ∧ (lo < x ∨ L 0 lo)) ⟨hc.1, hc.2.2.1⟩ ⟨hg.1, hg.2.2.1⟩
        have hhi : x ≤ ratMin b d ∧ (x < ratMin b d ∨ H 0 (ratMin b d)) :=
          ratMin_ind (P := fun hi => x ≤ hi ∧ (x < hi ∨ H 0 hi)) ⟨hc.2.1, hc.2.2.2.1⟩ ⟨hg.2.1, hg.2.2.2.1⟩
        refine ⟨?_, hlo.1, hhi.1, hlo.2, hhi.2, this.2⟩
        simp only [Bool.or_eq_false_iff, decide_eq_false_iff_not]
        refine ⟨fun hle => hnt 0 x rfl ?_, by simpa using this.1⟩
        -- an empty intersection would squeeze both bounds onto `x`
        have e1 : ratMax a c' = x := Rat.le_antisymm hlo.1 (Rat.le_trans hhi.1 hle)
        have e2 : ratMin b d = x := Rat.le_antisymm (Rat.le_trans hle hlo.1) hhi.1
        rw [e1] at hlo; rw [e2] at hhi
        exact ⟨hlo.2.resolve_left (Rat.lt_irrefl), hhi.2.resolve_left (Rat.lt_irrefl)⟩

theorem remLoop_nil (ex : Bool) : remLoop [] ex = some ([], ex) := rfl
theorem remLoop_none_left (o : Option Range) (rest : List (Option Range × Option Range)) (ex : Bool) :
    remLoop ((none, o) :: rest) ex = (remLoop rest ex).map fun (r, e) => (o :: r, e) := by
  simp [remLoop]
theorem remLoop_none_right (s : Option Range) (rest : List (Option Range × Option Range)) (ex : Bool) :
    remLoop ((s, none) :: rest) ex = (remLoop rest ex).map fun (r, e) => (none :: r, e) := by
  cases s <;> simp [remLoop]
theorem remLoop_some_some {a b min2 max2 : Rat} (h1 : -1 ≤ a ∧ b ≤ 1) (h2 : -1 ≤ min2 ∧ max2 ≤ 1)
    (rest : List (Option Range × Option Range)) (ex : Bool) :
    remLoop ((some (a, b), some (min2, max2)) :: rest) ex =
      if a ≤ min2 ∧ max2 ≤ b then
        (remLoop rest ex).map fun (r, e) => (some (min2, max2) :: r, e)
      else if ex then none
      else if a ≤ min2 then
        (remLoop rest true).map fun (r, e) => (some (ratMax b min2, max2) :: r, e)
      else if max2 ≤ b then
        (remLoop rest true).map fun (r, e) => (some (min2, ratMin a max2) :: r, e)
      else none := by
  -- inside [-1, 1] every clamp of the loop body is the identity, and the intersection compares with `other`'s range
  -- as `self`'s range does
  have hc : clampIns (ratMax a min2) (ratMin b max2) = (ratMax a min2, ratMin b max2) :=
    clampIns_id (ratMax_ind (P := (-1 ≤ ·)) h1.1 h2.1) (ratMin_ind (P := (· ≤ 1)) h1.2 h2.2)
  have e1 : ratMax a min2 ≤ min2 ↔ a ≤ min2 := by rw [ratMax_le_iff]; exact and_iff_left Rat.le_refl
  have e2 : max2 ≤ ratMin b max2 ↔ max2 ≤ b := by rw [le_ratMin_iff]; exact and_iff_left Rat.le_refl
  simp only [remLoop, hc, e1, e2]
  by_cases c1 : a ≤ min2 ∧ max2 ≤ b
  · rw [if_pos c1, if_pos c1]
  · rw [if_neg c1, if_neg c1]
    cases ex with
    | true => rfl
    | false =>
      simp only [Bool.false_eq_true, if_false]
      by_cases c2 : a ≤ min2
      · have e3 : ratMin b max2 = b := if_pos (Rat.le_of_lt (Rat.not_le.1 fun h => c1 ⟨c2, h⟩))
        have e4 : clampIns (ratMax b min2) max2 = (ratMax b min2, max2) :=
          clampIns_id (Rat.le_trans h2.1 (le_ratMax b min2).2) h2.2
        rw [if_pos c2, if_pos c2, e3, e4]
      · have e3 : ratMax a min2 = a := if_neg c2
        have e4 : clampIns min2 (ratMin a max2) = (min2, ratMin a max2) :=
          clampIns_id h2.1 (Rat.le_trans (ratMin_le a max2).2 h2.2)
        rw [if_neg c2, if_neg c2, e3, e4]

theorem map_cons_eq_some {o : Option (NBox × Bool)} {x : Option Range} {r : NBox} {e : Bool}
    (h : (o.map fun (re : NBox × Bool) => (x :: re.1, re.2)) = some (r, e)) :
    ∃ r', o = some (r', e) ∧ r = x :: r' := by
  cases o with
  | none => simp at h
  | some re =>
    obtain ⟨r', e'⟩ := re
    simp at h
    exact ⟨r', by rw [h.2], h.1.symm⟩

/-- on one axis `self`'s range contains `other`'s (vacuous when one of the boxes leaves the axis free) -/
def AxCovers (ce we : Option Range) : Prop :=
  ∀ a b min2 max2, ce = some (a, b) → we = some (min2, max2) → a ≤ min2 ∧ max2 ≤ b

/-- `other`'s range cut where it sticks out of `self`'s at one end only -/
inductive AxCut : Option Range → Option Range → Option Range → Prop
  | hi {a b min2 max2 : Rat} : a ≤ min2 → ¬ max2 ≤ b →
      AxCut (some (a, b)) (some (min2, max2)) (some (ratMax b min2, max2))
  | lo {a b min2 max2 : Rat} : ¬ a ≤ min2 → max2 ≤ b →
      AxCut (some (a, b)) (some (min2, max2)) (some (min2, ratMin a max2))

/-- on every axis that both boxes constrain, `c`'s range contains `w`'s -/
def Covers (c w : NBox) : Prop := ∀ x ∈ c.zip w, AxCovers x.1 x.2

/-- `r` is `w` cut on one axis, and `c` covers `w` on the others -/
inductive OneCut : NBox → NBox → NBox → Prop
  | here {ce we y c w} : AxCut ce we y → Covers c w → OneCut (ce :: c) (we :: w) (y :: w)
  | there {ce we c w r} : AxCovers ce we → OneCut c w r → OneCut (ce :: c) (we :: w) (we :: r)

theorem Covers.cons {ce we : Option Range} {c w : NBox} (h : AxCovers ce we) (hc : Covers c w) :
    Covers (ce :: c) (we :: w) := by
  intro x hx
  rcases List.mem_cons.1 hx with rfl | hx
  · exact h
  · exact hc x hx

/-- An axis is survived by keeping `other`'s entry, or, once, by a cut: after a cut the rest of the loop runs with
    `extruding` set and can only keep. -/
theorem remLoop_cases {c w : NBox} (hcok : BoxOk c) (hwok : BoxOk w) (hl : c.length = w.length) {ex : Bool} {r : NBox}
    {e : Bool} (h : remLoop (c.zip w) ex = some (r, e)) :
    (r = w ∧ e = ex ∧ Covers c w) ∨ (ex = false ∧ e = true ∧ OneCut c w r) := by
  induction c generalizing w ex r with
  | nil =>
    cases w with
    | cons => cases hl
    | nil =>
      rw [List.zip_nil_left, remLoop_nil] at h
      cases h
      exact Or.inl ⟨rfl, rfl, fun x hx => by cases hx⟩
  | cons ce c ih =>
    cases w with
    | nil => cases hl
    | cons we w =>
      rw [List.zip_cons_cons] at h
      have ih := @ih w hcok.tail hwok.tail (by simpa using hl)
      have keep : AxCovers ce we → ((remLoop (c.zip w) ex).map fun (re : NBox × Bool) => (we :: re.1, re.2)) = some (r, e) →
          (r = we :: w ∧ e = ex ∧ Covers (ce :: c) (we :: w)) ∨ (ex = false ∧ e = true ∧ OneCut (ce :: c) (we :: w) r) := by
        intro hax h
        obtain ⟨r', hr, rfl⟩ := map_cons_eq_some h
        rcases ih hr with ⟨rfl, he, hcov⟩ | ⟨hex, he, hcut⟩
        · exact Or.inl ⟨rfl, he, hcov.cons hax⟩
        · exact Or.inr ⟨hex, he, .there hax hcut⟩
      have cut : ∀ y, AxCut ce we y → ((remLoop (c.zip w) true).map fun (re : NBox × Bool) => (y :: re.1, re.2)) = some (r, e) →
          e = true ∧ OneCut (ce :: c) (we :: w) r := by
        intro y hy h
        obtain ⟨r', hr, rfl⟩ := map_cons_eq_some h
        rcases ih hr with ⟨rfl, he, hcov⟩ | ⟨hex, _⟩
        · exact ⟨he, .here hy hcov⟩
        · cases hex
      cases ce with
      | none => rw [remLoop_none_left] at h; exact keep (fun _ _ _ _ h => by cases h) h
      | some rc =>
        obtain ⟨a, b⟩ := rc
        cases we with
        | none => rw [remLoop_none_right] at h; exact keep (fun _ _ _ _ _ h => by cases h) h
        | some rw' =>
          obtain ⟨min2, max2⟩ := rw'
          rw [remLoop_some_some hcok.head hwok.head] at h
          by_cases c1 : a ≤ min2 ∧ max2 ≤ b
          · rw [if_pos c1] at h
            exact keep (fun _ _ _ _ h1 h2 => by cases h1; cases h2; exact c1) h
          · rw [if_neg c1] at h
            cases ex with
            | true => cases h
            | false =>
              rw [if_neg Bool.false_ne_true] at h
              by_cases c2 : a ≤ min2
              · rw [if_pos c2] at h
                exact Or.inr ⟨rfl, cut _ (.hi c2 fun h' => c1 ⟨c2, h'⟩) h⟩
              · rw [if_neg c2] at h
                by_cases c3 : max2 ≤ b
                · rw [if_pos c3] at h
                  exact Or.inr ⟨rfl, cut _ (.lo c2 c3) h⟩
                · rw [if_neg c3] at h; cases h

theorem axCovers_contains {ce we : Option Range} {x : Rat} (hin : AxCovers ce we)
    (hso : selfOnly ce we = false) (hw : ∀ lo hi, we = some (lo, hi) → lo ≤ x ∧ x ≤ hi) :
    ∀ a b, ce = some (a, b) → a ≤ x ∧ x ≤ b := by
  intro a b hce
  cases we with
  | none => rw [hce] at hso; simp [selfOnly] at hso
  | some rr =>
    obtain ⟨min2, max2⟩ := rr
    have hi := hin a b min2 max2 hce rfl
    have hx := hw min2 max2 rfl
    exact ⟨Rat.le_trans hi.1 hx.1, Rat.le_trans hx.2 hi.2⟩

theorem covers_contains {c w : NBox} {p : Point} (hcov : Covers c w)
    (hso : (c.zip w).any (fun x => selfOnly x.1 x.2) = false) (hl : c.length = w.length) (hp : p.length = w.length)
    (hw : contains w p = true) : contains c p = true := by
  induction c, w, p, hl, hp using boxes_point_induction with
  | nil => rfl
  | cons ce we x c w p hl hp ih =>
    simp only [List.zip_cons_cons, List.any_cons, Bool.or_eq_false_iff] at hso
    rw [contains_cons] at hw ⊢
    exact ⟨axCovers_contains (hcov (ce, we) (by simp)) hso.1 hw.1, ih (fun x hx => hcov x (by simp [hx])) hso.2 hw.2⟩

theorem AxCut.sub {ce we y : Option Range} (h : AxCut ce we y) :
    ∃ min2 max2 lo hi, we = some (min2, max2) ∧ y = some (lo, hi) ∧ min2 ≤ lo ∧ hi ≤ max2 := by
  cases h with
  | hi => exact ⟨_, _, _, _, rfl, rfl, (le_ratMax _ _).2, Rat.le_refl⟩
  | lo => exact ⟨_, _, _, _, rfl, rfl, Rat.le_refl, (ratMin_le _ _).2⟩

theorem OneCut.shape {c w r : NBox} (h : OneCut c w r) (hwok : BoxOk w) :
    r.length = w.length ∧ BoxOk r ∧ ∀ p : Point, contains r p = true → contains w p = true := by
  induction h with
  | @here ce we y c w hy _ =>
    obtain ⟨min2, max2, lo, hi, rfl, rfl, h1, h2⟩ := hy.sub
    have hb := hwok.head
    refine ⟨rfl, BoxOk.cons_some (Rat.le_trans hb.1 h1) (Rat.le_trans h2 hb.2) hwok.tail, fun p hp => ?_⟩
    cases p with
    | nil => simp [contains] at hp
    | cons x p =>
      rw [contains_some_cons] at hp ⊢
      exact ⟨⟨Rat.le_trans h1 hp.1.1, Rat.le_trans hp.1.2 h2⟩, hp.2⟩
  | @there ce we c w r _ _ ih =>
    obtain ⟨i1, i2, i3⟩ := ih hwok.tail
    refine ⟨by simp [i1], fun lo hi hm => ?_, fun p hp => ?_⟩
    · rcases List.mem_cons.1 hm with hm | hm
      · exact hwok lo hi (by simp [hm])
      · exact i2 lo hi hm
    · cases p with
      | nil => cases we <;> simp [contains] at hp
      | cons x p =>
        rw [contains_cons] at hp ⊢
        exact ⟨hp.1, i3 p hp.2⟩

/-- On the cut axis the point lies in `self`'s range or strictly beyond the end where `other` sticks out, and on the
    other axes `self` covers `other`. -/
theorem OneCut.good {L H : Bnd} {c w r : NBox} {p : Point} (h : OneCut c w r)
    (hso : (c.zip w).any (fun x => selfOnly x.1 x.2) = false) (hl : c.length = w.length) (hp : p.length = w.length)
    (hg : Good L H w p) : contains c p = true ∨ Good L H r p := by
  induction h generalizing L H p with
  | @here ce we y c w hy hcov =>
    cases p with
    | nil => simp at hp
    | cons x p =>
      simp only [List.zip_cons_cons, List.any_cons, Bool.or_eq_false_iff] at hso
      have hcp := covers_contains hcov hso.2 (by simpa using hl) (by simpa using hp) hg.tail.contains
      cases hy with
      | @hi a b min2 max2 c2 _ =>
        obtain ⟨g1, g2, g3, g4, g5⟩ := hg
        rw [contains_some_cons]
        by_cases hxb : x ≤ b
        · exact Or.inl ⟨⟨Rat.le_trans c2 g1, hxb⟩, hcp⟩
        · have hbx : b < x := Rat.not_le.1 hxb
          have := ratMax_ind (P := fun lo => lo ≤ x ∧ (lo < x ∨ L 0 lo)) (a := b) (b := min2)
            ⟨Rat.le_of_lt hbx, Or.inl hbx⟩ ⟨g1, g3⟩
          exact Or.inr ⟨this.1, g2, this.2, g4, g5⟩
      | @lo a b min2 max2 _ c3 =>
        obtain ⟨g1, g2, g3, g4, g5⟩ := hg
        rw [contains_some_cons]
        by_cases hax : a ≤ x
        · exact Or.inl ⟨⟨hax, Rat.le_trans g2 c3⟩, hcp⟩
        · have hxa : x < a := Rat.not_le.1 hax
          have := ratMin_ind (P := fun hi => x ≤ hi ∧ (x < hi ∨ H 0 hi)) (a := a) (b := max2)
            ⟨Rat.le_of_lt hxa, Or.inl hxa⟩ ⟨g2, g4⟩
          exact Or.inr ⟨g1, this.1, g3, this.2, g5⟩
  | @there ce we c w r hax _ ih =>
    cases p with
    | nil => simp at hp
    | cons x p =>
      simp only [List.zip_cons_cons, List.any_cons, Bool.or_eq_false_iff] at hso
      rw [contains_cons]
      exact (ih hso.2 (by simpa using hl) (by simpa using hp) hg.tail).imp
        (fun h => ⟨axCovers_contains hax hso.1 (contains_cons.1 hg.contains).1, h⟩) hg.cons_tail

theorem overlayOnto_fst (c w : NBox) :
    (overlayOnto c w).1 = if (c.zip w).any (fun x => commonEmpty x.1 x.2) then none else some (interBox c w) := by
  unfold overlayOnto interBox
  simp only []
  split
  · rfl
  · split
    · rfl
    · split <;> rfl

theorem overlayOnto_snd (c w : NBox) :
    (overlayOnto c w).2 =
      if (c.zip w).any (fun x => commonEmpty x.1 x.2) then some w
      else match remLoop (c.zip w) ((c.zip w).any fun x => selfOnly x.1 x.2) with
        | none => some w
        | some (r, ex) => if ex then some r else none := by
  unfold overlayOnto
  simp only []
  split
  · rfl
  · split
    · rename_i h; simp [h]
    · rename_i r ex h
      simp only [h]
      split <;> rfl

theorem overlayOnto_snd_cases {c w : NBox} (hcok : BoxOk c) (hwok : BoxOk w) (hl : c.length = w.length) :
    (overlayOnto c w).2 = some w ∨
    ((c.zip w).any (fun x => selfOnly x.1 x.2) = false ∧
      (((overlayOnto c w).2 = none ∧ Covers c w) ∨ ∃ r, (overlayOnto c w).2 = some r ∧ OneCut c w r)) := by
  rw [overlayOnto_snd]
  split
  · exact Or.inl rfl
  · split
    · exact Or.inl rfl
    · rename_i r e hr
      rcases remLoop_cases hcok hwok hl hr with ⟨rfl, rfl, hcov⟩ | ⟨hex, rfl, hcut⟩
      · split
        · exact Or.inl rfl
        · rename_i hso
          exact Or.inr ⟨by simpa using hso, Or.inl ⟨rfl, hcov⟩⟩
      · exact Or.inr ⟨hex, Or.inr ⟨r, rfl, hcut⟩⟩

theorem overlayOnto_fst_eq_some {c w i : NBox} (h : (overlayOnto c w).1 = some i) : i = interBox c w := by
  rw [overlayOnto_fst] at h
  split at h
  · cases h
  · cases h; rfl

theorem overlayOnto_rem_shape {c w r : NBox} (hcok : BoxOk c) (hwok : BoxOk w) (hl : c.length = w.length)
    (h : (overlayOnto c w).2 = some r) :
    r.length = w.length ∧ BoxOk r ∧ ∀ p : Point, contains r p = true → contains w p = true := by
  rcases overlayOnto_snd_cases hcok hwok hl with hw | ⟨_, ⟨hn, _⟩ | ⟨r', hr, hcut⟩⟩
  · rw [hw] at h; cases h; exact ⟨rfl, hwok, fun _ h => h⟩
  · rw [hn] at h; cases h
  · rw [hr] at h; cases h; exact hcut.shape hwok

theorem step_inter {L H : Bnd} {c w : NBox} {p : Point}
    (hg : Good L H w p) (hc : contains c p = true) (hin : InB L H c) (hnt : NoTouch L H p)
    (hcok : BoxOk c) (hwok : BoxOk w) (hl : c.length = w.length) (hp : p.length = w.length) :
    (overlayOnto c w).1 = some (interBox c w) ∧ Good L H (interBox c w) p := by
  have := inter_good (good_of_contains_of_inB hc hin) hg hnt hcok hwok hl hp
  rw [overlayOnto_fst, this.1]
  exact ⟨by simp, this.2⟩

/-- off the touching boundary `step_inter` applies, with the faces of the two boxes as the bounds -/
theorem overlayOnto_inter_none_touch {c w : NBox} {p : Point} (hcok : BoxOk c) (hwok : BoxOk w)
    (hl : c.length = w.length) (hp : p.length = w.length)
    (h : (overlayOnto c w).1 = none) (hc : contains c p = true) (hw : contains w p = true) :
    OnTouchingBoundary [c, w] p := by
  have hin : ∀ b ∈ [c, w], InB (loSet [c, w]) (hiSet [c, w]) b := fun b hb k lo hi hk =>
    ⟨⟨b, hb, hi, hk⟩, ⟨b, hb, lo, hk⟩⟩
  apply Classical.byContradiction
  intro hnt
  have := (step_inter (good_of_contains_of_inB hw (hin w (by simp))) hc (hin c (by simp))
    (fun k x hk hb => hnt ⟨k, x, hk, hb.1, hb.2⟩) hcok hwok hl hp).1
  rw [h] at this
  cases this

theorem step_rem {L H : Bnd} {c w : NBox} {p : Point}
    (hg : Good L H w p) (hc : contains c p = false)
    (hcok : BoxOk c) (hwok : BoxOk w) (hl : c.length = w.length) (hp : p.length = w.length) :
    ∃ r, (overlayOnto c w).2 = some r ∧ Good L H r p := by
  rcases overlayOnto_snd_cases hcok hwok hl with hw | ⟨hso, ⟨_, hcov⟩ | ⟨r, hr, hcut⟩⟩
  · exact ⟨w, hw, hg⟩
  · rw [covers_contains hcov hso hl hp hg.contains] at hc; cases hc
  · rcases hcut.good hso hl hp hg with h | h
    · rw [hc] at h; cases h
    · exact ⟨r, hr, h⟩

theorem overlayOnto_rem_none {c w : NBox} {p : Point} (hcok : BoxOk c) (hwok : BoxOk w)
    (hl : c.length = w.length) (hp : p.length = w.length)
    (h : (overlayOnto c w).2 = none) (hw : contains w p = true) : contains c p = true := by
  rcases overlayOnto_snd_cases hcok hwok hl with hw' | ⟨hso, ⟨_, hcov⟩ | ⟨r, hr, _⟩⟩
  · rw [h] at hw'; cases hw'
  · exact covers_contains hcov hso hl hp hw
  · rw [h] at hr; cases hr

theorem overlayOnto_of_commonEmpty {c w : NBox} (h : (c.zip w).any (fun x => commonEmpty x.1 x.2) = true) :
    overlayOnto c w = (none, some w) := by
  apply Prod.ext
  · rw [overlayOnto_fst, if_pos h]
  · rw [overlayOnto_snd, if_pos h]

theorem commonEmpty_of_le {a b c d : Rat} (h : b ≤ c ∨ d ≤ a) : commonEmpty (some (a, b)) (some (c, d)) = true := by
  rw [commonEmpty_some_some, decide_eq_true_eq]
  rcases h with h | h
  · exact Rat.le_trans (ratMin_le b d).1 (Rat.le_trans h (le_ratMax a c).2)
  · exact Rat.le_trans (ratMin_le b d).2 (Rat.le_trans h (le_ratMax a c).1)

end Fontc.FeatVars
