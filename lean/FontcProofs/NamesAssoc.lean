/-
  C18: insertion-ordered association lists (`alookup` / `ainsert` / `aerase`). `alookup` is core's `List.lookup`
  (`alookup_eq_lookup`); what ListFacts says of lists read by `lookup` (`Functional`, `IsInsert`) is carried over through it.
-/
import FontcModel.Names
import FontcProofs.ListFacts

namespace Fontc.Names

section
variable {α β : Type} [DecidableEq α]

@[simp] theorem alookup_nil (k : α) : alookup k ([] : List (α × β)) = none := rfl

theorem alookup_cons (k a : α) (b : β) (t : List (α × β)) :
    alookup k ((a, b) :: t) = if a = k then some b else alookup k t := rfl

theorem alookup_ainsert (k k' : α) (v : β) (l : List (α × β)) :
    alookup k' (ainsert k v l) = if k = k' then some v else alookup k' l := by
  fun_induction ainsert k v l with
  | case1 => rfl
  | case2 b t => simp only [alookup_cons]; split <;> rfl
  | case3 a b t h ih =>
    simp only [alookup_cons, ih]
    by_cases h' : a = k'
    · subst h'; simp [Ne.symm h]
    · simp [h']

theorem alookup_aerase (k k' : α) (l : List (α × β)) :
    alookup k' (aerase k l) = if k = k' then none else alookup k' l := by
  fun_induction aerase k l with
  | case1 => simp
  | case2 b t ih => simp only [alookup_cons, ih]; split <;> rfl
  | case3 a b t h ih =>
    simp only [alookup_cons, ih]
    by_cases h' : a = k'
    · subst h'; simp [Ne.symm h]
    · simp [h']

theorem alookup_eq_lookup (k : α) (l : List (α × β)) : alookup k l = l.lookup k := by
  induction l with
  | nil => rfl
  | cons p t ih =>
    rw [alookup_cons, List.lookup_cons, ih]
    by_cases h : p.1 = k
    · simp [h]
    · simp [h, beq_eq_false_iff_ne.2 (Ne.symm h)]

theorem mem_of_alookup {k : α} {v : β} {l : List (α × β)} (h : alookup k l = some v) : (k, v) ∈ l :=
  mem_of_lookup_eq_some (alookup_eq_lookup k l ▸ h)

theorem eq_or_mem_of_mem_ainsert {k : α} {v : β} {l : List (α × β)} {p : α × β} (h : p ∈ ainsert k v l) :
    p = (k, v) ∨ p ∈ l := by
  fun_induction ainsert k v l with
  | case1 => exact Or.inl (List.mem_singleton.mp h)
  | case2 b t => exact (List.mem_cons.mp h).imp_right (List.mem_cons_of_mem _)
  | case3 a b t hk ih =>
    rcases List.mem_cons.mp h with h | h
    · exact Or.inr (h ▸ List.mem_cons_self)
    · exact (ih h).imp_right (List.mem_cons_of_mem _)

theorem alookup_isSome_iff {k : α} {l : List (α × β)} : (alookup k l).isSome ↔ ∃ v, (k, v) ∈ l := by
  rw [alookup_eq_lookup]; exact lookup_isSome_iff

theorem alookup_eq_none_iff {k : α} {l : List (α × β)} : alookup k l = none ↔ ∀ v, (k, v) ∉ l := by
  rw [← Option.not_isSome_iff_eq_none, alookup_isSome_iff, not_exists]

theorem alookup_of_mem_nodup {k : α} {v : β} {l : List (α × β)} (hn : (akeys l).Nodup) (h : (k, v) ∈ l) :
    alookup k l = some v :=
  (alookup_eq_lookup k l).trans ((lookup_eq_some_iff_of_nodup hn).2 h)

theorem ainsert_same {k : α} {v : β} {l : List (α × β)} (h : alookup k l = some v) : ainsert k v l = l := by
  fun_induction ainsert k v l with
  | case1 => cases h
  | case2 b t => simp only [alookup_cons, if_true, Option.some.injEq] at h; rw [h]
  | case3 a b t hk ih => rw [alookup_cons, if_neg hk] at h; rw [ih h]

theorem ainsert_of_none {k : α} {v : β} {l : List (α × β)} (h : alookup k l = none) : ainsert k v l = l ++ [(k, v)] := by
  fun_induction ainsert k v l with
  | case1 => rfl
  | case2 b t => simp [alookup_cons] at h
  | case3 a b t hk ih =>
    rw [alookup_cons, if_neg hk] at h
    rw [ih h]
    rfl

theorem alookup_append (k : α) (l₁ l₂ : List (α × β)) :
    alookup k (l₁ ++ l₂) = (alookup k l₁).or (alookup k l₂) := by
  simp only [alookup_eq_lookup, List.lookup_append]

theorem isInsert_ainsert : IsInsert (ainsert (α := α) (β := β)) := fun k v m k' => by
  rw [← alookup_eq_lookup, ← alookup_eq_lookup, alookup_ainsert]
  by_cases h : k' = k
  · simp [h]
  · simp [h, Ne.symm h]

theorem alookup_foldl_ainsert (l t : List (α × β)) (k : α) :
    alookup k (l.foldl (fun t p => ainsert p.1 p.2 t) t) = (alookup k l.reverse).or (alookup k t) := by
  simp only [alookup_eq_lookup, isInsert_ainsert.lookup_foldl]

theorem alookup_congr {l l' : List (α × β)} (hf : Functional l) (hm : ∀ p, p ∈ l' ↔ p ∈ l) (k : α) :
    alookup k l' = alookup k l := by
  rw [alookup_eq_lookup, alookup_eq_lookup, lookup_congr hf hm]

theorem alookup_reverse_of_nodup {l : List (α × β)} (hn : (akeys l).Nodup) (k : α) : alookup k l.reverse = alookup k l :=
  alookup_congr (functional_of_nodup hn) (fun _ => List.mem_reverse) k

omit [DecidableEq α] in
theorem akeys_cons (a : α) (b : β) (t : List (α × β)) : akeys ((a, b) :: t) = a :: akeys t := rfl

omit [DecidableEq α] in
theorem mem_akeys_of_mem {k : α} {v : β} {l : List (α × β)} (h : (k, v) ∈ l) : k ∈ akeys l :=
  List.mem_map_of_mem (f := (·.1)) h

theorem akeys_ainsert (k : α) (v : β) (l : List (α × β)) :
    akeys (ainsert k v l) = if k ∈ akeys l then akeys l else akeys l ++ [k] := by
  fun_induction ainsert k v l with
  | case1 => rfl
  | case2 b t => simp [akeys_cons]
  | case3 a b t hk ih =>
    simp only [akeys_cons, ih, List.mem_cons, Ne.symm hk, false_or]
    split <;> rfl

theorem akeys_ainsert_nodup {k : α} {v : β} {l : List (α × β)} (h : (akeys l).Nodup) : (akeys (ainsert k v l)).Nodup := by
  rw [akeys_ainsert]
  split
  · exact h
  · next hk => exact nodup_snoc h hk

theorem mem_or_mem_of_mem_foldl_ainsert {l t : List (α × β)} {p : α × β}
    (h : p ∈ l.foldl (fun t p => ainsert p.1 p.2 t) t) : p ∈ l ∨ p ∈ t := by
  induction l generalizing t with
  | nil => exact Or.inr h
  | cons q l ih =>
    rcases ih h with h | h
    · exact Or.inl (List.mem_cons_of_mem _ h)
    · exact (eq_or_mem_of_mem_ainsert h).imp_left fun e => by rw [e]; exact List.mem_cons_self

theorem akeys_foldl_ainsert_nodup (l : List (α × β)) {t : List (α × β)} (h : (akeys t).Nodup) :
    (akeys (l.foldl (fun t p => ainsert p.1 p.2 t) t)).Nodup :=
  List.foldlRecOn l _ (motive := fun t => (akeys t).Nodup) h fun _ h _ _ => akeys_ainsert_nodup h

theorem akeys_aerase (k : α) (l : List (α × β)) : akeys (aerase k l) = (akeys l).filter (· ≠ k) := by
  fun_induction aerase k l with
  | case1 => rfl
  | case2 b t ih => simpa [akeys] using ih
  | case3 a b t hk ih => simpa [akeys, hk] using ih

theorem akeys_aerase_nodup {k : α} {l : List (α × β)} (h : (akeys l).Nodup) : (akeys (aerase k l)).Nodup := by
  rw [akeys_aerase]; exact h.sublist List.filter_sublist

theorem alookup_filter_val (p : β → Bool) (k : α) {l : List (α × β)} (hn : (akeys l).Nodup) :
    alookup k (l.filter fun q => p q.2) = (alookup k l).filter p := by
  have hf := functional_of_nodup hn
  have hf' : Functional (l.filter fun q => p q.2) := fun a ha b hb =>
    hf a (List.mem_filter.mp ha).1 b (List.mem_filter.mp hb).1
  refine Option.ext fun v => ?_
  rw [alookup_eq_lookup, alookup_eq_lookup, lookup_eq_some_iff_of_functional hf', Option.filter_eq_some_iff,
    lookup_eq_some_iff_of_functional hf, List.mem_filter]

end

end Fontc.Names
