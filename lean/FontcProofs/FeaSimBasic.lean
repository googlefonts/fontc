/-
  C11 simulation: what the elementary operations of the compilation context do (`push`,
  `ensure_current_lookup_type`, `prepare`, `Builder.add`), and the vocabulary of the invariants:
  lookups sit at their ids (`Placed`), new lookups go to the end of GSUB or GPOS (`nextId`),
  the current lookup is pushed and registered (`St.flush`).
-/
import FontcModel.FeaCompile

namespace Fontc.FeaCompile
open Cmp

/-- the lookups a builder is written to by `push` -/
def builtLookups (cf : CFlag) (b : Builder) : List OT.Lookup :=
  match b with
  | .chain _ anon => buildLookup cf b :: anon.map (buildAnonLookup cf)
  | _ => [buildLookup cf b]

/-- the anonymous lookups a builder is followed by -/
def Cmp.Builder.anons : Builder → List Anon
  | .chain _ an => an
  | _ => []

theorem builtLookups_eq (cf : CFlag) (b : Builder) :
    builtLookups cf b = buildLookup cf b :: b.anons.map (buildAnonLookup cf) := by
  cases b <;> rfl

theorem push_eq (s : St) (cf : CFlag) (b : Builder) :
    s.push cf b =
      if b.kind.isPos then ({ s with gpos := s.gpos ++ builtLookups cf b }, .gpos s.gpos.length)
      else ({ s with gsub := s.gsub ++ builtLookups cf b }, .gsub s.gsub.length) := by
  cases b <;> simp [St.push, builtLookups, Builder.kind, Kind.isPos]

/-- `ls` are the lookups at index `id …` of their table -/
def Placed (gsub gpos : List OT.Lookup) (id : LookupId) (ls : List OT.Lookup) : Prop :=
  match id with
  | .gsub n => ∃ pre post, gsub = pre ++ ls ++ post ∧ pre.length = n
  | .gpos n => ∃ pre post, gpos = pre ++ ls ++ post ∧ pre.length = n
  | .empty => False

theorem Placed.mono {gsub gpos : List OT.Lookup} {id : LookupId} {ls : List OT.Lookup}
    (h : Placed gsub gpos id ls) (g' p' : List OT.Lookup) : Placed (gsub ++ g') (gpos ++ p') id ls := by
  cases id with
  | gsub n =>
    obtain ⟨pre, post, he, hl⟩ := h
    exact ⟨pre, post ++ g', by simp [he], hl⟩
  | gpos n =>
    obtain ⟨pre, post, he, hl⟩ := h
    exact ⟨pre, post ++ p', by simp [he], hl⟩
  | empty => exact h

theorem Placed.getElem {gsub gpos ls : List OT.Lookup} {n j : Nat} {l : OT.Lookup}
    (h : Placed gsub gpos (.gsub n) ls) (hj : ls[j]? = some l) : gsub[n + j]? = some l := by
  obtain ⟨pre, post, rfl, rfl⟩ := h
  rw [List.append_assoc, List.getElem?_append_right (by omega), Nat.add_sub_cancel_left,
    List.getElem?_append_left (List.getElem?_eq_some_iff.mp hj).1, hj]

theorem Placed.head_gpos {gsub gpos : List OT.Lookup} {n : Nat} {l : OT.Lookup} {ls : List OT.Lookup}
    (h : Placed gsub gpos (.gpos n) (l :: ls)) : gpos[n]? = some l := by
  obtain ⟨pre, post, he, hl⟩ := h
  subst hl
  simp [he]

/-- the fields no lookup operation touches -/
structure SameCtx (s s' : St) : Prop where
  flag : s'.flag = s.flag
  attachIds : s'.attachIds = s.attachIds
  filterIds : s'.filterIds = s.filterIds
  langsys : s'.langsys = s.langsys
  script : s'.script = s.script
  features : s'.features = s.features

/-- the feature in progress, if there is one, with the lookup `id` added (what `St.addToFeature` does to the `active` field for an id of GSUB or GPOS) -/
def addIdToActive (a : Option Active) (id : LookupId) : Option Active := a.map (·.addLookup id)

def Cmp.LookupId.isGpos : LookupId → Bool
  | .gpos _ => true
  | _ => false

/-- the id the next lookup pushed gets: the end of GPOS (`isPos`) or of GSUB -/
def nextId (s : St) (isPos : Bool) : LookupId := if isPos then .gpos s.gpos.length else .gsub s.gsub.length

theorem nextId_isGpos {s : St} {isPos : Bool} : (nextId s isPos).isGpos = isPos := by cases isPos <;> rfl

/-- `finish_current` followed by `add_lookup_to_current_feature_if_present`: the current lookup, if
    there is one, is pushed, bound to the name of the lookup block it makes up, if any, and registered
    with the feature in progress.  What `Src.Walk.flush` is on the source side. -/
def Cmp.St.flush (s : St) : St :=
  match s.cur with
  | none => s
  | some (cf, b) =>
    { s with cur := none, curName := none,
             gsub := s.gsub ++ (if b.kind.isPos then [] else builtLookups cf b),
             gpos := s.gpos ++ (if b.kind.isPos then builtLookups cf b else []),
             named := s.curName.toList.map (·, nextId s b.kind.isPos) ++ s.named,
             active := addIdToActive s.active (nextId s b.kind.isPos) }

theorem flush_of_cur_none {s : St} (h : s.cur = none) : s.flush = s := by
  simp [St.flush, h]

theorem flush_active {s : St} {cf : CFlag} {b : Builder} (hc : s.cur = some (cf, b)) :
    s.flush.active = addIdToActive s.active (nextId s b.kind.isPos) := by
  simp [St.flush, hc]

theorem flush_cur {s : St} : s.flush.cur = none := by
  unfold St.flush; split <;> simp_all

theorem flush_curName (s : St) (h : s.cur = none → s.curName = none) : s.flush.curName = none := by
  unfold St.flush; split
  · rename_i hc; exact h hc
  · rfl

theorem flush_active_none {s : St} (h : s.active = none) : s.flush.active = none := by
  unfold St.flush; split <;> simp [addIdToActive, h]

theorem flush_sameCtx (s : St) : SameCtx s s.flush := by
  unfold St.flush; split <;> exact ⟨rfl, rfl, rfl, rfl, rfl, rfl⟩

theorem flush_script_flag (s : St) (sc : Option Tag) (fl : CFlag) :
    ({ s with script := sc, flag := fl } : St).flush = { s.flush with script := sc, flag := fl } := by
  obtain ⟨gsub, gpos, cur, curName, named, flag, aIds, fIds, ls, active, script, features⟩ := s
  cases cur <;> rfl

theorem finishCurrent_some {s : St} {cf : CFlag} {b : Builder} (hc : s.cur = some (cf, b)) :
    s.finishCurrent =
      ({ s with cur := none, curName := none,
                gsub := s.gsub ++ (if b.kind.isPos then [] else builtLookups cf b),
                gpos := s.gpos ++ (if b.kind.isPos then builtLookups cf b else []),
                named := s.curName.toList.map (·, nextId s b.kind.isPos) ++ s.named },
       some (nextId s b.kind.isPos)) := by
  obtain ⟨gsub, gpos, cur, curName, named, flag, aIds, fIds, ls, active, script, features⟩ := s
  simp only at hc
  subst hc
  by_cases hpos : b.kind.isPos = true <;> cases curName <;> simp [St.finishCurrent, push_eq, hpos, nextId]

theorem finishCurrent_none {s : St} (hc : s.cur = none) (hn : s.curName = none) : s.finishCurrent = (s, none) := by
  simp [St.finishCurrent, hc, hn]

theorem finishAndAdd_eq (s : St) (hn : s.cur = none → s.curName = none) : s.finishAndAdd = s.flush := by
  cases hc : s.cur with
  | none => simp [St.finishAndAdd, finishCurrent_none hc (hn hc), St.flush, hc]
  | some p =>
    obtain ⟨cf, b⟩ := p
    simp only [St.finishAndAdd, finishCurrent_some hc, St.flush, hc]
    cases b.kind.isPos <;> cases s.active <;> simp [St.addToFeature, nextId, addIdToActive]

/-- `curName = none` in `hne`: `finish_current` binds a pending block name to the lookup it pushes,
    `ensure_current_lookup_type` does not. -/
theorem ensure_eq {s : St} {k : Kind}
    (hne : ∀ cf b, s.cur = some (cf, b) → s.curName = none ∧ ¬ (b.kind = k ∧ cf = s.flag)) :
    s.ensure k = { s.flush with cur := some (s.flag, Builder.new k) } := by
  have hcond : (s.hasCurrentKind k && s.hasSameFlags) = false := by
    cases hc : s.cur with
    | none => simp [St.hasCurrentKind, hc]
    | some p =>
      obtain ⟨cf, b⟩ := p
      simp only [St.hasCurrentKind, St.hasSameFlags, hc, Option.map_some, Bool.and_eq_false_iff]
      by_cases hk : b.kind = k
      · right
        have : cf ≠ s.flag := fun e => (hne cf b hc).2 ⟨hk, e⟩
        simp [this]
      · left; simp [hk]
  cases hc : s.cur with
  | none => simp [St.ensure, hcond, hc, St.flush]
  | some p =>
    obtain ⟨cf, b⟩ := p
    have hn := (hne cf b hc).1
    simp only [St.ensure, hcond, hc, St.flush, hn, push_eq, Bool.false_eq_true, ↓reduceIte]
    cases b.kind.isPos <;> cases s.active <;> simp [St.addToFeature, nextId, addIdToActive]

/-- the current lookup does not absorb / is not promoted by a rule of another type -/
def NoMerge (s : St) (r : Rule) : Prop :=
  match s.cur with
  | none => True
  | some (cf, b) => cf = s.flag → Wf.mixes b.kind r.kind = false

theorem promote_eq {s : St} {cf : CFlag} {b : Builder} (hc : s.cur = some (cf, b)) (hk : b.kind ≠ .single) :
    s.promoteToMulti = s ∧ s.promoteToLiga = s := by
  cases b <;> first | exact absurd rfl hk | simp [St.promoteToMulti, St.promoteToLiga, hc]

/-- `prepare` departs from `ensure` only where a single rule meets a current multiple / ligature
    lookup with the flag in force, or the other way round: where the kinds mix. -/
theorem prepare_eq_ensure {s : St} {r : Rule} (h : NoMerge s r) : s.prepare r = s.ensure r.kind := by
  by_cases hf : s.hasSameFlags = true
  · obtain ⟨cf, b, hc, rfl⟩ : ∃ cf b, s.cur = some (cf, b) ∧ cf = s.flag := by
      cases hc : s.cur with
      | none => simp [St.hasSameFlags, hc] at hf
      | some p => exact ⟨p.1, p.2, rfl, by simpa [St.hasSameFlags, hc] using hf⟩
    have hm : Wf.mixes b.kind r.kind = false := by simpa [NoMerge, hc] using h
    cases r with
    | single t x =>
      have : s.hasCurrentKind .multiple = false ∧ s.hasCurrentKind .ligature = false := by
        simp only [St.hasCurrentKind, hc, Option.map_some]
        generalize b.kind = k at hm
        cases k <;> simp_all [Wf.mixes, Rule.kind]
      simp [St.prepare, this, Rule.kind]
    | multiple t x =>
      have hk : b.kind ≠ .single := by intro e; simp [e, Wf.mixes, Rule.kind] at hm
      simp [St.prepare, (promote_eq hc hk).1, Rule.kind]
    | ligature ts x =>
      have hk : b.kind ≠ .single := by intro e; simp [e, Wf.mixes, Rule.kind] at hm
      simp [St.prepare, (promote_eq hc hk).2, Rule.kind]
    | alternate _ _ => rfl
    | chain _ _ _ _ => rfl
    | ignore _ => rfl
    | spos _ _ => rfl
    | ppos _ _ _ _ => rfl
  · have hf' : s.hasSameFlags = false := by simpa using hf
    cases r <;> simp [St.prepare, hf', Rule.kind]

theorem Cmp.Builder.add_kind (fx : Fixes) (root : Nat) (named : String → LookupId) (b : Builder) (r : Rule) :
    (b.add fx root named r).kind = b.kind := by
  cases b <;> cases r <;>
    first
    | rfl
    | (simp only [Builder.add]; split <;> rfl)

theorem Cmp.Builder.new_kind (k : Kind) : (Builder.new k).kind = k := by cases k <;> rfl

theorem Cmp.Builder.foldl_add_kind (fx : Fixes) (root : Nat) (named : String → LookupId) (b : Builder) (rs : List Rule) :
    (rs.foldl (Builder.add fx root named) b).kind = b.kind := by
  induction rs generalizing b with
  | nil => rfl
  | cons r rs ih => simp [List.foldl_cons, ih, Builder.add_kind]

end Fontc.FeaCompile
