/-
  C20 — quotes are optional exactly on `bareOk` strings (`bare_reads_back_iff`).  "Only if" is about the reader
  on arbitrary text: a token is no longer than the text it was read from (`hexRun_length` … `lexQuoted_length`),
  what a token says about that text (`lex_inv`), the two loops return a dictionary and an array.
-/
import FontcModel.Plist
import FontcProofs.PlistParse
namespace Fontc.Plist

theorem hexRun_length (k : Nat) (s : List Char) (acc : Nat) : (hexRun k s acc).2.length ≤ s.length := by
  induction k generalizing s acc with
  | zero => simp [hexRun]
  | succ k ih =>
    cases s with
    | nil => simp [hexRun]
    | cons c s =>
      simp only [hexRun]
      split
      · next d _ =>
          have := ih s (acc * 16 + d)
          simp only [List.length_cons]
          omega
      · simp

theorem hex4_length {s : List Char} {v : Nat} {t : List Char} (h : hex4 s = some (v, t)) : t.length ≤ s.length := by
  cases s with
  | nil => simp [hex4] at h
  | cons c s =>
    simp only [hex4] at h
    split at h
    · simp at h
      have := hexRun_length 4 (c :: s) 0
      rw [h] at this
      exact this
    · cases h

theorem parseEscape_length {r : List Char} {e : Char} {t : List Char} (h : parseEscape r = some (e, t)) :
    t.length < r.length := by
  revert h
  fun_cases parseEscape r <;> intro h
  -- no escape
  case case1 | case6 | case8 | case11 | case12 | case13 => cases h
  -- `\"` `\\` `\n` `\r` `\t`: the rest is the tail
  case case2 | case3 | case4 | case5 => cases h; simp
  -- `\U` with one unit, with a surrogate pair: the rest is what `hex4` leaves
  case case7 v t1 h4 _ =>
    obtain ⟨_, _, h⟩ := Option.map_eq_some_iff.1 h
    cases h
    have := hex4_length h4
    simp only [List.length_cons]; omega
  case case9 v t1 h4 _ v2 t3 h4' =>
    obtain ⟨_, _, h⟩ := Option.map_eq_some_iff.1 h
    cases h
    have := hex4_length h4
    have := hex4_length h4'
    simp only [List.length_cons, List.length_drop] at *; omega
  -- octal
  case case10 =>
    cases h
    simp only [List.length_cons]
    omega

theorem lexQuoted_length {f : Nat} {acc inp t r : List Char} (h : lexQuoted f acc inp = some (t, r)) :
    t.length + r.length + 1 ≤ acc.length + inp.length := by
  induction f generalizing acc inp with
  | zero => simp [lexQuoted] at h
  | succ f ih =>
    cases inp with
    | nil => simp [lexQuoted] at h
    | cons c rest =>
      simp only [lexQuoted] at h
      split at h
      · simp at h
        obtain ⟨rfl, rfl⟩ := h
        simp
        omega
      · split at h
        · split at h
          · cases h
          · next e r' he =>
            have := ih h
            have := parseEscape_length he
            simp at *; omega
        · have := ih h
          simp at *; omega

theorem parseDict_isDict (f : Nat) : ∀ {m : List (Key × PVal)} {s : List Char} {v : PVal} {r : List Char},
    parseDict f m s = some (v, r) → ∃ kvs, v = .dict kvs := by
  induction f using Nat.strongRecOn with
  | ind f ih =>
    intro m s v r
    fun_cases parseDict f m s <;> intro h
    -- the loop ends at a `}`,
    case case2 => cases h; exact ⟨_, rfl⟩
    -- or goes round,
    case case8 => exact ih _ (Nat.lt_succ_self _) h
    -- or fails
    all_goals cases h

theorem parseArr_isArr (f : Nat) : ∀ {acc : List PVal} {s : List Char} {v : PVal} {r : List Char},
    parseArr f acc s = some (v, r) → ∃ xs, v = .arr xs := by
  induction f using Nat.strongRecOn with
  | ind f ih =>
    intro acc s v r
    fun_cases parseArr f acc s <;> intro h
    -- the loop ends at a `)`,
    case case2 | case4 | case6 => cases h; exact ⟨_, rfl⟩
    -- or goes round,
    case case7 => exact ih _ (Nat.lt_succ_self _) h
    -- or fails
    all_goals cases h

theorem skipWs_length (inp : List Char) : (skipWs inp).length ≤ inp.length := by
  unfold skipWs
  exact (List.dropWhile_sublist _).length_le

/-- what a token says about the text it was read from: a quoted string and the rest are together shorter than the text by
    at least the two quotes; a bare word is non-empty and made of bare-word characters -/
theorem lex_inv {inp : List Char} {tok : Tok} {r : List Char} (h : lex inp = some (tok, r)) :
    match (generalizing := false) tok with
    | .str t => t.length + r.length + 2 ≤ inp.length
    | .atom a => a.all isAlnum = true ∧ a.isEmpty = false
    | _ => True := by
  revert h
  fun_cases lex inp <;> intro h
  -- end of text, `{`, `(`, `<`
  case case1 | case2 | case3 => cases h; trivial
  case case4 =>
    obtain ⟨_, _, h⟩ := Option.map_eq_some_iff.1 h
    cases h; trivial
  -- `"`
  case case5 c rest hs _ _ _ _ =>
    obtain ⟨⟨t, r'⟩, hq, h⟩ := Option.map_eq_some_iff.1 h
    cases h
    have := lexQuoted_length hq
    have := skipWs_length inp
    simp only [hs, List.length_cons, List.length_nil] at *
    omega
  -- a bare word
  case case6 c rest _ _ _ _ _ hc =>
    cases h
    exact ⟨List.all_takeWhile, by simp [List.takeWhile, hc]⟩
  case case7 => cases h

/-- `hlen`: the text has no room for quotes. A string result comes from a quoted token (then the text is longer by two,
    `lex_inv`) or from a bare word that `parse_atom` left a string (`parseAtom_eq_str_iff`). -/
theorem parseRec_str_bare {f : Nat} {inp t r : List Char} (h : parseRec (f + 1) inp = some (.str t, r))
    (hlen : inp.length ≤ t.length + r.length) : bareOk t = true := by
  rw [parseRec] at h
  cases hlex : lex inp with
  | none => simp [hlex] at h
  | some p =>
    obtain ⟨tok, r1⟩ := p
    simp only [hlex] at h
    cases tok with
    | eof => simp at h
    | openBrace => obtain ⟨kvs, hk⟩ := parseDict_isDict _ h; cases hk
    | openParen => obtain ⟨kvs, hk⟩ := parseArr_isArr _ h; cases hk
    | data bs => simp at h
    | str t' =>
      have : t'.length + r1.length + 2 ≤ inp.length := lex_inv hlex
      simp at h
      obtain ⟨rfl, rfl⟩ := h
      omega
    | atom a =>
      obtain ⟨h1, h2⟩ : a.all isAlnum = true ∧ a.isEmpty = false := lex_inv hlex
      simp at h
      obtain ⟨ha, rfl⟩ := h
      obtain ⟨rfl, hnum⟩ := parseAtom_eq_str_iff.1 ha
      unfold bareOk
      simp [h1, h2, hnum]

theorem bare_reads_back_iff (s r : List Char) (f : Nat) (hr : Stop r) :
    parseRec (f + 1) (s ++ r) = some (.str s, r) ↔ bareOk s = true := by
  constructor
  · intro h
    exact parseRec_str_bare h (by simp)
  · intro h
    have := parseRec_printStr s { bare := true } [] r hr f
    simp only [printStr, h, Bool.and_self, if_true, ws, List.filter_nil, List.nil_append] at this
    exact this

end Fontc.Plist
