/- C17, `MaxBuilder`: what solves the recursion of the composite limits (`Solves`), and the recursive specification at a
   sufficient fuel does; the loop of `update_composite_limits` returns the maximum over the composites of any solution `S`
   (invariant `Inv`); the range-checked loop returns what the unbounded one returns when that fits u16. -/
import FontcModel.Limits
import FontcProofs.ListFacts

namespace Fontc.Limits

/-- what `MaxBuilder::update` records for a shape -/
def infoOfShape : Shape → GlyphInfo
  | .simple cs => ⟨some ⟨(cs.map List.length).sum, cs.length, 0⟩, none⟩
  | .composite comps => ⟨none, some (comps.map (·.gid))⟩
  | .empty => ⟨some {}, none⟩

/-- the three per-glyph counts that `MaxBuilder::update` maximises -/
def simplePoints : Shape → Nat
  | .simple cs => (cs.map List.length).sum
  | _ => 0
def simpleContours : Shape → Nat
  | .simple cs => cs.length
  | _ => 0
def componentCount : Shape → Nat
  | .composite comps => comps.length
  | _ => 0

theorem MaxBuilder.foldl_update (gs : List Glyph) (b : MaxBuilder) :
    gs.foldl MaxBuilder.update b =
      { maxPoints := (gs.map fun g => simplePoints g.shape).foldl max b.maxPoints
        maxContours := (gs.map fun g => simpleContours g.shape).foldl max b.maxContours
        maxComponentElements := (gs.map fun g => componentCount g.shape).foldl max b.maxComponentElements
        glyphInfo := b.glyphInfo ++ gs.map fun g => infoOfShape g.shape
        bbox := (gs.filterMap (·.bbox)).foldl optUnion b.bbox } := by
  induction gs generalizing b with
  | nil => simp
  | cons g gs ih =>
    rw [List.foldl_cons, ih]
    unfold MaxBuilder.update
    cases hb : g.bbox <;> cases hs : g.shape <;>
      simp only [hb, hs, simplePoints, simpleContours, componentCount, infoOfShape, List.append_assoc,
        List.cons_append, List.nil_append, List.map_cons, List.foldl_cons, Nat.zero_le, Nat.max_eq_left,
        Option.some.injEq, List.filterMap_cons_none, List.filterMap_cons_some]

theorem maxBuilderOf_glyphInfo (gs : List Glyph) :
    (maxBuilderOf gs).glyphInfo = (gs.map (·.shape)).map infoOfShape := by
  simp [maxBuilderOf, MaxBuilder.foldl_update]

theorem isComposite_iff (g : List Shape) (gid : Nat) :
    isComposite g gid = true ↔ ∃ comps, g[gid]? = some (.composite comps) := by
  unfold isComposite
  cases h : g[gid]? with
  | none => simp
  | some sh => cases sh <;> simp

theorem Acyclic.of_check {g : List Shape} {rank : Nat → Nat}
    (h : ((List.range g.length).all fun gid => match g[gid]? with
      | some (.composite comps) => comps.all fun c => decide (c.gid < g.length ∧ rank c.gid < rank gid)
      | _ => true) = true) : Acyclic g rank := by
  have key : ∀ gid comps, g[gid]? = some (Shape.composite comps) →
      ∀ c ∈ comps, c.gid < g.length ∧ rank c.gid < rank gid := by
    intro gid comps hg c hc
    have := List.all_eq_true.1 h gid (List.mem_range.2 (List.getElem?_eq_some_iff.1 hg).1)
    rw [hg] at this
    exact of_decide_eq_true (List.all_eq_true.1 this c hc)
  exact ⟨fun gid comps hg c hc => (key gid comps hg c hc).1, fun gid comps hg c hc => (key gid comps hg c hc).2⟩

/-- `S` solves the recursion of the composite limits, with the limits `MaxBuilder::update` gave as its base -/
structure Solves (g : List Shape) (S : Nat → Limits) : Prop where
  node : ∀ gid comps, g[gid]? = some (.composite comps) → S gid = (comps.map fun c => S c.gid).foldl accLimits {}
  leaf : ∀ gid sh l, g[gid]? = some sh → (infoOfShape sh).limits = some l → l = S gid

/-- the three recursive specifications of the model (`specPoints`, `specContours`, `specDepth`) as one `Limits` -/
def specLimits (g : List Shape) (fuel gid : Nat) : Limits :=
  ⟨specPoints g fuel gid, specContours g fuel gid, specDepth g fuel gid⟩

theorem foldl_accLimits (xs : List Limits) (acc : Limits) :
    xs.foldl accLimits acc =
      ⟨acc.maxPoints + (xs.map (·.maxPoints)).sum, acc.maxContours + (xs.map (·.maxContours)).sum,
       max acc.maxDepth (listMax (xs.map (·.maxDepth + 1)))⟩ := by
  induction xs generalizing acc with
  | nil => simp [listMax]
  | cons x xs ih =>
    simp only [List.foldl_cons, ih, accLimits, List.map_cons, List.sum_cons, listMax, List.foldr_cons,
      Limits.mk.injEq]
    refine ⟨by omega, by omega, by omega⟩

theorem specLimits_succ (g : List Shape) (fuel gid : Nat) :
    specLimits g (fuel + 1) gid =
      match g[gid]? with
      | some (.composite comps) => (comps.map fun c => specLimits g fuel c.gid).foldl accLimits {}
      | some sh => ((infoOfShape sh).limits).getD {}
      | none => {} := by
  cases hg : g[gid]? with
  | none => simp [specLimits, specPoints, specContours, specDepth, hg]
  | some sh =>
    cases sh <;>
      simp [foldl_accLimits, specLimits, specPoints, specContours, specDepth, hg, infoOfShape, Function.comp_def]

theorem specLimits_fuel {g : List Shape} {rank : Nat → Nat} (hA : Acyclic g rank) :
    ∀ f1 f2 gid, rank gid < f1 → rank gid < f2 → specLimits g f1 gid = specLimits g f2 gid := by
  intro f1
  induction f1 with
  | zero => intro f2 gid h; omega
  | succ a ih =>
    intro f2 gid h1 h2
    obtain ⟨b, rfl⟩ : ∃ b, f2 = b + 1 := ⟨f2 - 1, by omega⟩
    rw [specLimits_succ, specLimits_succ]
    split
    · rename_i comps hg
      exact congrArg (List.foldl accLimits {}) (List.map_congr_left fun c hc => by
        have := hA.dec gid comps hg c hc
        exact ih b c.gid (by omega) (by omega))
    · rfl
    · rfl

theorem specLimits_solves {g : List Shape} {rank : Nat → Nat} (hA : Acyclic g rank) (fuel : Nat)
    (hfuel : ∀ gid, gid < g.length → rank gid < fuel) : Solves g (specLimits g fuel) := by
  refine ⟨fun gid comps hg => ?_, fun gid sh l hsh hl => ?_⟩
  · -- `specLimits_succ` speaks of the components one fuel down; their ranks are smaller, so that fuel suffices for them
    have hf := hfuel gid (List.getElem?_eq_some_iff.1 hg).1
    obtain ⟨f, rfl⟩ : ∃ f, fuel = f + 1 := ⟨fuel - 1, by omega⟩
    rw [specLimits_succ, hg]
    exact congrArg (List.foldl accLimits {}) (List.map_congr_left fun c hc => by
      have := hA.dec gid comps hg c hc
      exact specLimits_fuel hA f (f + 1) c.gid (by omega) (by omega))
  · obtain ⟨f, rfl⟩ : ∃ f, fuel = f + 1 := ⟨fuel - 1, by have := hfuel gid (List.getElem?_eq_some_iff.1 hsh).1; omega⟩
    rw [specLimits_succ, hsh]
    cases sh with
    | composite comps => cases hl
    | simple cs => exact Option.some.inj hl.symm
    | empty => exact Option.some.inj hl.symm

def Limits.le (a b : Limits) : Prop :=
  a.maxPoints ≤ b.maxPoints ∧ a.maxContours ≤ b.maxContours ∧ a.maxDepth ≤ b.maxDepth

theorem Limits.le_refl {a : Limits} : Limits.le a a := ⟨Nat.le_refl _, Nat.le_refl _, Nat.le_refl _⟩
theorem Limits.le_max_left {a b : Limits} : Limits.le a (a.max b) := by
  unfold Limits.le Limits.max; simp only; omega
theorem Limits.le_max_right {a b : Limits} : Limits.le b (a.max b) := by
  unfold Limits.le Limits.max; simp only; omega
theorem Limits.le_trans {a b c : Limits} (h1 : Limits.le a b) (h2 : Limits.le b c) : Limits.le a c := by
  unfold Limits.le at *; omega

/-- each field of `ov` is 0 or the `S`-value of some composite -/
def Attained (g : List Shape) (S : Nat → Limits) (ov : Limits) : Prop :=
  (ov.maxPoints = 0 ∨ ∃ gid, gid < g.length ∧ isComposite g gid = true ∧ (S gid).maxPoints = ov.maxPoints) ∧
  (ov.maxContours = 0 ∨ ∃ gid, gid < g.length ∧ isComposite g gid = true ∧ (S gid).maxContours = ov.maxContours) ∧
  (ov.maxDepth = 0 ∨ ∃ gid, gid < g.length ∧ isComposite g gid = true ∧ (S gid).maxDepth = ov.maxDepth)

/-- Invariant of the `while` loop of `update_composite_limits`, for a solution `S` and the running maximum `ov`. -/
structure Inv (g : List Shape) (S : Nat → Limits) (info : List GlyphInfo) (ov : Limits) : Prop where
  len : info.length = g.length
  comps : ∀ (gid : Nat) (gi : GlyphInfo), info[gid]? = some gi →
    ∃ sh, g[gid]? = some sh ∧ gi.components = (infoOfShape sh).components
  sound : ∀ (gid : Nat) (gi : GlyphInfo) (l : Limits), info[gid]? = some gi → gi.limits = some l → l = S gid
  unknownComposite : ∀ (gid : Nat) (gi : GlyphInfo), info[gid]? = some gi → gi.limits = none →
    isComposite g gid = true
  counted : ∀ (gid : Nat) (gi : GlyphInfo), info[gid]? = some gi → isComposite g gid = true →
    gi.limits.isSome = true → Limits.le (S gid) ov
  attained : Attained g S ov

/-- glyph `j` is in the table and its limits are not resolved yet -/
def Unknown (info : List GlyphInfo) (j : Nat) : Prop := ∃ gi, info[j]? = some gi ∧ gi.limits = none

theorem Inv.getElem?_of_lt {g : List Shape} {S : Nat → Limits} {info : List GlyphInfo} {ov : Limits} (hI : Inv g S info ov)
    {gid : Nat} (h : gid < g.length) : ∃ gi, info[gid]? = some gi :=
  ⟨_, List.getElem?_eq_getElem (hI.len ▸ h)⟩

theorem Inv.lt_of_getElem? {g : List Shape} {S : Nat → Limits} {info : List GlyphInfo} {ov : Limits} (hI : Inv g S info ov)
    {gid : Nat} {gi : GlyphInfo} (h : info[gid]? = some gi) : gid < g.length :=
  hI.len ▸ (List.getElem?_eq_some_iff.1 h).1

/-- The `retain` closure on a pending composite: the components are in the table since the graph is closed; when all
    are known their stored limits are those of `S` (`Inv.sound`) and the fold is `Solves.node`. -/
theorem stepGlyph_spec {g : List Shape} {rank : Nat → Nat} (hA : Acyclic g rank) {S : Nat → Limits} (hS : Solves g S)
    {info : List GlyphInfo} {ov : Limits} (hI : Inv g S info ov)
    {gid : Nat} {comps : List Component} (hg : g[gid]? = some (.composite comps)) :
    (stepGlyph info gid = some none ∧ ∃ c ∈ comps, Unknown info c.gid)
    ∨ stepGlyph info gid = some (some (S gid)) := by
  obtain ⟨gi, hgi⟩ := hI.getElem?_of_lt (List.getElem?_eq_some_iff.1 hg).1
  obtain ⟨sh, hsh, hcomp⟩ := hI.comps gid gi hgi
  rw [hg] at hsh
  cases hsh
  have hx : ∀ c ∈ comps, ∃ x, info[c.gid]? = some x := fun c hc =>
    hI.getElem?_of_lt (hA.closed gid comps hg c hc)
  have hany : (comps.map (·.gid)).any (fun c => (info[c]?).isNone) = false := by
    simp only [List.any_eq_false, List.mem_map]
    rintro c ⟨c', hc', rfl⟩
    obtain ⟨x, hxc⟩ := hx c' hc'
    simp [hxc]
  unfold stepGlyph
  simp only [hgi, hcomp, infoOfShape, hany, Bool.false_eq_true, if_false, List.map_map]
  by_cases hu : ∃ c ∈ comps, Unknown info c.gid
  · obtain ⟨c, hc, x, hxc, hn⟩ := hu
    have hall : (comps.map ((fun c => (info[c]?).bind (·.limits)) ∘ (·.gid))).all Option.isSome = false :=
      List.all_eq_false.2 ⟨none, List.mem_map.2 ⟨c, hc, by simp [hxc, hn]⟩, by simp⟩
    rw [hall]
    exact Or.inl ⟨rfl, c, hc, x, hxc, hn⟩
  · have hls : comps.map ((fun c => (info[c]?).bind (·.limits)) ∘ (·.gid)) =
        (comps.map fun c => S c.gid).map some := by
      rw [List.map_map]
      apply List.map_congr_left
      intro c hc
      obtain ⟨x, hxc⟩ := hx c hc
      cases hl : x.limits with
      | none => exact absurd ⟨c, hc, x, hxc, hl⟩ hu
      | some l => simp [hxc, hl, hI.sound c.gid x l hxc hl]
    right
    rw [hls, hS.node gid comps hg]
    simp [List.filterMap_map, Function.comp_def]

theorem setLimits_getElem? {info : List GlyphInfo} {gid : Nat} {gi : GlyphInfo} {l : Limits}
    (h : info[gid]? = some gi) {j : Nat} :
    (setLimits info gid l)[j]? = if gid = j then some { gi with limits := some l } else info[j]? := by
  unfold setLimits
  rw [h]
  simp only [List.getElem?_set]
  by_cases hj : gid = j
  · subst hj
    have : gid < info.length := (List.getElem?_eq_some_iff.1 h).1
    simp [this]
  · simp [hj]

theorem setLimits_cases {info : List GlyphInfo} {gid : Nat} {gi : GlyphInfo} {l : Limits} {j : Nat} {gj : GlyphInfo}
    (hgi : info[gid]? = some gi) (hj : (setLimits info gid l)[j]? = some gj) :
    (j = gid ∧ gj = { gi with limits := some l }) ∨ (j ≠ gid ∧ info[j]? = some gj) := by
  rw [setLimits_getElem? hgi] at hj
  by_cases e : gid = j
  · rw [if_pos e] at hj; exact Or.inl ⟨e.symm, (Option.some.inj hj).symm⟩
  · rw [if_neg e] at hj; exact Or.inr ⟨fun h => e h.symm, hj⟩

theorem unknown_setLimits {info : List GlyphInfo} {gid : Nat} {gi : GlyphInfo} {l : Limits} {j : Nat}
    (hgi : info[gid]? = some gi) (h : Unknown (setLimits info gid l) j) : j ≠ gid ∧ Unknown info j := by
  obtain ⟨gj, hj, hn⟩ := h
  rcases setLimits_cases hgi hj with ⟨_, rfl⟩ | ⟨hne, hj⟩
  · cases hn
  · exact ⟨hne, gj, hj, hn⟩

theorem setLimits_length {info : List GlyphInfo} {gid : Nat} {l : Limits} :
    (setLimits info gid l).length = info.length := by
  unfold setLimits
  cases info[gid]? <;> simp

theorem attained_max {g : List Shape} {S : Nat → Limits} (f : Limits → Nat)
    (hf : ∀ a b : Limits, f (a.max b) = max (f a) (f b)) {ov : Limits} {gid : Nat}
    (hlt : gid < g.length) (hc : isComposite g gid = true)
    (h : f ov = 0 ∨ ∃ j, j < g.length ∧ isComposite g j = true ∧ f (S j) = f ov) :
    f (ov.max (S gid)) = 0 ∨ ∃ j, j < g.length ∧ isComposite g j = true ∧ f (S j) = f (ov.max (S gid)) := by
  rw [hf]
  by_cases hm : f (S gid) ≤ f ov
  · rw [Nat.max_eq_left hm]; exact h
  · exact Or.inr ⟨gid, hlt, hc, by omega⟩

theorem Inv.resolve {g : List Shape} {S : Nat → Limits} {info : List GlyphInfo} {ov : Limits}
    (hI : Inv g S info ov) {gid : Nat} {gi : GlyphInfo} (hgi : info[gid]? = some gi)
    (hc : isComposite g gid = true) :
    Inv g S (setLimits info gid (S gid)) (ov.max (S gid)) := by
  have hlt : gid < g.length := hI.lt_of_getElem? hgi
  refine ⟨setLimits_length.trans hI.len, ?_, ?_, ?_, ?_, ?_⟩
  · intro j gj hj
    rcases setLimits_cases hgi hj with ⟨rfl, rfl⟩ | ⟨_, hj⟩
    · exact hI.comps _ gi hgi
    · exact hI.comps j gj hj
  · intro j gj l hj hl
    rcases setLimits_cases hgi hj with ⟨rfl, rfl⟩ | ⟨_, hj⟩
    · exact (Option.some.inj hl).symm
    · exact hI.sound j gj l hj hl
  · intro j gj hj hl
    rcases setLimits_cases hgi hj with ⟨rfl, rfl⟩ | ⟨_, hj⟩
    · cases hl
    · exact hI.unknownComposite j gj hj hl
  · intro j gj hj hcj hs
    rcases setLimits_cases hgi hj with ⟨rfl, rfl⟩ | ⟨_, hj⟩
    · exact Limits.le_max_right
    · exact Limits.le_trans (hI.counted j gj hj hcj hs) Limits.le_max_left
  · exact ⟨attained_max Limits.maxPoints (fun _ _ => rfl) hlt hc hI.attained.1,
           attained_max Limits.maxContours (fun _ _ => rfl) hlt hc hI.attained.2.1,
           attained_max Limits.maxDepth (fun _ _ => rfl) hlt hc hI.attained.2.2⟩

/-- One `retain` sweep under the invariant.  Of `hA` only `closed` is used, here and in `stepGlyph_spec`; that no cycle
    exists is needed for the `Stuck` assert alone (`loop_spec`). -/
theorem sweep_spec {g : List Shape} {rank : Nat → Nat} (hA : Acyclic g rank) {S : Nat → Limits} (hS : Solves g S)
    {ps : List Nat} :
    ∀ {info : List GlyphInfo} {ov : Limits}, Inv g S info ov →
    (∀ gid ∈ ps, isComposite g gid = true) →
    ∃ info' ov' kept, sweep info ov ps = some (info', ov', kept) ∧ Inv g S info' ov' ∧
      kept.Sublist ps ∧
      (∀ j, Unknown info' j → Unknown info j ∧ (j ∈ ps → j ∈ kept)) ∧
      (∀ gid ∈ kept, ∃ comps, g[gid]? = some (.composite comps) ∧ ∃ c ∈ comps, Unknown info c.gid) := by
  induction ps with
  | nil =>
    intro info ov hI _
    exact ⟨info, ov, [], rfl, hI, List.Sublist.refl _, fun j h => ⟨h, id⟩, fun _ h => absurd h List.not_mem_nil⟩
  | cons gid rest ih =>
    intro info ov hI hps
    have hcg : isComposite g gid = true := hps gid List.mem_cons_self
    obtain ⟨comps, hg⟩ := (isComposite_iff g gid).1 hcg
    have hrest : ∀ x ∈ rest, isComposite g x = true := fun x hx => hps x (List.mem_cons_of_mem _ hx)
    obtain ⟨gi0, hgi0⟩ := hI.getElem?_of_lt (List.getElem?_eq_some_iff.1 hg).1
    rcases stepGlyph_spec hA hS hI hg with ⟨hstep, hcu⟩ | hstep
    · -- stays pending
      obtain ⟨info', ov', kept, hs, hI', hsub, hunk, hkept⟩ := ih hI hrest
      refine ⟨info', ov', gid :: kept, by simp only [sweep, hstep, hs], hI', hsub.cons_cons gid, ?_,
        List.forall_mem_cons.2 ⟨⟨comps, hg, hcu⟩, hkept⟩⟩
      intro j hj
      refine ⟨(hunk j hj).1, fun hm => ?_⟩
      rcases List.mem_cons.1 hm with rfl | hm
      · exact List.mem_cons_self
      · exact List.mem_cons_of_mem _ ((hunk j hj).2 hm)
    · -- resolved
      obtain ⟨info', ov', kept, hs, hI', hsub, hunk, hkept⟩ := ih (hI.resolve hgi0 hcg) hrest
      refine ⟨info', ov', kept, by simp only [sweep, hstep, hs], hI', hsub.cons gid, ?_, ?_⟩
      · intro j hj
        obtain ⟨hne, h0⟩ := unknown_setLimits hgi0 (hunk j hj).1
        exact ⟨h0, fun hm => (hunk j hj).2 ((List.mem_cons.1 hm).resolve_left hne)⟩
      · intro x hx
        obtain ⟨cs, hgx, c, hc, hcu⟩ := hkept x hx
        exact ⟨cs, hgx, c, hc, (unknown_setLimits hgi0 hcu).2⟩

/-- `l` is the field-wise maximum of `S` over the composites, 0 in a field where there is none -/
def Final (g : List Shape) (S : Nat → Limits) (l : Limits) : Prop :=
  (∀ gid, gid < g.length → isComposite g gid = true → Limits.le (S gid) l) ∧ Attained g S l

theorem Final.isMaxNat {g : List Shape} {S : Nat → Limits} {l : Limits} (h : Final g S l) (f : Limits → Nat)
    (hmono : ∀ a, Limits.le a l → f a ≤ f l)
    (hatt : f l = 0 ∨ ∃ gid, gid < g.length ∧ isComposite g gid = true ∧ f (S gid) = f l) :
    IsMaxNat (f l) (((List.range g.length).filter (isComposite g)).map fun gid => f (S gid)) := by
  refine ⟨fun x hx => ?_, ?_⟩
  · obtain ⟨gid, hm, rfl⟩ := List.mem_map.1 hx
    obtain ⟨hlt, hc⟩ := List.mem_filter.1 hm
    exact hmono _ (h.1 gid (List.mem_range.1 hlt) hc)
  · rcases hatt with h0 | ⟨gid, hlt, hc, e⟩
    · exact Or.inr h0
    · exact Or.inl (List.mem_map.2 ⟨gid, List.mem_filter.2 ⟨List.mem_range.2 hlt, hc⟩, e⟩)

theorem loop_spec {g : List Shape} {rank : Nat → Nat} (hA : Acyclic g rank) {S : Nat → Limits} (hS : Solves g S)
    {info : List GlyphInfo} {ov : Limits} {pending : List Nat} (hI : Inv g S info ov)
    (hvalid : ∀ gid ∈ pending, isComposite g gid = true) (hunk : ∀ j, Unknown info j → j ∈ pending) :
    ∃ l, compositeLoop info ov pending = some l ∧ Final g S l := by
  fun_induction compositeLoop info ov pending with
  | case1 info ov =>
    refine ⟨ov, rfl, fun gid hlt hc => ?_, hI.attained⟩
    obtain ⟨gi, hgi⟩ := hI.getElem?_of_lt hlt
    cases hl : gi.limits with
    | none => exact absurd (hunk gid ⟨gi, hgi, hl⟩) List.not_mem_nil
    | some l => exact hI.counted gid gi hgi hc (by simp [hl])
  | case2 info ov pending hne hs =>
    obtain ⟨_, _, _, hs', _⟩ := sweep_spec hA hS hI hvalid
    rw [hs] at hs'; cases hs'
  | case3 info ov pending hne info' ov' kept hs hlt ih =>
    obtain ⟨_, _, _, hs', hI', hsub, hunk', _⟩ := sweep_spec hA hS hI hvalid
    rw [hs] at hs'; cases hs'
    exact ih hI' (fun gid h => hvalid gid (hsub.subset h)) (fun j hj => (hunk' j hj).2 (hunk j (hunk' j hj).1))
  | case4 info ov pending hne info' ov' kept hs hnlt =>
    -- the `Stuck` assert does not fire: the sweep resolves a pending glyph `x` of least rank, since each of its components
    -- has smaller rank, so is not pending, hence not unknown
    obtain ⟨_, _, _, hs', _, hsub, _, hkept⟩ := sweep_spec hA hS hI hvalid
    rw [hs] at hs'; cases hs'
    obtain ⟨x, hx, hmin⟩ := exists_min_of_ne_nil rank hne
    -- the sweep resolved nothing, so it kept `x` too
    obtain rfl := hsub.eq_of_length_le (Nat.le_of_not_lt hnlt)
    obtain ⟨comps, hgx, c, hc, hcu⟩ := hkept x hx
    have h1 := hmin c.gid (hunk c.gid hcu)
    have h2 := hA.dec x comps hgx c hc
    omega

theorem mem_compositeGids (g : List Shape) (gid : Nat) :
    gid ∈ compositeGids (g.map infoOfShape) ↔ gid < g.length ∧ isComposite g gid = true := by
  unfold compositeGids isComposite
  simp only [List.mem_filter, List.mem_range, List.length_map, List.getElem?_map]
  refine and_congr_right fun hlt => ?_
  rw [List.getElem?_eq_getElem hlt]
  cases g[gid] <;> simp [infoOfShape]

theorem infoOfShape_limits_eq_none {g : List Shape} {gid : Nat} {sh : Shape} (hsh : g[gid]? = some sh) :
    (infoOfShape sh).limits = none ↔ isComposite g gid = true := by
  cases sh <;> simp [infoOfShape, isComposite, hsh]

theorem Inv.init {g : List Shape} {S : Nat → Limits} (hS : Solves g S) :
    Inv g S (g.map infoOfShape) {} := by
  have hget : ∀ (gid : Nat) (gi : GlyphInfo), (g.map infoOfShape)[gid]? = some gi →
      ∃ sh, g[gid]? = some sh ∧ gi = infoOfShape sh := by
    intro gid gi h
    rw [List.getElem?_map, Option.map_eq_some_iff] at h
    obtain ⟨sh, hsh, rfl⟩ := h
    exact ⟨sh, hsh, rfl⟩
  refine ⟨List.length_map _, ?_, ?_, ?_, ?_, ⟨Or.inl rfl, Or.inl rfl, Or.inl rfl⟩⟩
  · intro gid gi h
    obtain ⟨sh, hsh, rfl⟩ := hget gid gi h
    exact ⟨sh, hsh, rfl⟩
  · intro gid gi l h hl
    obtain ⟨sh, hsh, rfl⟩ := hget gid gi h
    exact hS.leaf gid sh l hsh hl
  · intro gid gi h hl
    obtain ⟨sh, hsh, rfl⟩ := hget gid gi h
    exact (infoOfShape_limits_eq_none hsh).1 hl
  · intro gid gi h hc hs
    obtain ⟨sh, hsh, rfl⟩ := hget gid gi h
    rw [(infoOfShape_limits_eq_none hsh).2 hc] at hs
    cases hs

/-- `update_composite_limits` started on the table of the `update` fold, for any order of the pending composites -/
theorem compositeLoop_spec {g : List Shape} {rank : Nat → Nat} (hA : Acyclic g rank) {S : Nat → Limits}
    (hS : Solves g S) (pending : List Nat)
    (hpending : ∀ gid, gid ∈ pending ↔ (gid < g.length ∧ isComposite g gid = true)) :
    ∃ l, compositeLoop (g.map infoOfShape) {} pending = some l ∧ Final g S l := by
  have hI := Inv.init hS
  refine loop_spec hA hS hI (fun gid h => ((hpending gid).1 h).2) ?_
  rintro j ⟨gi, hj, hn⟩
  exact (hpending j).2 ⟨hI.lt_of_getElem? hj, hI.unknownComposite j gi hj hn⟩

theorem Final.isMaxNat_spec {g : List Shape} {fuel : Nat} {l : Limits} (h : Final g (specLimits g fuel) l) :
    IsMaxNat l.maxPoints (((List.range g.length).filter (isComposite g)).map (specPoints g fuel)) ∧
    IsMaxNat l.maxContours (((List.range g.length).filter (isComposite g)).map (specContours g fuel)) ∧
    IsMaxNat l.maxDepth (((List.range g.length).filter (isComposite g)).map (specDepth g fuel)) :=
  ⟨h.isMaxNat Limits.maxPoints (fun _ h => h.1) h.2.1, h.isMaxNat Limits.maxContours (fun _ h => h.2.1) h.2.2.1,
   h.isMaxNat Limits.maxDepth (fun _ h => h.2.2) h.2.2.2⟩

/-! ### the range-checked closure (code as of 944e88e) agrees with the unbounded one when nothing overflows -/

/-- every field fits u16 -/
def Limits.fits (l : Limits) : Prop := l.maxPoints ≤ 65535 ∧ l.maxContours ≤ 65535 ∧ l.maxDepth ≤ 65535

theorem Limits.fits_of_le {a b : Limits} (hab : Limits.le a b) (hb : b.fits) : a.fits := by
  unfold Limits.le at hab; unfold Limits.fits at *; omega

theorem foldl_accLimits_ge {xs : List Limits} {acc : Limits} :
    Limits.le acc (xs.foldl accLimits acc) := by
  rw [foldl_accLimits]; unfold Limits.le; simp only; omega

theorem accLimitsC_eq {acc x : Limits} {flag : Bool} (h : (accLimits acc x).fits) :
    accLimitsC (acc, flag) x = (accLimits acc x, flag) := by
  obtain ⟨h1, h2, h3⟩ := h
  simp only [accLimits] at h1 h2 h3
  have h3' : x.maxDepth + 1 ≤ 65535 := by omega
  simp [accLimitsC, accLimits, Nat.min_eq_left h1, Nat.min_eq_left h2, Nat.min_eq_left h3', Nat.not_lt.2 h1,
    Nat.not_lt.2 h2]

/-- the running totals only grow, so if the last one fits no `checked_add` along the way fails -/
theorem foldl_accLimitsC_eq {xs : List Limits} {acc : Limits} {flag : Bool}
    (h : Limits.fits (xs.foldl accLimits acc)) :
    xs.foldl accLimitsC (acc, flag) = (xs.foldl accLimits acc, flag) := by
  induction xs generalizing acc with
  | nil => rfl
  | cons x xs ih =>
    rw [List.foldl_cons, accLimitsC_eq (Limits.fits_of_le foldl_accLimits_ge h)]
    exact ih h

theorem stepGlyphC_sim (info : List GlyphInfo) (flag : Bool) (gid : Nat) :
    (stepGlyph info gid = some none → stepGlyphC info flag gid = some none) ∧
    (∀ l, stepGlyph info gid = some (some l) → Limits.fits l → stepGlyphC info flag gid = some (some (l, flag))) := by
  unfold stepGlyph stepGlyphC
  cases info[gid]? with
  | none => simp
  | some gi =>
    simp only
    cases gi.components with
    | none => simp
    | some comps =>
      simp only
      by_cases hany : comps.any (fun c => (info[c]?).isNone) = true
      · simp [hany]
      · simp only [hany, Bool.false_eq_true, if_false]
        by_cases hall : (comps.map fun c => (info[c]?).bind (·.limits)).all Option.isSome = true
        · simp only [hall, if_true]
          refine ⟨by simp, fun l hl hfit => ?_⟩
          cases hl
          rw [foldl_accLimitsC_eq hfit]
        · simp [hall]

theorem compositeLoopC_step {info : List GlyphInfo} {ov : Limits} {flag : Bool} {pending : List Nat}
    (hne : pending ≠ []) {info' : List GlyphInfo} {ov' : Limits} {f' : Bool} {kept : List Nat}
    (hs : sweepC info ov flag pending = some (info', ov', f', kept)) :
    compositeLoopC info ov flag pending =
      if kept.length < pending.length then compositeLoopC info' ov' f' kept else none := by
  rw [compositeLoopC, dif_neg hne]
  split
  · rename_i heq
    rw [hs] at heq
    cases heq
  · rename_i heq
    rw [hs] at heq
    cases heq
    rfl

/-- The running maximum only grows, so if the one the unbounded sweep ends with fits u16, every total resolved on the
    way fits. -/
theorem sweepC_of_fits {info : List GlyphInfo} {ov : Limits} {ps : List Nat} {info' : List GlyphInfo}
    {ov' : Limits} {kept : List Nat} (h : sweep info ov ps = some (info', ov', kept)) (hfit : ov'.fits) :
    Limits.le ov ov' ∧ ∀ flag, sweepC info ov flag ps = some (info', ov', flag, kept) := by
  fun_induction sweep info ov ps generalizing info' ov' kept with
  | case1 info ov => cases h; exact ⟨Limits.le_refl, fun _ => rfl⟩
  | case2 info ov gid rest hstep => cases h
  | case3 info ov gid rest hstep hs ih => cases h
  | case4 info ov gid rest hstep i o k hs ih =>
    cases h
    exact ⟨(ih hs hfit).1, fun flag => by
      simp only [sweepC, (stepGlyphC_sim info flag gid).1 hstep, (ih hs hfit).2 flag]⟩
  | case5 info ov gid rest l hstep ih =>
    obtain ⟨hle, hC⟩ := ih h hfit
    have hl : l.fits := Limits.fits_of_le (Limits.le_trans Limits.le_max_right hle) hfit
    exact ⟨Limits.le_trans Limits.le_max_left hle,
      fun flag => by simp only [sweepC, (stepGlyphC_sim info flag gid).2 l hstep hl, hC flag]⟩

theorem compositeLoopC_of_fits {info : List GlyphInfo} {ov : Limits} {pending : List Nat} {l : Limits}
    (h : compositeLoop info ov pending = some l) (hfit : l.fits) :
    Limits.le ov l ∧ ∀ flag, compositeLoopC info ov flag pending = some (l, flag) := by
  fun_induction compositeLoop info ov pending with
  | case1 info ov => cases h; exact ⟨Limits.le_refl, fun flag => by rw [compositeLoopC, dif_pos rfl]⟩
  | case2 => cases h
  | case3 info ov pending hne info' ov' kept hs hlt ih =>
    obtain ⟨hle, hC⟩ := ih h
    obtain ⟨hle', hsC⟩ := sweepC_of_fits hs (Limits.fits_of_le hle hfit)
    exact ⟨Limits.le_trans hle' hle, fun flag => by rw [compositeLoopC_step hne (hsC flag), if_pos hlt]; exact hC flag⟩
  | case4 => cases h

end Fontc.Limits
