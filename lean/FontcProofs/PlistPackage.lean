/-
  C20 — a `.glyphspackage` reassembles to the single-file value (value level).  The map `load_package`
  collects is a fold of `insertKV` over the files keyed by glyph name (`collectGlyphs_eq`); with distinct
  names it is, as a map, the source's glyphs keyed by name, in whatever order the files come
  (`collectGlyphs_spec`), and that is what the loop over `order.plist` maintains (`takeOrdered_all`).
-/
import FontcModel.Plist
import FontcProofs.PlistCanon
namespace Fontc.Plist

theorem lookup_eraseKV (k : Key) (m : List (Key × PVal)) (j : Key) :
    lookupKV j (eraseKV k m) = if j == k then none else lookupKV j m := by
  fun_induction eraseKV k m
  case case1 => simp [lookupKV]
  case case2 h ih =>
    cases eq_of_beq h
    simp only [lookupKV, ih]
    split <;> rfl
  case case3 k' _ _ h ih =>
    simp only [lookupKV, ih]
    cases hj : j == k
    · rfl
    · cases eq_of_beq hj
      rw [if_neg h]
      rfl

theorem eraseKV_sublist (k : Key) (m : List (Key × PVal)) : (eraseKV k m).Sublist m := by
  fun_induction eraseKV k m
  case case1 => exact .slnil
  case case2 ih => exact ih.cons _
  case case3 ih => exact ih.cons_cons _

theorem sorted_eraseKV (k : Key) {m : List (Key × PVal)} (hm : sortedKeys m = true) :
    sortedKeys (eraseKV k m) = true :=
  sorted_iff.2 ((sorted_iff.1 hm).sublist (eraseKV_sublist k m))

theorem insertKV_eraseKV {k : Key} {v : PVal} {m : List (Key × PVal)} (hm : sortedKeys m = true)
    (hk : lookupKV k m = some v) : insertKV k v (eraseKV k m) = m := by
  apply sorted_ext (sorted_insertKV _ _ (sorted_eraseKV k hm)) hm
  intro j
  rw [lookup_insertKV, lookup_eraseKV]
  by_cases hj : (j == k) = true
  · simp at hj
    subst hj
    simp [hk]
  · simp [hj]

theorem namesOf_cons {g : PVal} {gs : List PVal} {names : List Key} (h : namesOf (g :: gs) = some names) :
    ∃ n ns, glyphName? g = some n ∧ namesOf gs = some ns ∧ names = n :: ns := by
  simp only [namesOf] at h
  split at h
  · next n ns h1 h2 => simp at h; exact ⟨n, ns, h1, h2, h.symm⟩
  · cases h

theorem namesOf_mem {gs : List PVal} {names : List Key} (h : namesOf gs = some names) :
    ∀ g ∈ gs, ∃ n, glyphName? g = some n ∧ n ∈ names := by
  induction gs generalizing names with
  | nil => intro g hg; simp at hg
  | cons g0 gs ih =>
    obtain ⟨n, ns, h1, h2, rfl⟩ := namesOf_cons h
    intro g hg
    simp at hg
    rcases hg with rfl | hg
    · exact ⟨n, h1, by simp⟩
    · obtain ⟨n', e, hm⟩ := ih h2 g hg
      exact ⟨n', e, by simp [hm]⟩

/-- the glyph files keyed by their names -/
def glyphEntries (gs : List PVal) : List (Key × PVal) := gs.filterMap fun g => (glyphName? g).map (·, g)

theorem glyphEntries_cons {g : PVal} {n : Key} (h : glyphName? g = some n) (gs : List PVal) :
    glyphEntries (g :: gs) = (n, g) :: glyphEntries gs := by
  simp [glyphEntries, h]

theorem keys_glyphEntries {gs : List PVal} {names : List Key} (h : namesOf gs = some names) :
    (glyphEntries gs).map (·.1) = names := by
  induction gs generalizing names with
  | nil => simp [namesOf] at h; subst h; rfl
  | cons g gs ih =>
    obtain ⟨n, ns, h1, h2, rfl⟩ := namesOf_cons h
    rw [glyphEntries_cons h1, List.map_cons, ih h2]

theorem collectGlyphs_eq (files : List PVal) (hname : ∀ g ∈ files, (glyphName? g).isSome) (m : List (Key × PVal)) :
    collectGlyphs files m = some ((glyphEntries files).foldl (fun m p => insertKV p.1 p.2 m) m) := by
  induction files generalizing m with
  | nil => rfl
  | cons g files ih =>
    obtain ⟨n, hn⟩ := Option.isSome_iff_exists.1 (hname g (by simp))
    simp only [collectGlyphs, hn, glyphEntries_cons hn, List.foldl_cons]
    exact ih (fun x hx => hname x (by simp [hx])) _

theorem collectGlyphs_spec {gs files : List PVal} {names : List Key} (hnames : namesOf gs = some names)
    (hnd : names.Nodup) (hfiles : files.Perm gs) :
    ∃ m, collectGlyphs files [] = some m ∧ ∀ n, lookupKV n m = (glyphEntries gs).lookup n := by
  refine ⟨_, collectGlyphs_eq files (fun g hg => ?_) [], fun n => ?_⟩
  · obtain ⟨n, e, _⟩ := namesOf_mem hnames g (hfiles.mem_iff.1 hg)
    simp [e]
  · rw [lookupKV_eq, isInsert_insertKV.lookup_foldl]
    exact Option.or_none.trans (lookup_congr (functional_of_nodup (keys_glyphEntries hnames ▸ hnd))
      (fun _ => List.mem_reverse.trans (hfiles.filterMap _).mem_iff) n)

/-- The hypothesis on `m` (as a map it is the glyphs still to be taken, keyed by name) is the invariant of the loop. -/
theorem takeOrdered_all {gs : List PVal} {names : List Key} (hn : namesOf gs = some names) (hnd : names.Nodup) :
    ∀ m, (∀ n, lookupKV n m = (glyphEntries gs).lookup n) → takeOrdered (names.map .str) m = some (gs, []) := by
  induction gs generalizing names with
  | nil =>
    intro m hm
    simp [namesOf] at hn; subst hn
    cases m with
    | nil => rfl
    | cons kv m => exact absurd (hm kv.1) (by simp [lookupKV, glyphEntries])
  | cons g gs ih =>
    obtain ⟨n, ns, h1, h2, rfl⟩ := namesOf_cons hn
    obtain ⟨hn', hnd'⟩ := List.nodup_cons.1 hnd
    intro m hm
    simp only [glyphEntries_cons h1, lookup_cons_ite] at hm
    simp only [List.map_cons, takeOrdered, hm n, beq_self_eq_true, if_true]
    rw [ih h2 hnd' (eraseKV n m)]
    intro n'
    rw [lookup_eraseKV, hm n']
    split
    · next e => rw [eq_of_beq e, lookup_eq_none_of_not_mem (keys_glyphEntries h2 ▸ hn')]
    · rfl

/-- **a package reassembles to the single file** (value level): cut the `glyphs` array out of the top-level
    dictionary, put every glyph into its own file, list the names in `order.plist`; whatever order the
    directory listing returns the files in, `load_package` rebuilds the same value -/
theorem package_reassembly (kvs : List (Key × PVal)) (gs : List PVal) (names : List Key) (files : List PVal)
    (hsorted : sortedKeys kvs = true) (hglyphs : lookupKV kGlyphs kvs = some (.arr gs))
    (hnames : namesOf gs = some names) (hnd : names.Nodup) (hfiles : files.Perm gs) :
    split (.dict kvs) = some ⟨.dict (eraseKV kGlyphs kvs), some (.arr (names.map .str)), gs⟩ ∧
    reassemble ⟨.dict (eraseKV kGlyphs kvs), some (.arr (names.map .str)), files⟩ = some (.dict kvs) := by
  refine ⟨by simp [split, hglyphs, hnames], ?_⟩
  obtain ⟨m, hc, hm⟩ := collectGlyphs_spec hnames hnd hfiles
  simp only [reassemble, hc, takeOrdered_all hnames hnd m hm, List.map_nil, List.append_nil]
  rw [insertKV_eraseKV hsorted hglyphs]

end Fontc.Plist
