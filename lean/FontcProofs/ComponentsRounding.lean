/-
  For C12: what storing rounded component offsets does to the resolved outline.  One point lemma (`closePt.affine`),
  lifted to contours and lists of contours, gives the bound over the whole component graph for general 2×2 parts
  (`offsets_close`; translate-only components are the case of norm 1) and, iterated, the bound along a chain of
  components (`chain_close`).  Entries of the 2×2 part on the F2Dot14 grid are stored exactly (`f2dot14_grid`).
-/
import FontcProofs.Components
import FontcProofs.Rounding

namespace Fontc.Components
open Fontc

theorem norm2x2_ge (t : Affine) : ratAbs t.a + ratAbs t.c ≤ t.norm2x2 ∧ ratAbs t.b + ratAbs t.d ≤ t.norm2x2 := by
  unfold Affine.norm2x2
  simp only
  split
  · next h => exact ⟨Rat.le_of_lt h, Rat.le_refl⟩
  · next h => exact ⟨Rat.le_refl, Rat.not_lt.1 h⟩

theorem norm2x2_nonneg (t : Affine) : 0 ≤ t.norm2x2 :=
  Rat.le_trans (Rat.add_nonneg (ratAbs_nonneg t.a) (ratAbs_nonneg t.c)) (norm2x2_ge t).1

theorem norm2x2_translation {t : Affine} (ht : t.a = 1 ∧ t.b = 0 ∧ t.c = 0 ∧ t.d = 1) : t.norm2x2 = 1 := by
  obtain ⟨a, b, c, d⟩ := ht
  simp only [Affine.norm2x2, a, b, c, d]
  decide +kernel

theorem row_perturb {a c dx dy de ε B N : Rat} (hB : 0 ≤ B) (hN : ratAbs a + ratAbs c ≤ N)
    (hx : ratAbs dx ≤ B) (hy : ratAbs dy ≤ B) (he : ratAbs de ≤ ε) :
    ratAbs (a * dx + c * dy + de) ≤ ε + N * B := by
  have m1 := ratAbs_mul_le a hx
  have m2 := ratAbs_mul_le c hy
  have a1 := ratAbs_add_le (a * dx + c * dy) de
  have a2 := ratAbs_add_le (a * dx) (c * dy)
  have m3 := Rat.mul_le_mul_of_nonneg_right hN hB
  grind

/-- `t'` is `t` with each offset moved by at most `ε` (max norm); the 2×2 parts are the same. -/
def OffsetClose (ε : Rat) (t t' : Affine) : Prop :=
  t'.a = t.a ∧ t'.b = t.b ∧ t'.c = t.c ∧ t'.d = t.d ∧ ratAbs (t'.e - t.e) ≤ ε ∧ ratAbs (t'.f - t.f) ≤ ε

theorem closePt.refl {ε : Rat} (hε : 0 ≤ ε) (p : Pt) : closePt ε p p :=
  ⟨by simp [ratAbs_zero, hε, Rat.sub_self], by simp [ratAbs_zero, hε, Rat.sub_self], rfl⟩

/-- One step through a component: an error `δ` below it is amplified by the norm of its 2×2 part, and the error `η` of
    its offset is added. -/
theorem closePt.affine {δ η : Rat} {t t' : Affine} (h : OffsetClose η t t') {p q : Pt} (hpq : closePt δ p q) :
    closePt (η + t.norm2x2 * δ) (t'.apply p) (t.apply q) := by
  obtain ⟨ha, hb, hc, hd, he, hf⟩ := h
  obtain ⟨hx, hy, hon⟩ := hpq
  obtain ⟨n1, n2⟩ := norm2x2_ge t
  have hδ := Rat.le_trans (ratAbs_nonneg _) hx
  have ex : (t'.apply p).x - (t.apply q).x = t.a * (p.x - q.x) + t.c * (p.y - q.y) + (t'.e - t.e) := by
    simp only [Affine.apply, ha, hc]; grind
  have ey : (t'.apply p).y - (t.apply q).y = t.b * (p.x - q.x) + t.d * (p.y - q.y) + (t'.f - t.f) := by
    simp only [Affine.apply, hb, hd]; grind
  refine ⟨?_, ?_, hon⟩
  · rw [ex]; exact row_perturb hδ n1 hx hy he
  · rw [ey]; exact row_perturb hδ n2 hx hy hf

theorem CloseC.refl {ε : Rat} (hε : 0 ≤ ε) : ∀ c : Contour, CloseC ε c c
  | [] => .nil
  | p :: ps => .cons (closePt.refl hε p) (CloseC.refl hε ps)

theorem CloseCs.refl {ε : Rat} (hε : 0 ≤ ε) : ∀ cs : List Contour, CloseCs ε cs cs
  | [] => .nil
  | c :: cs => .cons (CloseC.refl hε c) (CloseCs.refl hε cs)

theorem CloseCs.append {ε : Rat} {xs ys xs' ys' : List Contour} (h1 : CloseCs ε xs ys) (h2 : CloseCs ε xs' ys') :
    CloseCs ε (xs ++ xs') (ys ++ ys') := by
  induction h1 with
  | nil => simpa using h2
  | cons h _ ih => exact .cons h ih

theorem CloseCs.flatMap {ε : Rat} {α} (l : List α) (f g : α → List Contour) (h : ∀ a ∈ l, CloseCs ε (f a) (g a)) :
    CloseCs ε (l.flatMap f) (l.flatMap g) :=
  flatMap_rel .nil CloseCs.append h

theorem CloseC.mono {δ δ' : Rat} (hle : δ ≤ δ') {c c' : Contour} (h : CloseC δ c c') : CloseC δ' c c' := by
  induction h with
  | nil => exact .nil
  | cons hpq _ ih => exact .cons ⟨Rat.le_trans hpq.1 hle, Rat.le_trans hpq.2.1 hle, hpq.2.2⟩ ih

theorem CloseCs.mono {δ δ' : Rat} (hle : δ ≤ δ') {cs cs' : List Contour} (h : CloseCs δ cs cs') : CloseCs δ' cs cs' := by
  induction h with
  | nil => exact .nil
  | cons h _ ih => exact .cons (h.mono hle) ih

theorem CloseC.affine {δ η : Rat} {t t' : Affine} (h : OffsetClose η t t') {c c' : Contour} (hc : CloseC δ c' c) :
    CloseC (η + t.norm2x2 * δ) (applyC t' c') (applyC t c) := by
  induction hc with
  | nil => exact .nil
  | cons hpq _ ih => exact .cons (hpq.affine h) ih

theorem CloseCs.affine {δ η : Rat} {t t' : Affine} (h : OffsetClose η t t') {cs cs' : List Contour}
    (hc : CloseCs δ cs' cs) : CloseCs (η + t.norm2x2 * δ) (cs'.map (applyC t')) (cs.map (applyC t)) := by
  induction hc with
  | nil => exact .nil
  | cons h' _ ih => exact .cons (h'.affine h) ih

/-- `B` is an error potential: at every glyph it bounds, for each component, `η` plus the potential of the base amplified
    by the component's 2×2 part. -/
theorem offsets_close (η : Rat) (g : Affine → Affine) (G G' : Env) (rk : String → Nat) (hfit : Fits G rk)
    (hG' : ∀ n, G' n = (G n).map fun i => { i with comps := i.comps.map fun c => ⟨c.base, g c.t⟩ })
    (hg : ∀ n i, G n = some i → ∀ c ∈ i.comps, OffsetClose η c.t (g c.t))
    (B : String → Rat) (hB0 : ∀ n, 0 ≤ B n)
    (hB : ∀ n i, G n = some i → ∀ c ∈ i.comps, η + c.t.norm2x2 * B c.base ≤ B n)
    (f : Nat) (n : String) (hn : rk n < f) :
    CloseCs (B n) (resolve G' f n) (resolve G f n) := by
  unfold resolve
  fun_induction resolveWith applyC G f n with
  | case1 => omega
  | case2 f n hG => simp only [resolveWith, hG' n, hG]; exact .nil
  | case3 f n i hG ih =>
    simp only [resolveWith, hG' n, hG, Option.map_some, List.flatMap_map]
    refine CloseCs.append (CloseCs.refl (hB0 n) _) (CloseCs.flatMap _ _ _ fun c hc => ?_)
    have hlt := hfit n i hG c hc
    exact ((ih c (by omega)).affine (hg n i hG c hc)).mono (hB n i hG c hc)

theorem OffsetClose.of_translations {η : Rat} {t t' : Affine}
    (ht : t.a = 1 ∧ t.b = 0 ∧ t.c = 0 ∧ t.d = 1) (ht' : t'.a = 1 ∧ t'.b = 0 ∧ t'.c = 0 ∧ t'.d = 1)
    (he : ratAbs (t'.e - t.e) ≤ η) (hf : ratAbs (t'.f - t.f) ≤ η) : OffsetClose η t t' :=
  ⟨ht'.1.trans ht.1.symm, ht'.2.1.trans ht.2.1.symm, ht'.2.2.1.trans ht.2.2.1.symm, ht'.2.2.2.trans ht.2.2.2.symm, he, hf⟩

/-- A translation amplifies nothing: the step of norm 1. -/
theorem CloseC.translate {δ η : Rat} (t t' : Affine)
    (ht : t.a = 1 ∧ t.b = 0 ∧ t.c = 0 ∧ t.d = 1) (ht' : t'.a = 1 ∧ t'.b = 0 ∧ t'.c = 0 ∧ t'.d = 1)
    (he : ratAbs (t'.e - t.e) ≤ η) (hf : ratAbs (t'.f - t.f) ≤ η) {c c' : Contour} (h : CloseC δ c' c) :
    CloseC (δ + η) (applyC t' c') (applyC t c) := by
  have := h.affine (.of_translations ht ht' he hf)
  rwa [norm2x2_translation ht, Rat.one_mul, Rat.add_comm] at this

theorem CloseCs.translate {δ η : Rat} (t t' : Affine)
    (ht : t.a = 1 ∧ t.b = 0 ∧ t.c = 0 ∧ t.d = 1) (ht' : t'.a = 1 ∧ t'.b = 0 ∧ t'.c = 0 ∧ t'.d = 1)
    (he : ratAbs (t'.e - t.e) ≤ η) (hf : ratAbs (t'.f - t.f) ≤ η) {cs cs' : List Contour} (h : CloseCs δ cs' cs) :
    CloseCs (δ + η) (cs'.map (applyC t')) (cs.map (applyC t)) := by
  have := h.affine (.of_translations ht ht' he hf)
  rwa [norm2x2_translation ht, Rat.one_mul, Rat.add_comm] at this

/-- `OffsetClose ε t t'` written out at each level. -/
def ChainClose (ε : Rat) : List Affine → List Affine → Prop
  | [], [] => True
  | t :: ts, t' :: ts' =>
    t'.a = t.a ∧ t'.b = t.b ∧ t'.c = t.c ∧ t'.d = t.d ∧ ratAbs (t'.e - t.e) ≤ ε ∧ ratAbs (t'.f - t.f) ≤ ε ∧
      ChainClose ε ts ts'
  | _, _ => False

theorem chainBound_nonneg : ∀ ts : List Affine, 0 ≤ chainBound ts
  | [] => Rat.le_refl
  | t :: ts =>
    Rat.add_nonneg (by decide) (Rat.mul_nonneg (norm2x2_nonneg t) (chainBound_nonneg ts))

/-- Along a chain the one-step bound is iterated: `chainBound` solves `B (t :: ts) = 1 + ‖t‖ · B ts`. -/
theorem chain_close {ε : Rat} (p : Pt) : ∀ ts ts' : List Affine, ChainClose ε ts ts' →
    closePt (ε * chainBound ts) (applyChain ts' p) (applyChain ts p)
  | [], [], _ => closePt.refl (by simp [chainBound, Rat.mul_zero]) p
  | t :: ts, t' :: ts', ⟨ha, hb, hc, hd, he, hf, hrest⟩ => by
    have := (chain_close p ts ts' hrest).affine (t := t) (t' := t') ⟨ha, hb, hc, hd, he, hf⟩
    rwa [show ε + t.norm2x2 * (ε * chainBound ts) = ε * chainBound (t :: ts) by simp only [chainBound]; grind] at this
  | [], _ :: _, h | _ :: _, [], h => h.elim

theorem f2dot14_grid (k : Int) (h : -32768 ≤ k ∧ k ≤ 32767) : f2dot14 ((k : Rat) / 16384) = (k : Rat) / 16384 := by
  rw [f2dot14, f2dot14Bits_eq, toFixed_exact (by decide) h.1 h.2]

end Fontc.Components
