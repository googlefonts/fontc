/-
  Lemmas about the `AdvanceDeltas` model (FontcModel/Metric.lean): the model cache is transparent.
-/
import FontcModel.Metric
import FontcProofs.VarModelSort
import FontcProofs.VarModelTri
import FontcProofs.ListFacts

namespace Fontc.Metric
open Fontc Fontc.VarModel

theorem model_eq_of_keyOf_eq {n : Nat} {a b : List Loc} (h : keyOf n a = keyOf n b) :
    Model.new n a = Model.new n b := by
  unfold keyOf Model.new at *
  simp only at h ⊢
  rw [h]

theorem init_inv (n : Nat) (g gl : List Loc) : (State.init n g gl).Inv := by
  intro k M hmem locs hk
  simp only [State.init, List.mem_singleton, Prod.mk.injEq] at hmem
  obtain ⟨rfl, rfl⟩ := hmem
  exact model_eq_of_keyOf_eq hk.symm

theorem lookupOrInsert_model {n : Nat} {models : List (List Loc × Model)}
    (hinv : ∀ k M, (k, M) ∈ models → ∀ locs, keyOf n locs = k → M = Model.new n locs) (locs : List Loc) :
    (lookupOrInsert n models locs).2 = Model.new n locs := by
  unfold lookupOrInsert
  simp only
  split
  · rename_i M hM
    exact hinv _ M (mem_of_lookup_eq_some hM) locs rfl
  · rfl

theorem lookupOrInsert_inv {n : Nat} {models : List (List Loc × Model)}
    (hinv : ∀ k M, (k, M) ∈ models → ∀ locs, keyOf n locs = k → M = Model.new n locs) (locs : List Loc) :
    ∀ k M, (k, M) ∈ (lookupOrInsert n models locs).1 → ∀ l, keyOf n l = k → M = Model.new n l := by
  unfold lookupOrInsert
  simp only
  split
  · exact hinv
  · intro k M hmem l hk
    simp only [List.mem_append, List.mem_singleton, Prod.mk.injEq] at hmem
    rcases hmem with h | ⟨rfl, rfl⟩
    · exact hinv k M h l hk
    · exact model_eq_of_keyOf_eq hk.symm

theorem add_n (s : State) (g : GlyphSrc) : (s.add g).n = s.n := by
  unfold State.add; split <;> rfl

theorem add_glyphLocs (s : State) (g : GlyphSrc) : (s.add g).glyphLocs = s.glyphLocs := by
  unfold State.add; split <;> rfl

theorem add_inv {s : State} (g : GlyphSrc) (h : s.Inv) : (s.add g).Inv := by
  unfold State.Inv
  rw [add_n]
  unfold State.add
  split
  · exact h
  · exact lookupOrInsert_inv h _

/-- what `add` pushes, stated without the cache: the glyph's own model on the glyph's own values -/
def specEntry (n : Nat) (ms : List (Loc × Rat)) : Entry :=
  let M := Model.new n (ms.map (·.1))
  ⟨M, M.deltas Rounding.tiesEven.apply (valuesAt n M ms)⟩

/-- the per-glyph specification of the whole walk: entry `i` depends on the glyph, on whether it is the first glyph,
    and on the font's glyph locations — on nothing else -/
def specOf (n : Nat) (glyphLocs : List Loc) (first : Bool) (g : GlyphSrc) : Option Entry :=
  (effectiveMasters { n, models := [], deltas := if first then [] else [none], glyphLocs } g).map (specEntry n)

theorem effectiveMasters_of_two_le {s : State} {g : GlyphSrc} (h : 2 ≤ g.masters.length) :
    effectiveMasters s g = some g.masters := by
  unfold effectiveMasters
  match hm : g.masters with
  | [] => simp [hm] at h
  | [_] => simp [hm] at h
  | _ :: _ :: _ => rfl

theorem effectiveMasters_congr (s : State) (g : GlyphSrc) :
    effectiveMasters s g =
      effectiveMasters { n := s.n, models := [], deltas := if s.deltas.length == 0 then [] else [none], glyphLocs := s.glyphLocs } g := by
  have e : ((if s.deltas.length == 0 then ([] : List (Option Entry)) else [none]).length == 0) = (s.deltas.length == 0) := by
    split <;> simp [*]
  simp only [effectiveMasters, e]

theorem add_deltas {s : State} (g : GlyphSrc) (h : s.Inv) :
    (s.add g).deltas = s.deltas ++ [specOf s.n s.glyphLocs (s.deltas.length == 0) g] := by
  rw [specOf, ← effectiveMasters_congr]
  unfold State.add
  split
  · rename_i he; simp [he]
  · rename_i ms he
    simp only [he, Option.map_some, specEntry]
    rw [lookupOrInsert_model h]

theorem addAll_deltas {s : State} (gs : List GlyphSrc) (h : s.Inv) :
    (s.addAll gs).deltas =
      s.deltas ++ gs.zipIdx.map fun (g, i) => specOf s.n s.glyphLocs (s.deltas.length + i == 0) g := by
  induction gs generalizing s with
  | nil => simp [State.addAll]
  | cons g gs ih =>
    simp only [State.addAll, List.foldl_cons] at ih ⊢
    rw [ih (add_inv g h), add_n, add_glyphLocs, add_deltas g h, List.zipIdx_cons, List.zipIdx_succ]
    simp [Nat.add_assoc, Nat.add_comm 1]

theorem find_master {n : Nat} {ms : List (Loc × Rat)} (hlen : ∀ p ∈ ms, p.1.length = n)
    (hnd : (ms.map (·.1)).Pairwise (· ≠ ·)) {loc : Loc} {a : Rat} (hmem : (loc, a) ∈ ms) :
    ms.find? (fun p => fit n p.1 == loc) = some (loc, a) :=
  find?_key_of_mem hnd hmem fun e he => by simp [fit_of_length (hlen e he)]

theorem specEntry_master_reproduced {n : Nat} {ms : List (Loc × Rat)} (hlen : ∀ p ∈ ms, p.1.length = n)
    (hnd : (ms.map (·.1)).Pairwise (· ≠ ·)) {loc : Loc} {a : Rat} (hmem : (loc, a) ∈ ms) :
    ratAbs ((specEntry n ms).valueAt loc - (otRound a : Rat)) ≤ 1/2 :=
  Model.new_reproduces_at .tiesEven (List.forall_mem_map.2 hlen) hnd (by simp [valuesAt])
    (List.mem_map.2 ⟨(loc, a), hmem, rfl⟩)
    fun m hm => by simp [valuesAt, hm, find_master hlen hnd hmem]

end Fontc.Metric
