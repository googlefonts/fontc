/-
  The depth sort of `depth_sorted_composite_glyphs`: with enough fuel the round loop returns a state that is stuck
  (`Stuck`) and satisfies whatever the rounds preserve (`loop_spec`; progress measure: the length of
  `indeterminate_depth`). With the invariant `Inv`, every glyph left over has a component that is left over
  (`leftover_closed`), so `leftover = []` iff the graph is acyclic (given no dangling references).
-/
import FontcModel.CompGraph
import FontcProofs.ListFacts
namespace Fontc.CompGraph

section
variable {α : Type}

theorem mem_simples {g : Graph α} {e : α × List α} : e ∈ simples g ↔ e ∈ g ∧ e.2 = [] := by
  simp [simples, List.mem_filter]

theorem mem_composites {g : Graph α} {e : α × List α} : e ∈ composites g ↔ e ∈ g ∧ e.2 ≠ [] := by
  simp [composites, List.mem_filter]

end

variable {α : Type} [DecidableEq α]

theorem depthOf_eq_lookup (ds : Depths α) (n : α) : depthOf ds n = ds.lookup n := by
  induction ds with
  | nil => rfl
  | cons e ds ih =>
    rw [lookup_cons_ite, ← ih, depthOf]
    by_cases h : n = e.1 <;> simp [h, Ne.symm]

theorem compsOf_eq_lookup (g : Graph α) (n : α) : compsOf g n = (g.lookup n).getD [] := by
  induction g with
  | nil => rfl
  | cons e g ih =>
    rw [lookup_cons_ite, compsOf, ih]
    by_cases h : n = e.1 <;> simp [h, Ne.symm]

theorem depthOf_mem {ds : Depths α} {n : α} {d : Nat} (h : depthOf ds n = some d) : (n, d) ∈ ds :=
  mem_of_lookup_eq_some (depthOf_eq_lookup ds n ▸ h)

theorem depthOf_of_mem_nodup {ds : Depths α} (hnd : (ds.map (·.1)).Nodup) {n : α} {d : Nat} (h : (n, d) ∈ ds) :
    depthOf ds n = some d := by
  rw [depthOf_eq_lookup, lookup_eq_some_iff_of_nodup hnd]; exact h

theorem depthOf_isSome_iff {ds : Depths α} {n : α} : (depthOf ds n).isSome ↔ n ∈ ds.map (·.1) := by
  rw [depthOf_eq_lookup, List.lookup_isSome_iff, List.mem_map]
  exact exists_congr fun _ => and_congr_right fun _ => beq_iff_eq.trans eq_comm

theorem compsOf_of_mem {g : Graph α} (hnd : (names g).Nodup) {n : α} {cs : List α} (h : (n, cs) ∈ g) :
    compsOf g n = cs := by
  rw [compsOf_eq_lookup, (lookup_eq_some_iff_of_nodup hnd).mpr h]; rfl

theorem compsOf_eq_nil_of_not_mem {g : Graph α} {n : α} (h : n ∉ names g) : compsOf g n = [] := by
  rw [compsOf_eq_lookup, lookup_eq_none_of_not_mem h]; rfl

theorem mem_names_of_mem_compsOf {g : Graph α} {n c : α} (h : c ∈ compsOf g n) : n ∈ names g :=
  Decidable.byContradiction fun hn => by rw [compsOf_eq_nil_of_not_mem hn] at h; cases h

theorem loop_zero (fuel : Nat) (ds : Depths α) (ind : Graph α) : loop fuel 0 ds ind = some (ds, ind) := by
  cases fuel <;> simp [loop]

theorem maxCompDepth_some {ds : Depths α} {cs : List α} {m : Nat} (h : maxCompDepth ds cs = some m) :
    ∀ c ∈ cs, ∃ dc, depthOf ds c = some dc ∧ dc ≤ m := by
  induction cs generalizing m with
  | nil => intro c hc; simp at hc
  | cons x cs ih =>
    simp only [maxCompDepth] at h
    split at h
    · simp at h
    · rename_i d hd
      split at h
      · simp at h
      · rename_i m' hm'
        simp only [Option.some.injEq] at h
        intro c hc
        rcases List.mem_cons.mp hc with hc | hc
        · subst hc; exact ⟨d, hd, by omega⟩
        · obtain ⟨dc, h1, h2⟩ := ih hm' c hc
          exact ⟨dc, h1, by omega⟩

theorem maxCompDepth_none {ds : Depths α} {cs : List α} (h : maxCompDepth ds cs = none) :
    ∃ c ∈ cs, depthOf ds c = none := by
  induction cs with
  | nil => cases h
  | cons x cs ih =>
    simp only [maxCompDepth] at h
    split at h
    · exact ⟨x, List.mem_cons_self, ‹_›⟩
    · split at h
      · obtain ⟨c, hc, h'⟩ := ih ‹_›
        exact ⟨c, List.mem_cons_of_mem _ hc, h'⟩
      · cases h

/-- no glyph of `ind` can be placed with the depths `ds` -/
def Stuck (ds : Depths α) (ind : Graph α) : Prop := ∀ e ∈ ind, maxCompDepth ds e.2 = none

theorem round_cases (ds : Depths α) (ind : Graph α) :
    (round ds ind = (ds, ind) ∧ Stuck ds ind) ∨ (round ds ind).2.length < ind.length := by
  induction ind generalizing ds with
  | nil => exact .inl ⟨rfl, fun _ h => nomatch h⟩
  | cons e rest ih =>
    obtain ⟨n, cs⟩ := e
    simp only [round]
    split
    · rename_i m _
      right
      rcases ih ((n, m + 1) :: ds) with h | h
      · rw [h.1]; exact Nat.lt_succ_self _
      · exact Nat.lt_succ_of_lt h
    · rename_i hm
      rcases ih ds with h | h
      · rw [h.1]; exact .inl ⟨rfl, List.forall_mem_cons.mpr ⟨hm, h.2⟩⟩
      · exact .inr (Nat.succ_lt_succ h)

/-- Every round but the last shrinks `ind`. -/
theorem loop_spec (P : Depths α → Graph α → Prop)
    (hround : ∀ ds ind, P ds ind → P (round ds ind).1 (round ds ind).2)
    (p : Nat) (ds : Depths α) (ind : Graph α) (hP : P ds ind) (hp : p = 0 → Stuck ds ind) :
    ∃ r, (P r.1 r.2 ∧ Stuck r.1 r.2) ∧ ∀ fuel, ind.length < fuel → loop fuel p ds ind = some r := by
  induction hk : ind.length using Nat.strongRecOn generalizing p ds ind with
  | _ k ih =>
    subst hk
    cases p with
    | zero => exact ⟨(ds, ind), ⟨hP, hp rfl⟩, fun fuel _ => loop_zero fuel ds ind⟩
    | succ p =>
      rcases round_cases ds ind with ⟨heq, hst⟩ | hlt
      · refine ⟨(ds, ind), ⟨hP, hst⟩, fun fuel hf => ?_⟩
        obtain ⟨i, rfl⟩ := Nat.exists_eq_add_of_lt hf
        rw [loop, heq, Nat.sub_self, loop_zero]
      · obtain ⟨r, hr, hf⟩ := ih _ hlt (ind.length - (round ds ind).2.length) _ _ (hround ds ind hP)
          (fun h => by omega) rfl
        refine ⟨r, hr, fun fuel hf' => ?_⟩
        obtain ⟨i, rfl⟩ := Nat.exists_eq_add_of_lt hf'
        exact hf _ (Nat.lt_add_right i hlt)

/-- `loop_spec` for the whole of `depth_sorted_composite_glyphs`, at the fuel `depthCore` runs with. -/
theorem depthCore_spec (P : Depths α → Graph α → Prop)
    (hround : ∀ ds ind, P ds ind → P (round ds ind).1 (round ds ind).2) (g : Graph α)
    (h0 : P ((simples g).map fun e => (e.1, 0)) (composites g)) :
    (P (depthCore g).1 (depthCore g).2 ∧ Stuck (depthCore g).1 (depthCore g).2) ∧
      ∀ fuel, g.length + 1 ≤ fuel → depthCoreFuel fuel g = some (depthCore g) := by
  obtain ⟨r, hr, hf⟩ := loop_spec P hround (simples g).length _ (composites g) h0 fun hz e he => by
    -- no simple glyph at all: no depth is known, and every indeterminate glyph has a component
    rw [List.eq_nil_of_length_eq_zero hz]
    cases hcs : e.2 with
    | nil => exact absurd hcs (mem_composites.mp he).2
    | cons c cs => simp [maxCompDepth, depthOf]
  have hf' : ∀ fuel, g.length + 1 ≤ fuel → depthCoreFuel fuel g = some r := fun fuel h =>
    hf fuel (Nat.lt_of_le_of_lt (List.length_filter_le _ _) h)
  have : depthCore g = r := by simp [depthCore, hf' _ (Nat.le_refl _)]
  exact this ▸ ⟨hr, hf'⟩

/-- The loop invariant of `depth_sorted_composite_glyphs` on graph `g`: `ds` = depths so far, `ind` = still indeterminate. -/
structure Inv (g : Graph α) (ds : Depths α) (ind : Graph α) : Prop where
  rank : ∀ n d, (n, d) ∈ ds → ∀ c ∈ compsOf g n, ∃ dc, (c, dc) ∈ ds ∧ dc < d
  sub : ind.Sublist g
  part : (ds.map (·.1) ++ names ind).Perm (names g)

theorem Inv.nodup {g : Graph α} {ds : Depths α} {ind : Graph α} (hI : Inv g ds ind) (hnd : (names g).Nodup) :
    (ds.map (·.1)).Nodup := (List.nodup_append.mp (hI.part.nodup_iff.mpr hnd)).1

theorem Inv.disjoint {g : Graph α} {ds : Depths α} {ind : Graph α} (hI : Inv g ds ind) (hnd : (names g).Nodup)
    {n : α} {d : Nat} (h : (n, d) ∈ ds) : n ∉ names ind := fun hn =>
  (List.nodup_append.mp (hI.part.nodup_iff.mpr hnd)).2.2 n (List.mem_map_of_mem (f := (·.1)) h) n hn rfl

theorem Inv.known {g : Graph α} {ds : Depths α} {ind : Graph α} (hI : Inv g ds ind) {n : α} {d : Nat}
    (h : (n, d) ∈ ds) : n ∈ names g :=
  hI.part.subset (List.mem_append_left _ (List.mem_map_of_mem (f := (·.1)) h))

theorem Inv.cover {g : Graph α} {ds : Depths α} {ind : Graph α} (hI : Inv g ds ind) {n : α} (hn : n ∈ names g) :
    (depthOf ds n).isSome ∨ n ∈ names ind :=
  (List.mem_append.mp (hI.part.symm.subset hn)).imp_left depthOf_isSome_iff.mpr

theorem Inv.place {g : Graph α} (hnd : (names g).Nodup) {ds : Depths α} {pre rest : Graph α} {n : α} {cs : List α} {m : Nat}
    (hI : Inv g ds (pre ++ (n, cs) :: rest)) (hm : maxCompDepth ds cs = some m) :
    Inv g ((n, m + 1) :: ds) (pre ++ rest) := by
  have hcs : compsOf g n = cs := compsOf_of_mem hnd (hI.sub.subset (by simp))
  refine ⟨?_, (List.Sublist.append (List.Sublist.refl _) (List.sublist_cons_self _ _)).trans hI.sub, ?_⟩
  · intro x d hx c hc
    rcases List.mem_cons.mp hx with hx | hx
    · cases hx
      obtain ⟨dc, h1, h2⟩ := maxCompDepth_some hm c (hcs ▸ hc)
      exact ⟨dc, List.mem_cons_of_mem _ (depthOf_mem h1), by omega⟩
    · obtain ⟨dc, h1, h2⟩ := hI.rank x d hx c hc
      exact ⟨dc, List.mem_cons_of_mem _ h1, h2⟩
  · refine List.Perm.trans ?_ hI.part
    have := (List.perm_middle (a := n) (l₁ := ds.map (·.1) ++ pre.map (·.1)) (l₂ := rest.map (·.1))).symm
    simpa [names, List.append_assoc] using this

/-- `pre`: what this round has already decided to retain. -/
theorem Inv.round {g : Graph α} (hnd : (names g).Nodup) (rest : Graph α) : ∀ (ds : Depths α) (pre : Graph α),
    Inv g ds (pre ++ rest) → Inv g (round ds rest).1 (pre ++ (round ds rest).2) := by
  induction rest with
  | nil => intro ds pre h; simpa [CompGraph.round] using h
  | cons e rest ih =>
    intro ds pre h
    obtain ⟨n, cs⟩ := e
    simp only [CompGraph.round]
    split
    · rename_i m hm
      exact ih _ pre (h.place hnd hm)
    · have h' : Inv g ds ((pre ++ [(n, cs)]) ++ rest) := by simpa using h
      have := ih ds (pre ++ [(n, cs)]) h'
      simpa using this

theorem Inv.init {g : Graph α} (hnd : (names g).Nodup) :
    Inv g ((simples g).map fun e => (e.1, 0)) (composites g) := by
  refine ⟨?_, List.filter_sublist, ?_⟩
  · -- only simple glyphs have a depth, and they have no component
    intro n d h c hc
    obtain ⟨e, he, heq⟩ := List.mem_map.mp h
    obtain ⟨he1, he2⟩ := mem_simples.mp he
    cases heq
    rw [compsOf_of_mem hnd he1, he2] at hc
    cases hc
  · have : ((simples g).map fun e => (e.1, 0)).map (·.1) = names (simples g) := by
      simp [names, List.map_map, Function.comp_def]
    rw [this, names, names, ← List.map_append]
    exact (List.filter_append_perm (fun e : α × List α => e.2.isEmpty) g).map _

theorem depthCore_inv (g : Graph α) (hnd : (names g).Nodup) : Inv g (depthCore g).1 (depthCore g).2 :=
  (depthCore_spec (Inv g) (fun ds ind hI => Inv.round hnd ind ds [] hI) g (Inv.init hnd)).1.1

theorem depthCore_stuck (g : Graph α) : Stuck (depthCore g).1 (depthCore g).2 :=
  (depthCore_spec (fun _ _ => True) (fun _ _ _ => trivial) g trivial).1.2

/-- with nothing left over, the depths are a rank function -/
theorem acyclic_of_leftover_nil (g : Graph α) (hnd : (names g).Nodup) (h : (depthCore g).2 = []) : Acyclic g := by
  have hI := depthCore_inv g hnd
  refine ⟨fun n => (depthOf (depthCore g).1 n).getD 0, ?_⟩
  intro n c hc
  rcases hI.cover (mem_names_of_mem_compsOf hc) with hs | hs
  · obtain ⟨d, hd⟩ := Option.isSome_iff_exists.mp hs
    obtain ⟨dc, h1, h2⟩ := hI.rank n d (depthOf_mem hd) c hc
    simp [hd, depthOf_of_mem_nodup (hI.nodup hnd) h1, h2]
  · rw [h] at hs; cases hs

theorem leftover_closed (g : Graph α) (hnd : (names g).Nodup) (hdg : NoDangling g) :
    ∀ e ∈ (depthCore g).2, ∃ c ∈ compsOf g e.1, c ∈ names (depthCore g).2 := by
  have hI := depthCore_inv g hnd
  intro e he
  have hcs : compsOf g e.1 = e.2 := compsOf_of_mem hnd (hI.sub.subset he)
  obtain ⟨c, hc, hd⟩ := maxCompDepth_none (depthCore_stuck g e he)
  refine ⟨c, hcs ▸ hc, (hI.cover (hdg e.1 c (hcs ▸ hc))).resolve_left ?_⟩
  rw [hd]; exact Bool.false_ne_true

/-- in a closed set an entry of least rank would have a component of smaller rank -/
theorem leftover_nil_of_acyclic (g : Graph α) (hnd : (names g).Nodup) (hac : Acyclic g) (hdg : NoDangling g) :
    (depthCore g).2 = [] := by
  obtain ⟨rank, hrank⟩ := hac
  refine Decidable.byContradiction fun hne => ?_
  obtain ⟨e, he, hmin⟩ := exists_min_of_ne_nil (rank ·.1) hne
  obtain ⟨c, hc, hc'⟩ := leftover_closed g hnd hdg e he
  obtain ⟨e', he', rfl⟩ := List.mem_map.mp hc'
  exact Nat.not_lt.2 (hmin e' he') (hrank e.1 e'.1 hc)

theorem names_prune (g : Graph α) : names (prune g) = names g := by
  simp [names, prune, List.map_map, Function.comp_def]

theorem compsOf_prune (g : Graph α) (n : α) :
    compsOf (prune g) n = (compsOf g n).filter fun c => decide (c ∈ names g) := by
  rw [compsOf_eq_lookup, compsOf_eq_lookup, prune]
  generalize names g = ns
  induction g with
  | nil => rfl
  | cons e g ih =>
    rw [List.map_cons, lookup_cons_ite, lookup_cons_ite]
    split
    · rfl
    · exact ih

theorem prune_noDangling (g : Graph α) : NoDangling (prune g) := by
  intro n c hc
  rw [compsOf_prune] at hc
  rw [names_prune]
  simpa using (List.mem_filter.mp hc).2

theorem prune_eq_self {g : Graph α} (hnd : (names g).Nodup) (h : NoDangling g) : prune g = g := by
  refine map_eq_self fun e he => ?_
  have hcs : compsOf g e.1 = e.2 := compsOf_of_mem hnd he
  have : (e.2.filter fun c => decide (c ∈ names g)) = e.2 := by
    apply List.filter_eq_self.mpr
    intro c hc
    simpa using h e.1 c (hcs ▸ hc)
  simp [this]

section
omit [DecidableEq α]

theorem sortByDepth_spec (nlt : α → α → Bool) :
    InsertionSort (fun x y : α × Nat => x.2 < y.2 || (x.2 == y.2 && nlt x.1 y.1)) (insertByDepth nlt) (sortByDepth nlt) :=
  ⟨fun _ => rfl, fun _ _ _ => rfl, rfl, fun _ _ => rfl⟩

theorem sortByDepth_perm (nlt : α → α → Bool) (l : Depths α) : (sortByDepth nlt l).Perm l :=
  (sortByDepth_spec nlt).perm_sort l

theorem pairwise_sortByDepth (nlt : α → α → Bool) (l : Depths α) :
    (sortByDepth nlt l).Pairwise fun a b => a.2 ≤ b.2 := by
  refine (sortByDepth_spec nlt).pairwise_rank (·.2) (fun x y hc => ?_) (fun x y hlt => ?_) l
  · simp only [Bool.or_eq_true, decide_eq_true_eq, Bool.and_eq_true, beq_iff_eq] at hc
    omega
  · simp only [Bool.or_eq_true, decide_eq_true_eq]
    exact Or.inl hlt

theorem before_of_sorted {l : Depths α} (hs : l.Pairwise fun a b => a.2 ≤ b.2) {n c : α} {d dc : Nat}
    (hn : (n, d) ∈ l) (hc : (c, dc) ∈ l) (hlt : dc < d) :
    ∃ pre post, l = pre ++ (n, d) :: post ∧ (c, dc) ∈ pre := by
  obtain ⟨pre, post, rfl⟩ := List.append_of_mem hn
  refine ⟨pre, post, rfl, ?_⟩
  rcases List.mem_append.mp hc with h | h
  · exact h
  · rcases List.mem_cons.mp h with h | h
    · cases h; omega
    · have := (List.pairwise_cons.mp (List.pairwise_append.mp hs).2.1).1 (c, dc) h
      simp only at this; omega

end

theorem mem_placed_iff (nlt : α → α → Bool) {g : Graph α} (hnd : (names g).Nodup) {n : α} {d : Nat} :
    (n, d) ∈ (depthSort nlt g).placed ↔ (n, d) ∈ (depthCore g).1 := by
  simp only [depthSort, (sortByDepth_perm _ _).mem_iff, List.mem_filter, and_iff_left_iff_imp]
  intro h
  simp only [Bool.not_eq_true', List.any_eq_false, beq_iff_eq]
  exact fun e he heq => (depthCore_inv g hnd).disjoint hnd h (heq ▸ List.mem_map_of_mem (f := (·.1)) he)

end Fontc.CompGraph
