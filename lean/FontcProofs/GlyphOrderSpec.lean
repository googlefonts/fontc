/- The vocabulary of the C06 statements that is not part of the model. -/
import FontcModel.GlyphOrder

namespace Fontc.GlyphOrder

/-- the names of a `public.glyphOrder` value that the code looks at -/
def declaredNames (declared : Option (List (Option String))) : List String := (declared.getD []).filterMap id

/-- what the order / cmap / post pipeline reads of a glyph -/
def Glyph.meta (g : Glyph) : String × Bool × List Nat := (g.name, g.exported, g.codepoints)

/-- the source's glyphs as the table `finalOrder` starts from -/
def Source.table (s : Source) : Table := Table.ofList s.glyphs

/-- the preliminary order restricted to the glyphs the source exports -/
def Source.kept (s : Source) : List String := s.prelim.filter s.table.isExport

/-- the processing order is topological for non-export references: a non-export component was processed before,
    or needs no processing itself -/
def TopoOk (snap : Table) : List String → List String → Prop
  | _, [] => True
  | pre, n :: post =>
    (∀ c ∈ snap.comps n, snap.isExport c = false →
      c ∈ pre ∨ ∀ c' ∈ snap.comps c, snap.isExport c' = true) ∧ TopoOk snap (pre ++ [n]) post

end Fontc.GlyphOrder
