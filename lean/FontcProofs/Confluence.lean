/-
  Lemmas for FontcModel/Confluence.lean: independent jobs commute, adjacent independent jobs can be swapped anywhere
  in a schedule, and two schedules that order all conflicting pairs identically end in the same store.
-/
import FontcModel.Confluence

namespace Fontc.Confluence

variable {Val : Type}

theorem lastWrite_eq_none_iff {ws : List (Item × Val)} {x : Item} :
    lastWrite ws x = none ↔ ∀ p ∈ ws, p.1 ≠ x := by
  induction ws with
  | nil => simp [lastWrite]
  | cons p ws ih =>
    obtain ⟨i, v⟩ := p
    rw [List.forall_mem_cons, ← ih, lastWrite]
    cases lastWrite ws x <;> simp

theorem lastWrite_run_eq_none {j : Job Val} (wf : WF j) (s : Store Val) {x : Item} (hx : x ∉ j.writes) :
    lastWrite (j.run s) x = none :=
  lastWrite_eq_none_iff.2 fun p hp hpx => hx (hpx ▸ wf.writes_only s p hp)

theorem exec_of_not_mem_writes {j : Job Val} (wf : WF j) (s : Store Val) {x : Item} (hx : x ∉ j.writes) :
    exec j s x = s x := by
  simp [exec, Store.write, lastWrite_run_eq_none wf s hx]

theorem lastWrite_run_mem_writes {j : Job Val} (wf : WF j) {s : Store Val} {x : Item} {v : Val}
    (h : lastWrite (j.run s) x = some v) : x ∈ j.writes :=
  Decidable.by_contra fun hx => by simp [lastWrite_run_eq_none wf s hx] at h

theorem meets_false {l₁ l₂ : List Item} (h : meets l₁ l₂ = false) {x : Item} (h1 : x ∈ l₁) : x ∉ l₂ := by
  simp only [meets, List.any_eq_false, List.contains_iff_mem] at h
  exact h x h1

theorem conflict_comm (j k : Job Val) : conflict j k = conflict k j := by
  simp [conflict, Bool.or_comm]

theorem indep_symm {j k : Job Val} (h : indep j k) : indep k j := by
  unfold indep at *; rw [conflict_comm]; exact h

theorem indep_writes_reads {j k : Job Val} (h : indep j k) {x : Item} (h1 : x ∈ j.writes) : x ∉ k.reads := by
  simp only [indep, conflict, Bool.or_eq_false_iff] at h
  exact fun h2 => meets_false h.1 h1 (by simp [h2])

theorem indep_writes_writes {j k : Job Val} (h : indep j k) {x : Item} (h1 : x ∈ j.writes) : x ∉ k.writes := by
  simp only [indep, conflict, Bool.or_eq_false_iff] at h
  exact fun h2 => meets_false h.1 h1 (by simp [h2])

theorem run_exec_of_indep {j k : Job Val} (wj : WF j) (wk : WF k) (h : indep j k) (s : Store Val) :
    k.run (exec j s) = k.run s :=
  wk.reads_only _ _ (fun _ hi => exec_of_not_mem_writes wj s (fun hw => indep_writes_reads h hw hi))

theorem exec_comm {j k : Job Val} (wj : WF j) (wk : WF k) (h : indep j k) (s : Store Val) :
    exec k (exec j s) = exec j (exec k s) := by
  funext x
  have hk := run_exec_of_indep wj wk h s
  have hj := run_exec_of_indep wk wj (indep_symm h) s
  show (exec j s).write (k.run (exec j s)) x = (exec k s).write (j.run (exec k s)) x
  rw [hk, hj]
  simp only [Store.write, exec]
  cases hkx : lastWrite (k.run s) x with
  | none => cases hjx : lastWrite (j.run s) x <;> simp
  | some v =>
    cases hjx : lastWrite (j.run s) x with
    | none => simp
    | some w =>
      exact (indep_writes_writes h (lastWrite_run_mem_writes wj hjx) (lastWrite_run_mem_writes wk hkx)).elim

theorem execAll_nil (s : Store Val) : execAll [] s = s := rfl

theorem execAll_cons (j : Job Val) (l : List (Job Val)) (s : Store Val) :
    execAll (j :: l) s = execAll l (exec j s) := rfl

theorem execAll_append (l₁ l₂ : List (Job Val)) (s : Store Val) :
    execAll (l₁ ++ l₂) s = execAll l₂ (execAll l₁ s) := by
  simp [execAll, List.foldl_append]

theorem execAll_swap {j k : Job Val} (wj : WF j) (wk : WF k) (h : indep j k) (pre post : List (Job Val))
    (s : Store Val) : execAll (pre ++ j :: k :: post) s = execAll (pre ++ k :: j :: post) s := by
  simp only [execAll_append, execAll_cons, exec_comm wj wk h]

theorem execAll_bubble {j : Job Val} (wj : WF j) (a b : List (Job Val)) (wa : ∀ x ∈ a, WF x)
    (ha : ∀ x ∈ a, indep x j) (s : Store Val) : execAll (a ++ j :: b) s = execAll (j :: (a ++ b)) s := by
  induction a generalizing s with
  | nil => rfl
  | cons x a ih =>
    have hx : indep x j := ha x (by simp)
    have wx : WF x := wa x (by simp)
    have := ih (fun y hy => wa y (by simp [hy])) (fun y hy => ha y (by simp [hy])) (exec x s)
    simp only [List.cons_append, execAll_cons] at this ⊢
    rw [this, exec_comm wx wj hx]

theorem ids_cons (j : Job Val) (l : List (Job Val)) : ids (j :: l) = j.id :: ids l := rfl

theorem ids_append (a b : List (Job Val)) : ids (a ++ b) = ids a ++ ids b := by simp [ids]

theorem id_mem_ids {j : Job Val} {l : List (Job Val)} (h : j ∈ l) : j.id ∈ ids l :=
  List.mem_map.2 ⟨j, h, rfl⟩

theorem pair_sublist_cons {α : Type} {x a b : α} {t : List α} :
    [a, b].Sublist (x :: t) ↔ [a, b].Sublist t ∨ (a = x ∧ b ∈ t) := by
  rw [List.sublist_cons_iff]
  constructor
  · rintro (h | ⟨r, hr, hs⟩)
    · exact .inl h
    · simp only [List.cons.injEq] at hr
      obtain ⟨rfl, rfl⟩ := hr
      exact .inr ⟨rfl, List.singleton_sublist.1 hs⟩
  · rintro (h | ⟨rfl, hb⟩)
    · exact .inl h
    · exact .inr ⟨[b], rfl, List.singleton_sublist.2 hb⟩

theorem sublist_remove_middle {α : Type} {l a b : List α} {x : α} (hx : x ∉ l) :
    l.Sublist (a ++ x :: b) ↔ l.Sublist (a ++ b) := by
  constructor
  · intro h
    obtain ⟨l1, l2, rfl, h1, h2⟩ := List.sublist_append_iff.1 h
    have h2' : l2.Sublist b := by
      rcases List.sublist_cons_iff.1 h2 with h2 | ⟨r, rfl, _⟩
      · exact h2
      · exact (hx (by simp)).elim
    exact List.Sublist.append h1 h2'
  · intro h
    exact h.trans (List.Sublist.append (List.Sublist.refl a) (List.sublist_cons_self x b))

theorem before_asymm {l : List (Job Val)} (nd : (ids l).Nodup) {j k : Job Val} (h1 : Before l j k) : ¬ Before l k j := by
  intro h2
  unfold Before at h1 h2
  generalize ids l = L at nd h1 h2
  generalize j.id = a at h1 h2
  generalize k.id = b at h1 h2
  induction L with
  | nil => simp at h1
  | cons x t ih =>
    have hxt : x ∉ t := (List.nodup_cons.1 nd).1
    rcases pair_sublist_cons.1 h1 with g1 | ⟨rfl, hb⟩
    · rcases pair_sublist_cons.1 h2 with g2 | ⟨rfl, ha⟩
      · exact ih (List.nodup_cons.1 nd).2 g1 g2
      · exact hxt (g1.subset (List.mem_cons_of_mem _ List.mem_cons_self))
    · rcases pair_sublist_cons.1 h2 with g2 | ⟨rfl, _⟩
      · exact hxt (g2.subset (List.mem_cons_of_mem _ List.mem_cons_self))
      · exact hxt hb

theorem schedule_independent (l₁ l₂ : List (Job Val)) (wf : ∀ j ∈ l₁, WF j) (perm : l₁.Perm l₂)
    (nd : (ids l₁).Nodup) (same : SameConflictOrder l₁ l₂) (s : Store Val) :
    execAll l₁ s = execAll l₂ s := by
  induction l₁ generalizing l₂ s with
  | nil => rw [List.nil_perm.1 perm]
  | cons j t ih =>
    have hjt : j.id ∉ ids t := (List.nodup_cons.1 nd).1
    have ndt : (ids t).Nodup := (List.nodup_cons.1 nd).2
    obtain ⟨a, b, rfl⟩ := List.append_of_mem (perm.subset (List.mem_cons_self))
    have permt : t.Perm (a ++ b) := (perm.trans List.perm_middle).cons_inv
    -- `j` runs first in `l₁`; whatever runs before it in `l₂` is independent of it (a conflicting `x` would have to run
    -- before `j` in `l₁` too), so `j` can be moved to the front of `l₂` as well, and the tails are compared by induction
    have hind : ∀ x ∈ a, indep x j := by
      intro x hx
      apply Classical.byContradiction
      intro hc
      have hc : conflict x j = true := by simpa [indep] using hc
      have hxt : x ∈ t := permt.symm.subset (by simp [hx])
      have h2 : Before (a ++ j :: b) x j := by
        unfold Before
        rw [ids_append, ids_cons]
        exact (List.Sublist.append (List.singleton_sublist.2 (id_mem_ids hx))
          ((List.Sublist.refl [j.id]).trans (List.cons_sublist_cons.2 (List.nil_sublist _))))
      have h1 : Before (j :: t) x j := (same x (by simp [hxt]) j (by simp) hc).2 h2
      unfold Before at h1
      rw [ids_cons] at h1
      rcases pair_sublist_cons.1 h1 with h | ⟨_, h⟩
      · exact hjt (h.subset (List.mem_cons_of_mem _ List.mem_cons_self))
      · exact hjt h
    have wa : ∀ x ∈ a, WF x := fun x hx => wf x (by
      have : x ∈ t := permt.symm.subset (by simp [hx])
      simp [this])
    rw [execAll_bubble (wf j (by simp)) a b wa hind, execAll_cons, execAll_cons]
    apply ih (a ++ b) (fun x hx => wf x (by simp [hx])) permt ndt
    -- the tails order conflicting pairs identically
    intro x hx y hy hc
    have hxj : x.id ≠ j.id := fun h => hjt (h ▸ id_mem_ids hx)
    have hyj : y.id ≠ j.id := fun h => hjt (h ▸ id_mem_ids hy)
    have hnot : j.id ∉ [x.id, y.id] := by simp [Ne.symm hxj, Ne.symm hyj]
    have := same x (by simp [hx]) y (by simp [hy]) hc
    unfold Before at this ⊢
    rw [ids_cons, ids_append, ids_cons, sublist_remove_middle hnot, ← ids_append] at this
    exact (sublist_remove_middle (a := []) hnot).symm.trans this

theorem sameConflictOrder_of_respects {mustPrecede : Job Val → Job Val → Prop} {l₁ l₂ : List (Job Val)}
    (perm : l₁.Perm l₂) (nd : (ids l₁).Nodup)
    (total : ∀ j ∈ l₁, ∀ k ∈ l₁, j.id ≠ k.id → conflict j k = true → mustPrecede j k ∨ mustPrecede k j)
    (r₁ : Respects mustPrecede l₁) (r₂ : Respects mustPrecede l₂) : SameConflictOrder l₁ l₂ := by
  have nd₂ : (ids l₂).Nodup := (perm.map _).nodup_iff.1 nd
  intro j hj k hk hc
  by_cases hid : j.id = k.id
  · -- a job is never before itself
    have no : ∀ l : List (Job Val), (ids l).Nodup → ¬ Before l j k := by
      intro l ndl h
      have h' : Before l k j := by simpa [Before, hid] using h
      exact before_asymm ndl h h'
    exact ⟨fun h => (no l₁ nd h).elim, fun h => (no l₂ nd₂ h).elim⟩
  · rcases total j hj k hk hid hc with h | h
    · exact ⟨fun _ => r₂ j (perm.subset hj) k (perm.subset hk) h, fun _ => r₁ j hj k hk h⟩
    · have b₁ := r₁ k hk j hj h
      have b₂ := r₂ k (perm.subset hk) j (perm.subset hj) h
      exact ⟨fun h' => (before_asymm nd h' b₁).elim, fun h' => (before_asymm nd₂ h' b₂).elim⟩

theorem final_store_schedule_independent (mustPrecede : Job Val → Job Val → Prop) (l₁ l₂ : List (Job Val))
    (wf : ∀ j ∈ l₁, WF j) (perm : l₁.Perm l₂) (nd : (ids l₁).Nodup)
    (total : ∀ j ∈ l₁, ∀ k ∈ l₁, j.id ≠ k.id → conflict j k = true → mustPrecede j k ∨ mustPrecede k j)
    (r₁ : Respects mustPrecede l₁) (r₂ : Respects mustPrecede l₂) (s : Store Val) :
    execAll l₁ s = execAll l₂ s :=
  schedule_independent l₁ l₂ wf perm nd (sameConflictOrder_of_respects perm nd total r₁ r₂) s

end Fontc.Confluence
