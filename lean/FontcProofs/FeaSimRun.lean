/-
  C11 simulation: a rule statement.  The source walk (`Src.walkStmt`) collects runs of rules
  of one type under one flag; the compilation context keeps a current lookup builder.  The relation
  `RunRel` ties the two.  A rule statement either joins the run in progress or ends it (`flush`) and
  starts a new one, on both sides.
-/
import FontcProofs.FeaSimFlags

namespace Fontc.FeaCompile
open Cmp

/-- the type of a run of rules: that of its first rule (`Src.Lookup.kind` of a lookup with these rules) -/
def headKind (rules : List Rule) : Kind := (rules.head?.map Rule.kind).getD .single

/-- flag in force and run being collected by the source walk ↔ flag in force and current lookup of the
    compilation context -/
def RunRel (fx : Fixes) (wcur : Option (Src.Reg × Flag × List Rule)) (wflag : Flag) (s : St) : Prop :=
  FlagCode s.attachIds s.filterIds s.flag wflag ∧
  match wcur with
  | none => s.cur = none
  | some (_, f, rules) =>
    rules ≠ [] ∧ (∀ r ∈ rules, r.kind = headKind rules) ∧
    ∃ cf, s.cur = some (cf, rules.foldl (Builder.add fx s.gsub.length s.namedId) (Builder.new (headKind rules))) ∧
      FlagCode s.attachIds s.filterIds cf f

/-- The lookups a finished run is written to.  How lookup names resolve (`named`) is left open: the per-lookup
    theorems hold for every resolution, the contextual rules they cover carrying no lookup references. -/
def CompiledRun (fx : Fixes) (aIds fIds : List (List Glyph)) (f : Flag) (rules : List Rule) (id : LookupId)
    (ls : List OT.Lookup) : Prop :=
  rules ≠ [] ∧ (∀ r ∈ rules, r.kind = headKind rules) ∧ id.isGpos = (headKind rules).isPos ∧
  ∃ cf named root, FlagCode aIds fIds cf f ∧ ((headKind rules).isPos = false → root = id.gsubIdx) ∧
    ls = builtLookups cf (rules.foldl (Builder.add fx root named) (Builder.new (headKind rules)))

/-- the test of `Src.walkStmt` on a run in progress, in terms of `headKind` -/
theorem head?_map_kind {rules : List Rule} (h : rules ≠ []) : rules.head?.map Rule.kind = some (headKind rules) := by
  cases rules with
  | nil => exact absurd rfl h
  | cons a as => rfl

theorem headKind_append {rules : List Rule} {r : Rule} (h : rules ≠ []) : headKind (rules ++ [r]) = headKind rules := by
  cases rules with
  | nil => exact absurd rfl h
  | cons a as => rfl

theorem headKind_of_all {rs : List Rule} {k : Kind} (hk : ∀ r ∈ rs, r.kind = k) (hne : rs ≠ []) : headKind rs = k := by
  cases rs with
  | nil => exact absurd rfl hne
  | cons r rs => simp [headKind, hk r (by simp)]

theorem namedId_congr {s s' : St} (h : s'.named = s.named) : s'.namedId = s.namedId := by
  funext n; simp [St.namedId, h]

theorem foldl_add_new_kind {fx : Fixes} {root : Nat} {named : String → LookupId} {rules : List Rule} :
    (rules.foldl (Builder.add fx root named) (Builder.new (headKind rules))).kind = headKind rules := by
  rw [Builder.foldl_add_kind, Builder.new_kind]

theorem RunRel.cur_ne {fx : Fixes} {reg : Src.Reg} {f wflag : Flag} {rules : List Rule} {s : St}
    (h : RunRel fx (some (reg, f, rules)) wflag s) : s.cur ≠ none := by
  obtain ⟨_, _, _, cf, hc, _⟩ := h
  simp [hc]

theorem Src.Walk.flush_cur (w : Src.Walk) : w.flush.cur = none := by
  unfold Src.Walk.flush; split <;> simp_all

theorem Src.Walk.flush_reg_flag (w : Src.Walk) : w.flush.reg = w.reg ∧ w.flush.flag = w.flag := by
  unfold Src.Walk.flush; split <;> exact ⟨rfl, rfl⟩

theorem addRule_start (fx : Fixes) (s : St) (r : Rule) (hnm : NoMerge s r)
    (hne : ∀ cf b, s.cur = some (cf, b) → s.curName = none ∧ ¬ (b.kind = r.kind ∧ cf = s.flag)) :
    s.addRule fx r =
      { s.flush with cur := some (s.flag, (Builder.new r.kind).add fx s.flush.gsub.length s.flush.namedId r) } := by
  simp only [St.addRule, prepare_eq_ensure hnm, ensure_eq hne, St.setBuilder]
  rfl

theorem addRule_join (fx : Fixes) (s : St) {r : Rule} {cf : CFlag} {b : Builder}
    (hc : s.cur = some (cf, b)) (hk : b.kind = r.kind) (hf : cf = s.flag) :
    s.addRule fx r = { s with cur := some (cf, b.add fx s.gsub.length s.namedId r) } := by
  have hnm : NoMerge s r := by
    simp only [NoMerge, hc]
    intro _
    rw [hk]
    cases r.kind <;> rfl
  have hkeep : s.ensure r.kind = s := by simp [St.ensure, St.hasCurrentKind, St.hasSameFlags, hc, hk, hf]
  simp only [St.addRule, prepare_eq_ensure hnm, hkeep, hc, St.setBuilder]

theorem CompiledRun.mono {fx : Fixes} {aIds fIds : List (List Glyph)} {f : Flag} {rules : List Rule} {id : LookupId}
    {ls : List OT.Lookup} (h : CompiledRun fx aIds fIds f rules id ls) (a' f' : List (List Glyph)) :
    CompiledRun fx (aIds ++ a') (fIds ++ f') f rules id ls := by
  obtain ⟨h1, h2, h0, cf, named, root, h3, h4, h5⟩ := h
  exact ⟨h1, h2, h0, cf, named, root, h3.mono a' f', h4, h5⟩

theorem flag_step {fx : Fixes} {wcur : Option (Src.Reg × Flag × List Rule)} {wflag : Flag} {s : St}
    (hrel : RunRel fx wcur wflag s) (hids : IdsInv s) (f : Flag) : RunRel fx wcur f (s.setLookupFlag f) := by
  obtain ⟨hcode, _, ⟨_, _, ⟨a', ha'⟩, ⟨f', hf'⟩⟩, ⟨hg, _, _, hn, _⟩, _⟩ := setLookupFlag_spec f hids
  have hc := setLookupFlag_cur s f
  refine ⟨hcode, ?_⟩
  obtain ⟨_, hcur⟩ := hrel
  cases wcur with
  | none => exact hc.trans hcur
  | some p =>
    obtain ⟨reg, f0, rules⟩ := p
    obtain ⟨hne, hk, cf, hscur, hcf⟩ := hcur
    refine ⟨hne, hk, cf, ?_, ?_⟩
    · rw [hc, hg, namedId_congr hn]; exact hscur
    · rw [ha', hf']; exact hcf.mono a' f'

/-- order of lookup ids within a table -/
def idLt : LookupId → LookupId → Prop
  | .gsub m, .gsub n => m < n
  | .gpos m, .gpos n => m < n
  | _, _ => True

/-- the id is that of a lookup already pushed -/
def idBelow (s : St) : LookupId → Prop
  | .gsub n => n < s.gsub.length
  | .gpos n => n < s.gpos.length
  | .empty => False

theorem idBelow.mono {s s' : St} (h : Grew s s') {id : LookupId} (hb : idBelow s id) : idBelow s' id := by
  obtain ⟨⟨g, e1⟩, ⟨p, e2⟩, _, _⟩ := h
  cases id <;> simp_all [idBelow] <;> omega

theorem flush_spec {s : St} {cf : CFlag} {b : Builder} (hc : s.cur = some (cf, b)) :
    Grew s s.flush ∧ s.flush.named = s.curName.toList.map (·, nextId s b.kind.isPos) ++ s.named ∧
    Placed s.flush.gsub s.flush.gpos (nextId s b.kind.isPos) (builtLookups cf b) ∧
    idBelow s.flush (nextId s b.kind.isPos) ∧ ∀ x, idBelow s x → idLt x (nextId s b.kind.isPos) := by
  have hlen : 0 < (builtLookups cf b).length := by rw [builtLookups_eq]; simp
  simp only [St.flush, hc]
  cases b.kind.isPos
  · refine ⟨⟨⟨_, rfl⟩, ⟨[], by simp⟩, ⟨[], by simp⟩, ⟨[], by simp⟩⟩, trivial, ⟨s.gsub, [], by simp, rfl⟩, ?_, ?_⟩
    · simp only [nextId, idBelow, Bool.false_eq_true, ↓reduceIte, List.length_append]; omega
    · intro x hx; cases x <;> simp_all [nextId, idLt, idBelow]
  · refine ⟨⟨⟨[], by simp⟩, ⟨_, rfl⟩, ⟨[], by simp⟩, ⟨[], by simp⟩⟩, trivial, ⟨s.gpos, [], by simp, rfl⟩, ?_, ?_⟩
    · simp only [nextId, idBelow, ↓reduceIte, List.length_append]; omega
    · intro x hx; cases x <;> simp_all [nextId, idLt, idBelow]

/-- the rules of a lookup block: the first starts a lookup, the others join it -/
theorem foldl_addRule_eq (fx : Fixes) {k : Kind} {rs : List Rule} (hk : ∀ r ∈ rs, r.kind = k) (hne : rs ≠ []) {s : St}
    (hc : s.cur = none) :
    rs.foldl (St.addRule fx) s =
      { s with cur := some (s.flag, rs.foldl (Builder.add fx s.gsub.length s.namedId) (Builder.new k)) } := by
  cases rs with
  | nil => exact absurd rfl hne
  | cons r rs =>
    have hjoin : ∀ (rest : List Rule) (b : Builder), (∀ r' ∈ rest, r'.kind = k) → b.kind = k →
        rest.foldl (St.addRule fx) { s with cur := some (s.flag, b) } =
          { s with cur := some (s.flag, rest.foldl (Builder.add fx s.gsub.length s.namedId) b) } := by
      intro rest
      induction rest with
      | nil => intro b _ _; rfl
      | cons r' rest ih =>
        intro b hk' hb
        rw [List.foldl_cons, addRule_join fx { s with cur := some (s.flag, b) } rfl (hb.trans (hk' r' (by simp)).symm) rfl]
        exact ih _ (fun x hx => hk' x (by simp [hx])) (by rw [Builder.add_kind]; exact hb)
    rw [List.foldl_cons, addRule_start fx s r (by simp [NoMerge, hc]) (by intro cf b h; rw [hc] at h; cases h),
      flush_of_cur_none hc, hk r (by simp)]
    exact hjoin rs _ (fun x hx => hk x (by simp [hx])) (by rw [Builder.add_kind, Builder.new_kind])

theorem block_flags {fx : Fixes} {U : List (List Glyph)} {fl : List Flag}
    (hfl : ∀ f ∈ fl, FlagNorm f ∧ ∀ c, f.attach = some c → sortedSet c ∈ U) :
    ∀ {s : St} {f0 : Flag}, RunRel fx none f0 s → IdsInv s → (∀ c ∈ s.attachIds, c ∈ U) →
    let s' := fl.foldl St.setLookupFlag s
    RunRel fx none (fl.getLast?.getD f0) s' ∧ IdsInv s' ∧ (∀ c ∈ s'.attachIds, c ∈ U) ∧ Grew s s' ∧ SameLookups s s' := by
  induction fl with
  | nil =>
    intro s f0 h0 hi hu
    exact ⟨h0, hi, hu, Grew.refl s, SameLookups.refl s⟩
  | cons f fl ih =>
    intro s f0 h0 hi hu
    obtain ⟨_, hids', hgrew, hsame, hU'⟩ := setLookupFlag_spec f hi
    obtain ⟨r1, r2, r3, r4, r5⟩ :=
      ih (fun x hx => hfl x (by simp [hx])) (flag_step h0 hi f) hids' (hU' U hu (hfl f (by simp)).2)
    simp only [List.foldl_cons]
    rw [List.getLast?_cons, Option.getD_some]
    exact ⟨r1, r2, r3, hgrew.trans r4, hsame.trans r5⟩

theorem foldl_blockStmt_flags (fx : Fixes) (fl : List Flag) (s : St) :
    (fl.map BStmt.flag).foldl (St.blockStmt fx) s = fl.foldl St.setLookupFlag s := by
  induction fl generalizing s with
  | nil => rfl
  | cons f fl ih => simp [List.foldl_cons, St.blockStmt, ih]

theorem foldl_blockStmt_rules (fx : Fixes) (rs : List Rule) (s : St) :
    (rs.map BStmt.rule).foldl (St.blockStmt fx) s = rs.foldl (St.addRule fx) s := by
  induction rs generalizing s with
  | nil => rfl
  | cons r rs ih => simp [List.foldl_cons, St.blockStmt, ih]

theorem blockFlag_shape (f : Flag) (fl : List Flag) (rs : List Rule) :
    Src.blockFlag f (fl.map BStmt.flag ++ rs.map BStmt.rule) = fl.getLast?.getD f := by
  induction fl generalizing f with
  | nil => cases rs <;> simp [Src.blockFlag]
  | cons f' fl ih => simp only [List.map_cons, List.cons_append, Src.blockFlag, ih, List.getLast?_cons, Option.getD_some]

theorem blockFlagAfter_rules (f : Flag) (rs : List Rule) : Src.blockFlagAfter f (rs.map BStmt.rule) = f := by
  induction rs with
  | nil => rfl
  | cons r rs ih => simpa [Src.blockFlagAfter] using ih

theorem blockFlagAfter_shape (f : Flag) (fl : List Flag) (rs : List Rule) :
    Src.blockFlagAfter f (fl.map BStmt.flag ++ rs.map BStmt.rule) = fl.getLast?.getD f := by
  induction fl generalizing f with
  | nil => simpa using blockFlagAfter_rules f rs
  | cons f' fl ih => simp only [List.map_cons, List.cons_append, Src.blockFlagAfter, ih, List.getLast?_cons, Option.getD_some]

theorem blockRules_shape (fl : List Flag) (rs : List Rule) :
    Src.blockRules (fl.map BStmt.flag ++ rs.map BStmt.rule) = rs := by
  induction fl with
  | nil =>
    induction rs with
    | nil => rfl
    | cons r rs ih => simpa [Src.blockRules] using ih
  | cons f' fl ih => simpa [Src.blockRules] using ih

/-- A lookup block of the modelled subset: `lookupflag` statements, then rules of one type.  `U` lists the
    mark attachment classes the program may name; the id table stays within it (`Defs.attachU`), and the final
    theorem asks once that its members be pairwise disjoint. -/
def BlockOk (U : List (List Glyph)) (body : List BStmt) : Prop :=
  ∃ (fl : List Flag) (rs : List Rule) (k : Kind), body = fl.map BStmt.flag ++ rs.map BStmt.rule ∧
    (∀ f ∈ fl, FlagNorm f ∧ ∀ c, f.attach = some c → sortedSet c ∈ U) ∧ (∀ r ∈ rs, r.kind = k) ∧ rs ≠ []

theorem BlockOk.flagNorm {U : List (List Glyph)} {body : List BStmt} (hb : BlockOk U body) {f0 : Flag} (h0 : FlagNorm f0) :
    FlagNorm (Src.blockFlagAfter f0 body) := by
  obtain ⟨fl, rs, k, rfl, hfl, _, _⟩ := hb
  rw [blockFlagAfter_shape]
  cases hq : fl.getLast? with
  | none => exact h0
  | some y => exact (hfl y (List.mem_of_getLast? hq)).1

theorem block_run {fx : Fixes} {U : List (List Glyph)} {body : List BStmt} (hb : BlockOk U body)
    {s : St} {f0 : Flag} (h0 : RunRel fx none f0 s) (hi : IdsInv s) (hu : ∀ c ∈ s.attachIds, c ∈ U) (reg : Src.Reg) :
    let s' := body.foldl (St.blockStmt fx) s
    RunRel fx (some (reg, Src.blockFlag f0 body, Src.blockRules body)) (Src.blockFlagAfter f0 body) s' ∧ IdsInv s' ∧
    (∀ c ∈ s'.attachIds, c ∈ U) ∧ Grew s s' ∧ SameLookups s s' := by
  obtain ⟨fl, rs, k, rfl, hfl, hk, hne⟩ := hb
  rw [blockFlag_shape, blockFlagAfter_shape, blockRules_shape, List.foldl_append, foldl_blockStmt_flags, foldl_blockStmt_rules]
  obtain ⟨⟨r1, hcur⟩, r2, r3, hg, same⟩ := block_flags hfl h0 hi hu
  generalize fl.foldl St.setLookupFlag s = sf at r1 hcur r2 r3 hg same ⊢
  rw [foldl_addRule_eq fx hk hne hcur]
  have hhk := headKind_of_all hk hne
  exact ⟨⟨r1, hne, fun r hr => (hk r hr).trans hhk.symm, sf.flag, by rw [hhk]; rfl, r1⟩, r2, r3, hg,
    same.gsub, same.gpos, same.curName, same.named, same.langsys, same.active, same.script, same.features⟩

theorem lookupBlock_eq (fx : Fixes) (s : St) (n : String) (body : List BStmt) :
    s.lookupBlock fx n body =
      let s1 := if s.finishAndAdd.active.isNone then s.finishAndAdd.clearFlags else s.finishAndAdd
      let s2 := (body.foldl (St.blockStmt fx) { s1 with curName := some n }).finishAndAdd
      if s2.active.isSome then s2 else s2.clearFlags := by
  unfold St.lookupBlock
  simp only []
  generalize body.foldl (St.blockStmt fx) _ = t
  unfold St.finishAndAdd
  rcases t.finishCurrent with ⟨t', _ | id⟩
  · rfl
  · cases hact : t'.active <;> cases id <;> simp [St.addToFeature, hact]

/-! Blocks made of `lookupflag` and rule statements only: the hypotheses of `compile_correct_flat`. -/

/-- a feature block of `lookupflag` and rule statements only -/
def FlatBody (body : List Stmt) : Prop := ∀ st ∈ body, (∃ f, st = .flag f) ∨ (∃ r, st = .rule r)

/-- no rule statement mixes with the run in progress when it arrives -/
def NoMixFrom (w : Src.Walk) : List Stmt → Prop
  | [] => True
  | st :: rest =>
    (match st with
     | .rule r => ∀ reg f rules, w.cur = some (reg, f, rules) → f = w.flag → Wf.mixes (headKind rules) r.kind = false
     | _ => True) ∧ NoMixFrom (Src.walkStmt w st) rest

/-- every `lookupflag` statement of the block is normalised, with its attachment class in `U` -/
def FlagsOk (U : List (List Glyph)) (body : List Stmt) : Prop :=
  ∀ f, Stmt.flag f ∈ body → FlagNorm f ∧ ∀ c, f.attach = some c → sortedSet c ∈ U

end Fontc.FeaCompile
