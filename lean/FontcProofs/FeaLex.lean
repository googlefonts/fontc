/-
  C13, the lexer model (FontcModel/FeaLex.lean): running the lexer to the end (`lexAllWith`).

  All token lengths are positive, all token ends are `EndOK` positions inside the input, and the lengths add up to the
  position at which `Eof` was reported: the end of the input — or, for the lexer with `eofOnNul = true`, the first
  NUL byte (`lexAll_total_le_nul`).
-/
import FontcModel.FeaLex

namespace Fontc.FeaLex

theorem nth_eq_getElem (inp : Bytes) {i : Nat} (h : i < inp.size) : nth inp i 0 = inp[i] := by
  unfold nth
  simp only [Nat.add_zero]
  rw [dif_pos h]

theorem totalLen_cons (k : Kind) (n : Nat) (rest : List (Kind × Nat)) :
    totalLen ((k, n) :: rest) = n + totalLen rest := by
  simp [totalLen]

theorem eof_lt : EOF < 0x80 := by decide

theorem ne_eof_of_beq {b c : UInt8} (h : (b == c) = true) (hc : c ≠ EOF) : b ≠ EOF := by
  have : b = c := by simpa using h
  rw [this]; exact hc

/-- `Advance` from `st.pos`, not only from behind the first byte: the `eofOnNul = true` lexer does not start a token
    on a sentinel byte. -/
theorem nextTokenWith_spec (e : Bool) {inp : Bytes} {st : LexState} (hle : st.pos ≤ inp.size) :
    ((nextTokenWith e inp st).1 = .eof →
      st.pos = inp.size ∨ (e = true ∧ st.pos < inp.size ∧ nth inp st.pos 0 = EOF)) ∧
    ((nextTokenWith e inp st).1 ≠ .eof → EndOK inp (nextTokenWith e inp st).2.pos ∧
      (e = true → Advance inp st.pos (nextTokenWith e inp st).2.pos)) := by
  rcases nextTokenWith_cases e inp st with ⟨hc, hk, _⟩ | ⟨hlt, hne, hr⟩
  · refine ⟨fun _ => ?_, fun h => absurd hk h⟩
    rcases hc with hc | hc
    · exact Or.inl (Nat.le_antisymm hle hc)
    · rcases Nat.lt_or_eq_of_le hle with hlt | heq
      · exact Or.inr ⟨hc.1, hlt, hc.2⟩
      · exact Or.inl heq
  · refine ⟨fun hk => absurd hk hr.ne_eof, fun _ => ⟨hr.endOK, fun he => ?_⟩⟩
    exact (bump_of_lt hlt ▸ bump_advance (hne he) : Advance inp st.pos (st.pos + 1)).trans hr.advance

/-- What holds of the tokens `ts` that the lexer reports from position `pos` on. -/
structure Run (e : Bool) (inp : Bytes) (pos : Nat) (ts : List (Kind × Nat)) : Prop where
  len_pos : ∀ t ∈ ts, 0 < t.2
  boundary : ∀ p ∈ boundaries pos ts, EndOK inp p ∧ pos < p ∧ p ≤ inp.size
  /-- the tokens reach the position at which `Eof` was reported: the end of the input or, for `eofOnNul = true`, a
      NUL byte -/
  stop : pos + totalLen ts = inp.size ∨ (e = true ∧ pos + totalLen ts < inp.size ∧ nth inp (pos + totalLen ts) 0 = EOF)
  /-- the `eofOnNul = true` lexer has passed no sentinel byte on the way -/
  advance : e = true → Advance inp pos (pos + totalLen ts)

theorem lexAllWith_run (e : Bool) (inp : Bytes) (st : LexState) (hle : st.pos ≤ inp.size) :
    Run e inp st.pos (lexAllWith e inp st) := by
  fun_induction lexAllWith e inp st with
  | case1 st hle' r hk =>
    exact ⟨nofun, nofun, (nextTokenWith_spec e hle').1 hk, fun _ => Advance.refl inp _⟩
  | case2 st hle' r hk ih =>
    obtain ⟨_, hsz, hlt⟩ := nextTokenWith_progress e inp st hle'
    have hlt : st.pos < r.2.pos := hlt hk
    obtain ⟨ihpos, ihb, iht, iha⟩ := ih hsz
    obtain ⟨hend', hadv⟩ := (nextTokenWith_spec e hle').2 hk
    have hend : st.pos + (r.2.pos - st.pos) = r.2.pos := by omega
    refine ⟨?_, ?_, ?_, ?_⟩
    · rintro t (_ | ⟨_, ht⟩)
      · exact Nat.sub_pos_of_lt hlt
      · exact ihpos t ht
    · intro p hp
      simp only [boundaries, hend, List.mem_cons] at hp
      rcases hp with rfl | hp
      · exact ⟨hend', hlt, hsz⟩
      · exact ⟨(ihb p hp).1, by have := (ihb p hp).2.1; omega, (ihb p hp).2.2⟩
    · rw [totalLen_cons, ← Nat.add_assoc, hend]
      exact iht
    · rw [totalLen_cons, ← Nat.add_assoc, hend]
      exact fun he => (hadv he).trans (iha he)
  | case3 st hle' => exact absurd hle hle'

theorem lexAllWith_total_eq {e : Bool} {inp : Bytes} (st : LexState) (hle : st.pos ≤ inp.size)
    (h : e = false ∨ ∀ i, i < inp.size → nth inp i 0 ≠ EOF) :
    st.pos + totalLen (lexAllWith e inp st) = inp.size := by
  rcases (lexAllWith_run e inp st hle).stop with h1 | ⟨he, hlt, hz⟩
  · exact h1
  · rcases h with h | h
    · rw [h] at he; cases he
    · exact absurd hz (h _ hlt)

theorem lexAll_total_le_nul {inp : Bytes} {k : Nat} (hk : nth inp k 0 = EOF) : totalLen (lexAll inp) ≤ k := by
  have := ((lexAllWith_run true inp {} (Nat.zero_le _)).advance rfl).2 k hk (Nat.zero_le k)
  simpa [lexAll] using this

end Fontc.FeaLex
