/-
  For C19: the per-field pipelines.  Every arm of `fieldPipeline` emits the ideal value exactly on the representable
  source values (`pipeline_exact_iff`), for one of two reasons: it is a check (`Checks`: a test in front of the value
  whose failure stops the build; these are the closed fields), or an unchecked narrowing, and saturation, wrap-around
  and the 2.14 conversion fix exactly the values of the target range.  Exactness inside the range and rejection outside
  it are projections; boundaries and profile agreement are stated on the primitive and instantiated per field.
-/
import FontcProofs.Casts

namespace Fontc.Casts
open Fontc

/-- `o` is the outcome of a test for `P` in front of the value `x`; to fail is a panic or an error, never a fallback
    or another value. -/
structure Checks (o : Outcome) (x : Rat) (P : Prop) : Prop where
  exact : P → o = .ok x
  rejects : ¬ P → o.fails = true

theorem Checks.exact_iff {o : Outcome} {x : Rat} {P : Prop} (h : Checks o x P) : o = .ok x ↔ P :=
  ⟨fun e => Classical.byContradiction fun hn => (by have := h.rejects hn; rw [e] at this; cases this), h.exact⟩

theorem Checks.congr {o : Outcome} {x : Rat} {P Q : Prop} (h : Checks o x P) (hPQ : P ↔ Q) : Checks o x Q :=
  ⟨fun hq => h.exact (hPQ.2 hq), fun hq => h.rejects fun hp => hq (hPQ.1 hp)⟩

/-- A range check, `try_into` or `assert!`: the value behind a test whose failure stops the build. -/
theorem checks_guard {c : Prop} [Decidable c] {x : Rat} {bad : Outcome} (hbad : bad.fails = true) :
    Checks (if c then .ok x else bad) x c :=
  ⟨fun h => if_pos h, fun h => by rw [if_neg h]; exact hbad⟩

theorem ok_int_iff {s r : Int} : Outcome.ok (s : Rat) = .ok (r : Rat) ↔ s = r :=
  ⟨fun h => by injection h with h; exact Rat.intCast_inj.1 h, fun h => by rw [h]⟩

theorem ok_f2dot14_iff {s r : Int} : Outcome.ok ((s : Rat) / 16384) = .ok ((r : Rat) / 16384) ↔ s = r :=
  ⟨fun h => by
    injection h with h
    have : (s : Rat) = (r : Rat) := by grind
    exact Rat.intCast_inj.1 this, fun h => by rw [h]⟩

theorem subI16_exact_iff (p : Profile) (r : Int) : subI16 p r 0 = .ok r ↔ inI16 r := by
  unfold subI16; rw [Int.sub_zero]
  by_cases h : inI16 r
  · rw [if_pos h]; exact iff_of_true rfl h
  · rw [if_neg h]
    cases p
    · exact iff_of_false nofun h
    · exact ok_int_iff.trans wrapI16_eq_iff

theorem comp2x2_stored {v : Rat} {p : Profile} (h : -2 ≤ v ∧ v ≤ 2) :
    fieldPipeline .comp2x2 v p = .ok ((satI16 (roundHalfAway (v * 16384)) : Int) / 16384) := by
  rw [fieldPipeline, if_pos h, f2dot14ToRat, f2dot14FromF64_eq]

theorem comp2x2_exact_iff (v : Rat) (p : Profile) :
    fieldPipeline .comp2x2 v p = .ok (ideal .comp2x2 v) ↔ Representable .comp2x2 v := by
  by_cases hc : -2 ≤ v ∧ v ≤ 2
  · -- the lower half of `inI16` comes for free from `-2 ≤ v`
    rw [comp2x2_stored hc]
    exact ok_f2dot14_iff.trans <| satI16_eq_iff.trans
      ⟨fun h => ⟨hc.1, h.2⟩, fun h => ⟨roundHalfAway_scaled_ge hc.1, h.2⟩⟩
  · -- decomposed; and a representable entry is below 2
    rw [fieldPipeline, if_neg hc]
    refine iff_of_false nofun fun h => hc ⟨h.1, ?_⟩
    have := (roundHalfAway_scaled_le_iff v).1 h.2
    grind

/-- The closed fields are checks: the 13 behind the range checks of the fixes, and the 3 behind a checked
    conversion or an assert. -/
theorem closed_checks {f : Field} (hf : isOpen f = false) (v : Rat) (p : Profile) :
    Checks (fieldPipeline f v p) (ideal f v) (Representable f v) := by
  cases f
  case tsb | rsbExtent | compositeBbox | metricI16 | metricU16 | comp2x2 => cases hf
  case countU16 | compositeTotal => exact (checks_guard rfl).congr (inU16_cnt_iff v)
  case endPt =>
    have h0 := cnt_nonneg v
    constructor
    · intro ⟨h1, h2⟩
      rw [fieldPipeline, if_neg (by omega), if_pos h2]; rfl
    · intro h
      rw [fieldPipeline]
      by_cases hz : cnt v = 0
      · rw [if_pos hz]; rfl
      · rw [if_neg hz, if_neg (fun h2 => h ⟨by omega, h2⟩)]; rfl
  -- the other thirteen arms are, by unfolding, a test for `Representable` in front of the ideal value
  all_goals exact checks_guard rfl

theorem pipeline_exact_iff (f : Field) (v : Rat) (p : Profile) :
    fieldPipeline f v p = .ok (ideal f v) ↔ Representable f v := by
  cases hf : isOpen f
  · exact (closed_checks hf v p).exact_iff
  · cases f
    case tsb => exact subI16_exact_iff p v.floor
    case rsbExtent | compositeBbox | metricI16 => exact ok_int_iff.trans satI16_eq_iff
    case metricU16 => exact ok_int_iff.trans satU16_eq_iff
    case comp2x2 => exact comp2x2_exact_iff v p
    all_goals cases hf

theorem inrange_exact (f : Field) (v : Rat) (p : Profile) (h : Representable f v) :
    fieldPipeline f v p = .ok (ideal f v) :=
  (pipeline_exact_iff f v p).2 h

theorem roe_of_ok {f : Field} {v : Rat} {p : Profile} {w : Rat} (e : fieldPipeline f v p = .ok w) (hw : w = ideal f v) :
    RejectsOrExact f v p := by unfold RejectsOrExact; rw [e]; exact hw
theorem roe_of_panic {f : Field} {v : Rat} {p : Profile} (e : fieldPipeline f v p = .panic) :
    RejectsOrExact f v p := by unfold RejectsOrExact; rw [e]; trivial
theorem roe_of_err {f : Field} {v : Rat} {p : Profile} (e : fieldPipeline f v p = .err) :
    RejectsOrExact f v p := by unfold RejectsOrExact; rw [e]; trivial
theorem roe_of_fallback {f : Field} {v : Rat} {p : Profile} (e : fieldPipeline f v p = .fallback) :
    RejectsOrExact f v p := by unfold RejectsOrExact; rw [e]; trivial

theorem rejects_or_exact (f : Field) (hf : isOpen f = false) (v : Rat) (p : Profile) : RejectsOrExact f v p := by
  by_cases h : Representable f v
  · exact roe_of_ok (inrange_exact f v p h) rfl
  · have hfail := (closed_checks hf v p).rejects h
    cases e : fieldPipeline f v p with
    | panic => exact roe_of_panic e
    | err => exact roe_of_err e
    | ok w => rw [e] at hfail; cases hfail
    | fallback => rw [e] at hfail; cases hfail

theorem inrange_exact_old {f : Field} {v : Rat} {p : Profile} (h : Representable f v) :
    fieldPipelineOld f v p = .ok (ideal f v) := by
  cases f
  -- arms the fixes left as they were
  case tsb | rsbExtent | compositeBbox | metricI16 | metricU16 | comp2x2 | glyphCount | longMetricCount | numContours =>
    exact inrange_exact _ v p h
  case outlineCoord | compOffset | lsb | kernValue | anchorCoord | valueDelta | gvarDelta | hvarDelta =>
    exact ok_int_iff.2 (satI16_eq_iff.2 h)
  case pointDelta => exact (subI16_exact_iff p v.floor).2 h
  case advance => exact ok_int_iff.2 (satU16_eq_iff.2 h)
  case countU16 => exact ok_int_iff.2 (wrapU16_eq_iff.2 ((inU16_cnt_iff v).2 h))
  case compositeTotal =>
    have h : cnt v ≤ 65535 := h
    simp only [fieldPipelineOld, addU16, Int.zero_add, if_pos h, ideal]
  case endPt =>
    obtain ⟨h1, h2⟩ := h
    have hw : wrapU16 (cnt v) = cnt v := wrapU16_eq_iff.2 ⟨by omega, h2⟩
    simp only [fieldPipelineOld, subU16, hw, if_pos (show 0 ≤ cnt v - 1 by omega), ideal]

/-- An unchecked fixed-width operation (`c`: no overflow; trap in debug, wrapped value `y` in release). -/
theorem trap_eq_wrap_iff {c : Prop} [Decidable c] {x y : Rat} :
    (if c then Outcome.ok x else .panic) = (if c then .ok x else .ok y) ↔ c := by
  by_cases h : c
  · rw [if_pos h, if_pos h]; exact ⟨fun _ => h, fun _ => rfl⟩
  · rw [if_neg h, if_neg h]; exact ⟨fun e => (by cases e), fun hc => absurd hc h⟩

theorem profile_independent_old (f : Field) (v : Rat) (h : profileSensitiveOld f = false) :
    fieldPipelineOld f v .debug = fieldPipelineOld f v .release := by
  cases f
  case pointDelta | tsb | endPt | compositeTotal => cases h
  all_goals rfl

theorem profile_agree_iff_old (f : Field) (v : Rat) :
    fieldPipelineOld f v .debug = fieldPipelineOld f v .release ↔ ¬ OverflowsOld f v := by
  cases f
  case pointDelta | tsb => exact trap_eq_wrap_iff.trans (by rw [Int.sub_zero]; exact Classical.not_not.symm)
  case endPt =>
    have := wrapU16_range (cnt v)
    unfold inU16 at this
    exact trap_eq_wrap_iff.trans (by simp only [OverflowsOld]; omega)
  case compositeTotal => exact trap_eq_wrap_iff.trans (by simp only [OverflowsOld]; omega)
  all_goals exact ⟨fun _ h => h, fun _ => rfl⟩

theorem profile_independent {f : Field} {v : Rat} (h : profileSensitive f = false) :
    fieldPipeline f v .debug = fieldPipeline f v .release := by
  cases f
  case tsb => cases h
  all_goals rfl

theorem profile_agree_iff (f : Field) (v : Rat) :
    fieldPipeline f v .debug = fieldPipeline f v .release ↔ ¬ Overflows f v := by
  cases f
  case tsb => exact profile_agree_iff_old .tsb v
  all_goals exact ⟨fun _ h => h, fun _ => rfl⟩

theorem boundary_checkedI16 (v : Rat) :
    (inI16 (otRound v) ↔ (-32768 - 1/2 : Rat) ≤ v ∧ v < 32767 + 1/2) ∧
    checkedI16 (otRound 32767) = .ok 32767 ∧ checkedI16 (otRound (-32768)) = .ok (-32768) ∧
    ((32767 + 1/2 : Rat) ≤ v ∨ v < (-32768 - 1/2 : Rat) → checkedI16 (otRound v) = .err) := by
  refine ⟨inI16_otRound_iff v, by decide +kernel, by decide +kernel, fun hv => if_neg fun h => ?_⟩
  rcases hv with hv | hv
  · exact absurd h.2 (Int.not_le.2 ((otRound_gt_iff v 32767).2 hv))
  · exact absurd h.1 (Int.not_le.2 ((otRound_lt_iff v (-32768)).2 hv))

theorem boundary_checkedU16 (v : Rat) :
    (inU16 (otRound v) ↔ (-1/2 : Rat) ≤ v ∧ v < 65535 + 1/2) ∧
    checkedU16 (otRound 65535) = .ok 65535 ∧ checkedU16 (otRound 0) = .ok 0 ∧
    ((65535 + 1/2 : Rat) ≤ v ∨ v < (-1/2 : Rat) → checkedU16 (otRound v) = .err) := by
  refine ⟨inU16_otRound_iff v, by decide +kernel, by decide +kernel, fun hv => if_neg fun h => ?_⟩
  rcases hv with hv | hv
  · exact absurd h.2 (Int.not_le.2 ((otRound_gt_iff v 65535).2 hv))
  · exact absurd h.1 (Int.not_le.2 ((otRound_lt_iff v 0).2 (by grind)))

theorem boundary_otRoundI16 (v : Rat) :
    (inI16 (otRound v) ↔ (-32768 - 1/2 : Rat) ≤ v ∧ v < 32767 + 1/2) ∧
    Outcome.ok (otRoundI16 32767 : Int) = .ok 32767 ∧ Outcome.ok (otRoundI16 (-32768) : Int) = .ok (-32768) ∧
    ((32767 + 1/2 : Rat) ≤ v → Outcome.ok (otRoundI16 v : Int) = .ok 32767) ∧
    (v < (-32768 - 1/2 : Rat) → Outcome.ok (otRoundI16 v : Int) = .ok (-32768)) := by
  refine ⟨inI16_otRound_iff v, by decide +kernel, by decide +kernel, fun hv => ?_, fun hv => ?_⟩
  · rw [otRoundI16, satI16_above ((otRound_gt_iff v 32767).2 hv)]; rfl
  · rw [otRoundI16, satI16_below ((otRound_lt_iff v (-32768)).2 hv)]; rfl

theorem boundary_otRoundU16 (v : Rat) :
    (inU16 (otRound v) ↔ (-1/2 : Rat) ≤ v ∧ v < 65535 + 1/2) ∧
    Outcome.ok (otRoundU16 65535 : Int) = .ok 65535 ∧ Outcome.ok (otRoundU16 0 : Int) = .ok 0 ∧
    ((65535 + 1/2 : Rat) ≤ v → Outcome.ok (otRoundU16 v : Int) = .ok 65535) ∧
    (v < (-1/2 : Rat) → Outcome.ok (otRoundU16 v : Int) = .ok 0) := by
  refine ⟨inU16_otRound_iff v, by decide +kernel, by decide +kernel, fun hv => ?_, fun hv => ?_⟩
  · rw [otRoundU16, satU16_above ((otRound_gt_iff v 65535).2 hv)]; rfl
  · rw [otRoundU16, satU16_below ((otRound_lt_iff v 0).2 (by grind))]; rfl

/-- on [2 − 2⁻¹⁵, 2] the entry saturates to 0x7fff; fonttools does the same -/
theorem comp2x2_saturates {v : Rat} {p : Profile} (h1 : 2 - 1/32768 ≤ v) (h2 : v ≤ 2) :
    fieldPipeline .comp2x2 v p = .ok (32767 / 16384) := by
  have : ¬ roundHalfAway (v * 16384) ≤ 32767 := mt (roundHalfAway_scaled_le_iff v).1 (Rat.not_lt.2 h1)
  rw [comp2x2_stored ⟨Rat.le_trans (by decide +kernel) h1, h2⟩, satI16_above (by omega)]; rfl

theorem comp2x2_fallback {v : Rat} {p : Profile} (h : v < -2 ∨ 2 < v) : fieldPipeline .comp2x2 v p = .fallback := by
  rw [fieldPipeline, if_neg fun hc => h.elim (fun a => Rat.not_le.2 a hc.1) (fun a => Rat.not_le.2 a hc.2)]

/-- half a 2.14 step (2⁻¹⁴) when the entry is rounded, a whole one at most when it saturates -/
theorem comp2x2_within_ulp {v : Rat} {p : Profile} (w : Rat) (hw : fieldPipeline .comp2x2 v p = .ok w) :
    ratAbs (w - v) ≤ 1 / 16384 := by
  by_cases hc : -2 ≤ v ∧ v ≤ 2
  · rw [comp2x2_stored hc] at hw
    injection hw with hw
    rw [← hw]
    rw [← ratAbs_mul_right_le_iff (s := 16384) (by decide), Rat.div_mul_cancel (by decide)]
    by_cases hr : roundHalfAway (v * 16384) ≤ 32767
    · rw [satI16_eq_iff.2 ⟨roundHalfAway_scaled_ge hc.1, hr⟩]
      exact Rat.le_trans (roundHalfAway_nearest _) (by decide +kernel)
    · have := mt (roundHalfAway_scaled_le_iff v).2 hr
      rw [satI16_above (by omega), ratAbs_le_iff]
      constructor <;> grind
  · rw [fieldPipeline, if_neg hc] at hw; cases hw

end Fontc.Casts
