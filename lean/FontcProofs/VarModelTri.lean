/-
  C07 assembly: the model built by `Model.new` is `Triangular`, for every input.  T3 of FontcProofs/VarModelGeom.lean
  asks for equal lengths, distinct entries and non-decreasing ranks (T1, T2 for nothing); FontcProofs/VarModelSort.lean
  gives them of `sortLocs`.  This discharges the hypothesis of FontcProofs/VarModelAlg.lean.
-/
import FontcProofs.VarModelAlg
import FontcProofs.VarModelSort
import FontcProofs.VarModelGeom

namespace Fontc.VarModel
open Fontc

theorem triangular_of_rank_sorted {n : Nat} {locs : List Loc}
    (H1 : ∀ l ∈ locs, l.length = n) (H2 : locs.Pairwise (· ≠ ·))
    (H3 : locs.Pairwise (fun a b => rank a ≤ rank b)) :
    Triangular (masterInfluence (regionsFor locs)) locs :=
  ⟨masterInfluence_length locs,
   masterInfluence_self_scalar,
   fun i j r l hij => masterInfluence_triangular H1 H2 H3 i j hij r l⟩

/-- No hypothesis on the input: `Model.new` itself fits the locations to `n` axes and drops duplicates. -/
theorem Model.triangular (n : Nat) (locs : List Loc) :
    Triangular (Model.new n locs).influence (Model.new n locs).locations :=
  triangular_of_rank_sorted (sortLocs_forall fitted_length) (sortLocs_nodup (nodup_eraseDups _))
    (sortLocs_rank_sorted _)

theorem Model.new_reproduces_at (rb : Rounding) {n : Nat} {locs : List Loc} (hlen : ∀ l ∈ locs, l.length = n)
    (hnd : locs.Pairwise (· ≠ ·)) {vals : Values} (hvl : vals.length = (Model.new n locs).locations.length)
    {loc : Loc} (hloc : loc ∈ locs) {v : Rat}
    (hv : ∀ m : Nat, (Model.new n locs).locations[m]? = some loc → vals[m]? = some (some v)) :
    ratAbs (interpolate (Model.new n locs).influence ((Model.new n locs).deltas rb.apply vals) loc - v) ≤ 1/2 := by
  have hmem : loc ∈ (Model.new n locs).locations := by
    rw [Model.new_locations n locs hlen hnd]; exact (mem_sortLocs locs loc).mpr hloc
  obtain ⟨m, hm⟩ := List.getElem?_of_mem hmem
  exact deltas_reproduce_rounding rb (Model.triangular n locs) hvl hm (hv m hm)

theorem Model.new_default_at {n : Nat} {locs : List Loc} (hlen : ∀ l ∈ locs, l.length = n)
    (hnd : locs.Pairwise (· ≠ ·)) (hz : List.replicate n 0 ∈ locs) (round : Rat → Rat) {vals : Values}
    (hvl : vals.length = (Model.new n locs).locations.length) {v : Rat} (hv : vals[0]? = some (some v)) :
    interpolate (Model.new n locs).influence ((Model.new n locs).deltas round vals) (List.replicate n 0) = round v :=
  default_exact _ _ _ vals (Model.triangular n locs) hvl _ v (Model.new_locations_zero hlen hnd hz) hv

/-- No hypothesis on lengths or duplicates: `fit` pads with 0, which is in the range. -/
theorem Model.new_regions_valid {n : Nat} {locs : List Loc} (hrange : ∀ l ∈ locs, ∀ x ∈ l, -1 ≤ x ∧ x ≤ 1) :
    ∀ r ∈ (Model.new n locs).influence, ∀ t ∈ r, t.wellFormed = true := by
  intro r hr t ht
  refine masterInfluence_wellFormed (sortLocs_forall (fitted_forall fun l' hl' x hx => ?_)) hr t ht
  rcases List.mem_append.1 (List.mem_of_mem_take hx) with h | h
  · exact hrange l' hl' x h
  · rw [(List.mem_replicate.1 h).2]; decide

end Fontc.VarModel
