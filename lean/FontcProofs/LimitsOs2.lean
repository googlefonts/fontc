/- C17, OS/2 derived fields: the average width read off the compressed hmtx is that of all glyphs; the Unicode range table
   holds a codepoint in at most one entry, which for non-empty ranges is a test between neighbours. -/
import FontcModel.Limits
import FontcProofs.ListFacts

namespace Fontc.Limits

/-- the advances that `x_avg_char_width` counts -/
def nonZero (advs : List Nat) : List Nat := advs.filter (· != 0)

theorem nonZero_length_le_sum (xs : List Nat) : (nonZero xs).length ≤ (nonZero xs).sum := by
  unfold nonZero
  induction xs with
  | nil => simp
  | cons x xs ih =>
    by_cases hx : x = 0
    · subst hx
      rw [List.filter_cons_of_neg (by simp)]
      exact ih
    · have : (x != 0) = true := by simp [hx]
      simp only [List.filter_cons, this, if_true, List.length_cons, List.sum_cons]; omega

theorem avgCountTotal_expand (longs : List LongMetric) (lsbs : List Int) :
    avgCountTotal longs (longs.length + lsbs.length) =
      ((nonZero ((hmtxExpand longs lsbs).map (·.advance))).length,
       (nonZero ((hmtxExpand longs lsbs).map (·.advance))).sum) := by
  unfold avgCountTotal hmtxExpand nonZero
  cases hl : longs.getLast? with
  | none =>
    have : longs = [] := List.getLast?_eq_none_iff.1 hl
    subst this; simp
  | some l =>
    simp only [Option.map_some, Option.getD_some, List.map_append, List.map_map, List.filter_append,
      List.length_append, List.sum_append, Nat.add_sub_cancel_left]
    have hmap : (lsbs.map ((fun (x : LongMetric) => x.advance) ∘ fun sb => (⟨l.advance, sb⟩ : LongMetric)))
        = List.replicate lsbs.length l.advance := by
      simp only [Function.comp_def]; exact List.map_const'
    rw [hmap, List.filter_replicate]
    by_cases h0 : l.advance = 0
    · simp [h0]
    · have hpos : l.advance > 0 := by omega
      simp [h0, hpos, List.sum_replicate_nat]

theorem foldl_minmax (cps : List Nat) (a b : Nat) :
    cps.foldl (fun (acc : Nat × Nat) cp => (min cp acc.1, max cp acc.2)) (a, b) =
      (cps.foldl min a, cps.foldl max b) := by
  induction cps generalizing a b with
  | nil => rfl
  | cons c cs ih =>
    simp only [List.foldl_cons, ih]
    rw [Nat.min_comm c a, Nat.max_comm c b]

theorem unicodeRanges_wf : ∀ r ∈ unicodeRanges, r.1 ≤ r.2.1 ∧ r.2.2 < 128 := by decide +kernel

/-- The ranges are non-empty, so the ends increase along the list and each range ends before every later one begins. -/
theorem pairwise_of_adjacent {l : List (Nat × Nat × Nat)} (hw : ∀ r ∈ l, r.1 ≤ r.2.1)
    (hadj : ∀ p ∈ l.zip l.tail, p.1.2.1 < p.2.1) :
    List.Pairwise (fun (r1 r2 : Nat × Nat × Nat) => r1.2.1 < r2.1) l := by
  induction l with
  | nil => exact List.Pairwise.nil
  | cons a rest ih =>
    cases rest with
    | nil => exact List.pairwise_singleton _ _
    | cons b rest =>
      have hrest := ih (fun r hr => hw r (List.mem_cons_of_mem _ hr))
        (fun p hp => hadj p (List.mem_cons_of_mem _ hp))
      have hab : a.2.1 < b.1 := hadj (a, b) List.mem_cons_self
      have hb : b.1 ≤ b.2.1 := hw b (List.mem_cons_of_mem _ List.mem_cons_self)
      refine List.pairwise_cons.2 ⟨fun r hr => ?_, hrest⟩
      rcases List.mem_cons.1 hr with rfl | hr
      · exact hab
      · have := (List.pairwise_cons.1 hrest).1 r hr
        omega

theorem unicodeRanges_pairwise :
    List.Pairwise (fun (r1 r2 : Nat × Nat × Nat) => r1.2.1 < r2.1) unicodeRanges :=
  pairwise_of_adjacent (fun r hr => (unicodeRanges_wf r hr).1) (by decide +kernel)

theorem unique_of_pairwise {l : List (Nat × Nat × Nat)}
    (hp : List.Pairwise (fun (r1 r2 : Nat × Nat × Nat) => r1.2.1 < r2.1) l) (cp : Nat) :
    ∀ r1 ∈ l, ∀ r2 ∈ l, (decide (r1.1 ≤ cp) && decide (cp ≤ r1.2.1)) = true →
      (decide (r2.1 ≤ cp) && decide (cp ≤ r2.2.1)) = true → r1 = r2 := by
  induction hp with
  | nil => intro r1 h1; cases h1
  | cons ha _ ih =>
    intro r1 h1 r2 h2 c1 c2
    simp only [Bool.and_eq_true, decide_eq_true_eq] at c1 c2
    rcases List.mem_cons.1 h1 with rfl | h1' <;> rcases List.mem_cons.1 h2 with rfl | h2'
    · rfl
    · have := ha r2 h2'; omega
    · have := ha r1 h1'; omega
    · exact ih r1 h1' r2 h2' (by simpa using c1) (by simpa using c2)

theorem mem_unicodeRangeBitsOf (cp b : Nat) :
    b ∈ unicodeRangeBitsOf cp ↔
      (∃ r ∈ unicodeRanges, r.2.2 = b ∧ r.1 ≤ cp ∧ cp ≤ r.2.1) ∨ (b = 57 ∧ 0x10000 ≤ cp ∧ cp ≤ 0x10FFFF) := by
  unfold unicodeRangeBitsOf
  rw [List.mem_append]
  refine or_congr ?_ (by split <;> simp [*])
  have hf := find?_eq_some_iff_of_unique (unique_of_pairwise unicodeRanges_pairwise cp)
  -- the table's bit is that of the entry found, and the entry found is the one that holds `cp`
  refine Iff.trans (b := ∃ r, unicodeRanges.find? (fun r => decide (r.1 ≤ cp) && decide (cp ≤ r.2.1)) = some r ∧ r.2.2 = b)
    (by cases unicodeRanges.find? (fun r => decide (r.1 ≤ cp) && decide (cp ≤ r.2.1)) <;> simp [eq_comm])
    (exists_congr fun r => ?_)
  simp only [hf, Bool.and_eq_true, decide_eq_true_eq]
  exact ⟨fun ⟨⟨a, c⟩, d⟩ => ⟨a, d, c⟩, fun ⟨a, d, c⟩ => ⟨⟨a, c⟩, d⟩⟩

theorem mem_bitSet (bits : List Nat) (b : Nat) : b ∈ bitSet bits ↔ b < 128 ∧ b ∈ bits := by
  simp [bitSet]

end Fontc.Limits
