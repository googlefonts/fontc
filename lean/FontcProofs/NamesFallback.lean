/-
  C18: `NameBuilder::build` (statement by statement) computes the declarative fallback rules, and front-end `add`
  sequences give unique ids.
-/
import FontcProofs.NamesAssoc

namespace Fontc.Names

@[simp] theorem Builder.add_major (b : Builder) (i : Nat) (v : Str) : (b.add i v).major = b.major := rfl
@[simp] theorem Builder.add_minor (b : Builder) (i : Nat) (v : Str) : (b.add i v).minor = b.minor := rfl

theorem Builder.get_add (b : Builder) (i j : Nat) (v : Str) :
    (b.add i v).get j = if j = i then some (normCR v) else b.get j := by
  simp [Builder.get, Builder.add, alookup_ainsert, eq_comm]

theorem Builder.get_remove (b : Builder) (i j : Nat) :
    (b.remove i).get j = if j = i then none else b.get j := by
  simp [Builder.get, Builder.remove, alookup_aerase, eq_comm]

theorem Builder.has_eq (b : Builder) (i : Nat) : b.has i = (b.get i).isSome := rfl

theorem Builder.add_nodup (b : Builder) {i : Nat} {v : Str} (h : (akeys b.names).Nodup) : (akeys (b.add i v).names).Nodup :=
  akeys_ainsert_nodup h

theorem Builder.remove_nodup {b : Builder} {i : Nat} (h : (akeys b.names).Nodup) : (akeys (b.remove i).names).Nodup :=
  akeys_aerase_nodup h

@[simp] theorem Builder.ensure_major (b : Builder) (i : Nat) (v : Str) : (b.ensure i v).major = b.major := by
  unfold Builder.ensure; split <;> rfl
@[simp] theorem Builder.ensure_minor (b : Builder) (i : Nat) (v : Str) : (b.ensure i v).minor = b.minor := by
  unfold Builder.ensure; split <;> rfl

theorem Builder.get_ensure (b : Builder) (i j : Nat) (v : Str) :
    (b.ensure i v).get j = if j = i then some ((b.get i).getD (normCR v)) else b.get j := by
  unfold Builder.ensure
  rw [Builder.has_eq]
  cases h : b.get i with
  | none =>
    simp only [Option.isSome_none, Bool.false_eq_true, if_false, Builder.get_add, Option.getD_none]
  | some w =>
    simp only [Option.isSome_some, if_true, Option.getD_some]
    split
    · next e => rw [e, h]
    · rfl

theorem Builder.ensure_nodup {b : Builder} {i : Nat} {v : Str} (h : (akeys b.names).Nodup) :
    (akeys (b.ensure i v).names).Nodup := by
  unfold Builder.ensure; split
  · exact h
  · exact Builder.add_nodup _ h

theorem Builder.applyFallback_of_some {b : Builder} (i : Nat) {fb : Nat} {w : Str} (h : b.get fb = some w) :
    b.applyFallback i [fb] = b.ensure i w := by
  unfold Builder.applyFallback Builder.ensure Builder.fallbackOrDefault
  simp [h]

theorem Builder.get_applyFallback (b : Builder) (i fb j : Nat) (w : Str) (h : b.get fb = some w) :
    (b.applyFallback i [fb]).get j = if j = i then some ((b.get i).getD (normCR w)) else b.get j := by
  rw [Builder.applyFallback_of_some i h, Builder.get_ensure]

theorem Builder.applyFallback_nodup {b : Builder} {i : Nat} {fbs : List Nat} (h : (akeys b.names).Nodup) :
    (akeys (b.applyFallback i fbs).names).Nodup := by
  unfold Builder.applyFallback
  split
  · exact h
  · split
    · exact Builder.add_nodup _ h
    · exact h

@[simp] theorem Builder.applyFallback_major (b : Builder) (i : Nat) (fbs : List Nat) :
    (b.applyFallback i fbs).major = b.major := by
  unfold Builder.applyFallback; split
  · rfl
  · split <;> rfl
@[simp] theorem Builder.applyFallback_minor (b : Builder) (i : Nat) (fbs : List Nat) :
    (b.applyFallback i fbs).minor = b.minor := by
  unfold Builder.applyFallback; split
  · rfl
  · split <;> rfl

theorem Builder.fallbackString_eq (b : Builder) (i fb : Nat) :
    b.fallbackString i fb = (b.get fb).getD ((defaultValue i).getD []) := by
  unfold Builder.fallbackString Builder.fallbackOrDefault
  cases h : b.get fb <;> simp [h]

/-- the final `retain` of `build` -/
theorem Builder.lookup_retain {b : Builder} (h : (akeys b.names).Nodup) (id : Nat) :
    alookup id (b.names.filter fun p => !p.2.isEmpty) = (b.get id).filter fun v => !v.isEmpty :=
  alookup_filter_val (fun v => !v.isEmpty) id h

/-- The proof walks the statements of `build` (`b2`, `b1`, … are the builder after the statement that sets that id) beside
    the `let`s of `fallbackSpec` (`id2`, `id1`, …): after each statement the lookup function is the previous one updated
    at one id with the specification's value, because every value a statement reads was set by an earlier one. -/
theorem build_lookup (b : Builder) (vendor : Str) (hn : (akeys b.names).Nodup) (id : Nat) :
    alookup id (b.build vendor) = (fallbackSpec b.get b.major b.minor vendor).get b.get id := by
  unfold Builder.build fallbackSpec
  extract_lets fs suffix b2 ff b1 b16 b17 b5 b4 fam sub fam' b6 b3 bE style id2 sfx id1 id16 id17 id5 id4 id6 id3
  have hfs : fs = style := by
    simp only [fs, style, Builder.fallbackString_eq, defaultValue]; rfl
  have g2 : ∀ j, b2.get j = if j = 2 then some id2 else b.get j := fun j => by
    simp only [b2, id2, Builder.get_ensure, hfs]
  have g1 : ∀ j, b1.get j = if j = 1 then some id1 else b2.get j := fun j => by
    have hff : ff = (b.get 16).getD (lit "New Font") := by
      simp [ff, Builder.fallbackString_eq, g2, defaultValue]
    simp only [b1, id1, Builder.get_ensure, suffix, sfx, Builder.has_eq, hfs, hff]
    by_cases hc : ((b.get 2).isSome || isRibbi style || style.isEmpty) = true <;> simp [hc, g2]
  have g16 : ∀ j, b16.get j = if j = 16 then some id16 else b1.get j := fun j => by
    simp only [b16, id16, Builder.get_applyFallback b1 16 1 j id1 (by simp [g1]), g1, g2, Nat.reduceEqDiff,
      ↓reduceIte]
  have g17 : ∀ j, b17.get j = if j = 17 then some id17 else b16.get j := fun j => by
    simp only [b17, id17, Builder.get_applyFallback b16 17 2 j id2 (by simp [g16, g1, g2]), g16, g1, g2,
      Nat.reduceEqDiff, ↓reduceIte]
  have g5 : ∀ j, b5.get j = if j = 5 then some id5 else b17.get j := fun j => by
    have hM : b17.major = b.major := by simp [b17, b16, b1, b2]
    have hm : b17.minor = b.minor := by simp [b17, b16, b1, b2]
    simp only [b5, id5, Builder.get_ensure, hM, hm, g17, g16, g1, g2, Nat.reduceEqDiff, ↓reduceIte]
  have g4 : ∀ j, b4.get j = if j = 4 then some id4 else b5.get j := fun j => by
    simp only [b4, id4, Builder.get_ensure, g5, g17, g16, g1, g2, Nat.reduceEqDiff, ↓reduceIte, Option.getD_some]
  have g6 : ∀ j, b6.get j = if j = 6 then some id6 else b4.get j := fun j => by
    simp only [b6, fam', fam, sub, id6, Builder.get_ensure, g4, g5, g17, g16, g1, g2, Nat.reduceEqDiff, ↓reduceIte,
      Option.getD_some]
  have g3 : ∀ j, b3.get j = if j = 3 then some id3 else b6.get j := fun j => by
    simp only [b3, id3, Builder.get_ensure, g6, g4, g5, g17, g16, g1, g2, Nat.reduceEqDiff, ↓reduceIte,
      Option.getD_some]
  have n3 : (akeys b3.names).Nodup := by
    have n2 : (akeys b2.names).Nodup := Builder.ensure_nodup hn
    have n1 : (akeys b1.names).Nodup := Builder.ensure_nodup n2
    have n16 : (akeys b16.names).Nodup := Builder.applyFallback_nodup n1
    have n17 : (akeys b17.names).Nodup := Builder.applyFallback_nodup n16
    have n5 : (akeys b5.names).Nodup := Builder.ensure_nodup n17
    have n4 : (akeys b4.names).Nodup := Builder.ensure_nodup n5
    have n6 : (akeys b6.names).Nodup := Builder.ensure_nodup n4
    exact Builder.ensure_nodup n6
  have nE : (akeys bE.names).Nodup := by
    simp only [bE]; split
    · exact Builder.remove_nodup (Builder.remove_nodup n3)
    · exact n3
  have gAll : ∀ j, b3.get j = if j = 3 then some id3 else if j = 6 then some id6 else if j = 4 then some id4
      else if j = 5 then some id5 else if j = 17 then some id17 else if j = 16 then some id16
      else if j = 1 then some id1 else if j = 2 then some id2 else b.get j := fun j => by
    simp only [g3, g6, g4, g5, g17, g16, g1, g2]
  have gE : ∀ j, bE.get j = if (id1 == id16 && id2 == id17) = true
      then (if j = 17 then none else if j = 16 then none else b3.get j) else b3.get j := fun j => by
    have e : ((b3.get 1).isSome && (b3.get 2).isSome && b3.get 1 == b3.get 16 && b3.get 2 == b3.get 17) =
        (id1 == id16 && id2 == id17) := by simp [gAll]
    simp only [bE, e, apply_ite (fun c : Builder => c.get j), Builder.get_remove]
  rw [Builder.lookup_retain nE]
  unfold FallbackSpec.get
  simp only [gE, gAll]
  congr 1
  by_cases h1 : id = 1
  · simp [h1]
  by_cases h2 : id = 2
  · simp [h2]
  by_cases h3 : id = 3
  · simp [h3]
  by_cases h4 : id = 4
  · simp [h4]
  by_cases h5 : id = 5
  · simp [h5]
  by_cases h6 : id = 6
  · simp [h6]
  by_cases h16 : id = 16
  · simp [h16]
  by_cases h17 : id = 17
  · simp [h17]
  simp [h1, h2, h3, h4, h5, h6, h16, h17]

theorem ofAdds_nodup (adds : List (Nat × Str)) (major : Int) (minor : Nat) :
    (akeys (Builder.ofAdds adds major minor).names).Nodup :=
  List.foldlRecOn adds _ (motive := fun b => (akeys b.names).Nodup) (by simp [akeys])
    fun b h _ _ => Builder.add_nodup b h

end Fontc.Names
