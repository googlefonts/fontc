/-
  C11 simulation: `set_lookup_flag` — the compiled flag is the code of the source flag under
  the id tables, which like the lookup lists only grow (`Grew`); codes are functional and injective.
-/
import FontcProofs.FeaSimBasic
import FontcProofs.FeaFlags

namespace Fontc.FeaCompile
open Cmp

/-- no class stands twice in an id table, so a class has one id -/
def IdsInv (s : St) : Prop := s.attachIds.Nodup ∧ s.filterIds.Nodup

theorem getElem?_snoc_length {α : Type} (l : List α) (c : α) : (l ++ [c])[l.length]? = some c := by simp

/-- `resolve_mark_attach_class` / `resolve_mark_filter_set` for the optional class of a `lookupflag`
    statement: the id table after, and the id -/
def resolveOpt (l : List (List Glyph)) (c : Option (List Glyph)) : List (List Glyph) × Option Nat :=
  match c.map sortedSet with
  | none => (l, none)
  | some c =>
    match l.idxOf? c with
    | some i => (l, some i)
    | none => (l ++ [c], some l.length)

theorem resolveOpt_spec {l : List (List Glyph)} (c : Option (List Glyph)) (hl : l.Nodup) :
    (resolveOpt l c).1.Nodup ∧ (∃ a, (resolveOpt l c).1 = l ++ a ∧ ∀ x ∈ a, c.map sortedSet = some x) ∧
    match c with
    | none => (resolveOpt l c).2 = none
    | some c => ∃ i, (resolveOpt l c).2 = some i ∧ (resolveOpt l c).1[i]? = some (sortedSet c) := by
  unfold resolveOpt
  cases c with
  | none => exact ⟨hl, ⟨[], by simp, by simp⟩, rfl⟩
  | some c =>
    simp only [Option.map_some]
    cases hq : l.idxOf? (sortedSet c) with
    | some i => exact ⟨hl, ⟨[], by simp, by simp⟩, i, rfl, getElem?_of_idxOf?_eq_some hq⟩
    | none => exact ⟨nodup_snoc hl (List.idxOf?_eq_none_iff.mp hq), ⟨[_], rfl, by simp⟩, _, rfl, by simp⟩

theorem setLookupFlag_eq (s : St) (f : Flag) :
    s.setLookupFlag f =
      { s with attachIds := (resolveOpt s.attachIds f.attach).1, filterIds := (resolveOpt s.filterIds f.filter).1,
               flag := (flagBits f + 256 * ((resolveOpt s.attachIds f.attach).2.map (· + 1)).getD 0
                         + (if f.filter.isSome then 16 else 0), (resolveOpt s.filterIds f.filter).2) } := by
  obtain ⟨rtl, ib, il, im, att, fil⟩ := f
  cases att <;> cases fil <;>
    simp only [St.setLookupFlag, resolveOpt, flagBits, Option.map_some, Option.map_none, Option.getD_none,
      Option.isSome_some, Option.isSome_none]
  · rfl
  · rename_i c; cases s.filterIds.idxOf? (sortedSet c) <;> rfl
  · rename_i ca; cases s.attachIds.idxOf? (sortedSet ca) <;> rfl
  · rename_i ca c
    cases s.attachIds.idxOf? (sortedSet ca) <;> cases s.filterIds.idxOf? (sortedSet c) <;> rfl

/-- the two lookup lists and the two id tables of `s'` are those of `s` with entries appended -/
def Grew (s s' : St) : Prop :=
  (∃ g, s'.gsub = s.gsub ++ g) ∧ (∃ p, s'.gpos = s.gpos ++ p) ∧
  (∃ a, s'.attachIds = s.attachIds ++ a) ∧ (∃ f, s'.filterIds = s.filterIds ++ f)

theorem Grew.refl (s : St) : Grew s s := ⟨⟨[], by simp⟩, ⟨[], by simp⟩, ⟨[], by simp⟩, ⟨[], by simp⟩⟩

theorem Grew.trans {a b c : St} (h1 : Grew a b) (h2 : Grew b c) : Grew a c := by
  obtain ⟨⟨g1, e1⟩, ⟨p1, e2⟩, ⟨a1, e3⟩, ⟨f1, e4⟩⟩ := h1
  obtain ⟨⟨g2, d1⟩, ⟨p2, d2⟩, ⟨a2, d3⟩, ⟨f2, d4⟩⟩ := h2
  exact ⟨⟨g1 ++ g2, by rw [d1, e1, List.append_assoc]⟩, ⟨p1 ++ p2, by rw [d2, e2, List.append_assoc]⟩,
    ⟨a1 ++ a2, by rw [d3, e3, List.append_assoc]⟩, ⟨f1 ++ f2, by rw [d4, e4, List.append_assoc]⟩⟩

/-- the fields the statements of a lookup block leave alone: they change the flag in force, the id
    tables and the current lookup -/
structure SameLookups (s s' : St) : Prop where
  gsub : s'.gsub = s.gsub
  gpos : s'.gpos = s.gpos
  curName : s'.curName = s.curName
  named : s'.named = s.named
  langsys : s'.langsys = s.langsys
  active : s'.active = s.active
  script : s'.script = s.script
  features : s'.features = s.features

theorem SameLookups.refl (s : St) : SameLookups s s := ⟨rfl, rfl, rfl, rfl, rfl, rfl, rfl, rfl⟩

theorem SameLookups.trans {a b c : St} (h1 : SameLookups a b) (h2 : SameLookups b c) : SameLookups a c :=
  ⟨h2.gsub.trans h1.gsub, h2.gpos.trans h1.gpos, h2.curName.trans h1.curName, h2.named.trans h1.named,
    h2.langsys.trans h1.langsys, h2.active.trans h1.active, h2.script.trans h1.script, h2.features.trans h1.features⟩

theorem setLookupFlag_cur (s : St) (f : Flag) : (s.setLookupFlag f).cur = s.cur := by
  rw [setLookupFlag_eq]

theorem setLookupFlag_spec {s : St} (f : Flag) (hi : IdsInv s) :
    FlagCode (s.setLookupFlag f).attachIds (s.setLookupFlag f).filterIds (s.setLookupFlag f).flag f ∧
    IdsInv (s.setLookupFlag f) ∧ Grew s (s.setLookupFlag f) ∧ SameLookups s (s.setLookupFlag f) ∧
    ∀ U : List (List Glyph), (∀ c ∈ s.attachIds, c ∈ U) → (∀ c, f.attach = some c → sortedSet c ∈ U) →
      ∀ c ∈ (s.setLookupFlag f).attachIds, c ∈ U := by
  obtain ⟨ha, hf⟩ := hi
  rw [setLookupFlag_eq]
  obtain ⟨a1, ⟨a', a2, a2'⟩, a3⟩ := resolveOpt_spec f.attach ha
  obtain ⟨f1, ⟨f', f2, _⟩, f3⟩ := resolveOpt_spec f.filter hf
  -- the attachment class id is 0 for none, the filtering bit is set when there is a filtering set
  refine ⟨⟨((resolveOpt s.attachIds f.attach).2.map (· + 1)).getD 0, if f.filter.isSome then 1 else 0, ?_, ?_, ?_⟩, ⟨a1, f1⟩, ⟨⟨[], by simp⟩, ⟨[], by simp⟩, ⟨a', a2⟩, ⟨f', f2⟩⟩,
    ⟨rfl, rfl, rfl, rfl, rfl, rfl, rfl, rfl⟩, fun U hU hfU c hc => ?_⟩
  · cases f.filter <;> simp <;> omega
  · cases hfa : f.attach with
    | none => rw [hfa] at a3; simp [a3]
    | some c => rw [hfa] at a3; obtain ⟨i, hi, hg⟩ := a3; exact ⟨i, by simp [hi], hg⟩
  · cases hff : f.filter with
    | none => rw [hff] at f3; exact ⟨rfl, f3⟩
    | some c => rw [hff] at f3; exact ⟨rfl, f3⟩
  · rcases List.mem_append.mp (a2 ▸ hc) with h | h
    · exact hU c h
    · obtain ⟨c0, hc0, rfl⟩ := Option.map_eq_some_iff.mp (a2' c h)
      exact hfU c0 hc0

/-- the flag after `clearFlags` -/
theorem flagCode_empty {A F : List (List Glyph)} : FlagCode A F (0, none) {} :=
  ⟨0, 0, by simp [flagBits], by simp, by simp⟩

/-- attachment classes and filtering sets are written as sorted sets -/
def FlagNorm (f : Flag) : Prop :=
  (∀ c, f.attach = some c → sortedSet c = c) ∧ (∀ c, f.filter = some c → sortedSet c = c)

theorem FlagCode.functional {A F : List (List Glyph)} {cf cf' : CFlag} {f : Flag} (hA : A.Nodup) (hF : F.Nodup)
    (h : FlagCode A F cf f) (h' : FlagCode A F cf' f) : cf = cf' := by
  obtain ⟨ka, x, h1, h2, h3⟩ := h
  obtain ⟨ka', x', h1', h2', h3'⟩ := h'
  -- an id is the position of the class in a table without repetitions, so the class determines it
  have hka : ka = ka' := by
    cases hfa : f.attach with
    | none => simp [hfa] at h2 h2'; omega
    | some c =>
      simp only [hfa] at h2 h2'
      obtain ⟨j, hj, hg⟩ := h2
      obtain ⟨j', hj', hg'⟩ := h2'
      have := nodup_getElem?_inj hA hg hg'
      omega
  cases hff : f.filter with
  | none =>
    simp only [hff] at h3 h3'
    apply Prod.ext
    · rw [h1, h1', hka, h3.1, h3'.1]
    · rw [h3.2, h3'.2]
  | some c =>
    simp only [hff] at h3 h3'
    obtain ⟨hx, i, hi, hg⟩ := h3
    obtain ⟨hx', i', hi', hg'⟩ := h3'
    have := nodup_getElem?_inj hF hg hg'
    apply Prod.ext
    · rw [h1, h1', hka, hx, hx']
    · rw [hi, hi', this]

/-- the source flag a compiled flag stands for under the id tables -/
def decodeFlag (A F : List (List Glyph)) (cf : CFlag) : Flag :=
  { rtl := cf.1 % 2 == 1, ib := cf.1 / 2 % 2 == 1, il := cf.1 / 4 % 2 == 1, im := cf.1 / 8 % 2 == 1,
    attach := if cf.1 / 256 = 0 then none else A[cf.1 / 256 - 1]?,
    filter := cf.2.bind (F[·]?) }

/-- The flag word is a positional numeral: four bits, the filtering bit `x`, the attachment class id
    `ka` from bit 8 on (`bits_decode`).  Normalised classes are then read back from the id tables. -/
theorem FlagCode.decode {A F : List (List Glyph)} {cf : CFlag} {f : Flag} (hn : FlagNorm f)
    (h : FlagCode A F cf f) : f = decodeFlag A F cf := by
  obtain ⟨ka, x, h1, h2, h3⟩ := h
  have hx : x ≤ 1 := by cases hff : f.filter <;> simp [hff] at h3 <;> omega
  obtain ⟨d1, d2, d4, d8, _, d256⟩ := bits_decode f ka hx
  rw [← h1] at d1 d2 d4 d8 d256
  obtain ⟨rtl, ib, il, im, att, fil⟩ := f
  simp only at d1 d2 d4 d8 h2 h3
  simp only [decodeFlag, d1, d2, d4, d8, d256, Flag.mk.injEq, true_and]
  constructor
  · cases att with
    | none => simp [show ka = 0 from h2]
    | some c =>
      obtain ⟨j, rfl, hg⟩ := h2
      simp [hg, hn.1 c rfl]
  · cases fil with
    | none => simp [h3.2]
    | some c =>
      obtain ⟨_, i, hi, hg⟩ := h3
      simp [hi, hg, hn.2 c rfl]

theorem FlagCode.injective {A F : List (List Glyph)} {cf : CFlag} {f f' : Flag}
    (hn : FlagNorm f) (hn' : FlagNorm f')
    (h : FlagCode A F cf f) (h' : FlagCode A F cf f') : f = f' :=
  (h.decode hn).trans (h'.decode hn').symm

end Fontc.FeaCompile
