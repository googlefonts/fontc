/-
  `string_to_filename` (FontcModel/Paths.lean) is injective, also up to ASCII case folding; it keeps a
  plain beginning of the name and never produces '/'.
-/
import FontcModel.Paths
import FontcProofs.ListFacts

namespace Fontc.Paths

/-- A string literal is `String.ofList` of its characters by unfolding alone, for the kernel and for the unifier
    (through which `simp -index` matches), whereas evaluating `String.toList` on it encodes the characters as UTF-8
    and decodes them again, which is much slower, the more so the longer the literal. So a goal with literals is
    rewritten with this lemma before it is evaluated. -/
theorem lit_ofList (l : List Char) : lit (String.ofList l) = l.map Char.toNat := by
  rw [lit, String.toList_ofList]

theorem eq_of_toAsciiLower_eq_nonletter {c x : Nat} (hx : ¬ (0x61 ≤ x ∧ x ≤ 0x7A))
    (h : toAsciiLower c = x) : c = x := by
  unfold toAsciiLower at h
  split at h <;> simp_all <;> omega

theorem toAsciiLower_eq_cases {a b : Nat} (h : toAsciiLower a = toAsciiLower b) :
    a = b ∨ (a < 0x80 ∧ b < 0x80 ∧ (isAsciiUpper a = isAsciiUpper b → a = b)) := by
  unfold toAsciiLower at h
  unfold isAsciiUpper
  split at h <;> split at h <;> simp_all <;> omega

theorem isReservedChar_ascii {c : Nat} (h : isReservedChar c = true) : c < 128 ∧ toAsciiLower c = c := by
  simp [isReservedChar] at h
  unfold toAsciiLower
  split <;> simp_all <;> omega

/-- Two cases, not three: the "%2E" of a leading '.' is what the percent escape gives for '.' anyway. -/
theorem escChar_cases (f : Bool) (c : Nat) :
    (escChar f c = [c] ∧ isReservedChar c = false) ∨
    (escChar f c = [0x25, hexDigitUpper (c / 16), hexDigitUpper (c % 16)] ∧ c < 128 ∧ toAsciiLower c = c) := by
  unfold escChar
  by_cases hd : (f && c == 0x2E) = true
  · have hc : c = 0x2E := by simp at hd; exact hd.2
    subst hc
    right
    rw [if_pos hd]
    decide
  · rw [if_neg hd]
    by_cases hr : isReservedChar c = true
    · have ha := isReservedChar_ascii hr
      exact Or.inr ⟨by simp [hr, hex2, show c < 256 by omega], ha⟩
    · exact Or.inl ⟨by simp [hr], by simpa using hr⟩

theorem hexDigitUpper_not_reserved : ∀ {d}, d < 16 → isReservedChar (hexDigitUpper d) = false := by decide

theorem mem_escChar {f : Bool} {c x : Nat} (h : x ∈ escChar f c) : x = 0x25 ∨ isReservedChar x = false := by
  rcases escChar_cases f c with ⟨e, hr⟩ | ⟨e, hlt, _⟩ <;> rw [e] at h <;>
    simp only [List.mem_cons, List.not_mem_nil, or_false] at h
  · exact Or.inr (h ▸ hr)
  · rcases h with rfl | rfl | rfl
    · exact Or.inl rfl
    · exact Or.inr (hexDigitUpper_not_reserved (by omega))
    · exact Or.inr (hexDigitUpper_not_reserved (by omega))

theorem mem_escBody {n : List Nat} {x : Nat} (h : x ∈ escBody n) : x = 0x25 ∨ isReservedChar x = false := by
  cases n with
  | nil => simp [escBody] at h
  | cons c r =>
    rw [escBody, List.mem_append] at h
    rcases h with h | h
    · exact mem_escChar h
    · rw [List.mem_flatMap] at h
      obtain ⟨y, _, hy⟩ := h
      exact mem_escChar hy

/-- value of a digit 0-9 a-v: what `hexDigitUpper` and `base32Char` print, after case folding -/
def undigit (x : Nat) : Nat := if x ≤ 0x39 then x - 0x30 else x - 0x61 + 10

theorem undigit_fold_base32 : ∀ {d}, d < 32 → undigit (toAsciiLower (base32Char d)) = d := by decide

/-- `hexDigitUpper` and `base32Char` are one function (0-9 A-V), the former called below 16 -/
theorem undigit_fold_hexDigit {d : Nat} (h : d < 16) : undigit (toAsciiLower (hexDigitUpper d)) = d :=
  undigit_fold_base32 (by omega)

/-- decoder of the escaped name (percent escapes back to code points) -/
def unesc : List Nat → List Nat
  | [] => []
  | c :: rest =>
    if c = 0x25 then
      match rest with
      | a :: b :: r => (undigit a * 16 + undigit b) :: unesc r
      | _ => []
    else c :: unesc rest

theorem unesc_plain {c : Nat} {t : List Nat} (h : c ≠ 0x25) : unesc (c :: t) = c :: unesc t := by
  conv => lhs; unfold unesc
  simp [h]

theorem unesc_esc (a b : Nat) (t : List Nat) :
    unesc (0x25 :: a :: b :: t) = (undigit a * 16 + undigit b) :: unesc t := by
  conv => lhs; unfold unesc
  simp

theorem unesc_fold_escChar (f : Bool) (c : Nat) (t : List Nat) :
    unesc (asciiFold (escChar f c) ++ t) = toAsciiLower c :: unesc t := by
  rcases escChar_cases f c with ⟨h, hr⟩ | ⟨h, hlt, hl⟩ <;> rw [h] <;>
    simp only [asciiFold, List.map_cons, List.map_nil, List.cons_append, List.nil_append]
  · have hne : toAsciiLower c ≠ 0x25 := by
      intro hh
      have := eq_of_toAsciiLower_eq_nonletter (by omega) hh
      subst this
      simp [isReservedChar] at hr
    exact unesc_plain hne
  · have h25 : toAsciiLower 0x25 = 0x25 := by decide
    rw [h25, unesc_esc, undigit_fold_hexDigit (by omega), undigit_fold_hexDigit (by omega), hl]
    congr 1
    omega

theorem asciiFold_append (a b : List Nat) : asciiFold (a ++ b) = asciiFold a ++ asciiFold b := by
  simp [asciiFold]

theorem unesc_fold_flatMap (r t : List Nat) :
    unesc (asciiFold (r.flatMap (escChar false)) ++ t) = asciiFold r ++ unesc t := by
  induction r with
  | nil => simp [asciiFold]
  | cons c r ih =>
    rw [List.flatMap_cons, asciiFold_append, List.append_assoc, unesc_fold_escChar, ih]
    simp [asciiFold]

theorem unesc_fold_escBody (n : List Nat) : unesc (asciiFold (escBody n)) = asciiFold n := by
  cases n with
  | nil => simp [escBody, asciiFold, unesc]
  | cons c r =>
    have h := unesc_fold_flatMap r []
    simp only [List.append_nil] at h
    rw [escBody, asciiFold_append, unesc_fold_escChar, h]
    simp [asciiFold, unesc]

theorem sep_not_mem_fold_escBody (n : List Nat) : 0x5E ∉ asciiFold (escBody n) := by
  intro h
  obtain ⟨x, hx, hfx⟩ := List.mem_map.mp h
  -- only '^' folds to '^', and '^' is reserved
  have := eq_of_toAsciiLower_eq_nonletter (by omega) hfx
  subst this
  rcases mem_escBody hx with h | h
  · omega
  · revert h; decide

theorem chunkDigit_inj {l1 l2 : List Bool} (hl : l1.length = l2.length)
    (h : chunkDigit l1 = chunkDigit l2) : l1 = l2 := by
  induction l1 generalizing l2 with
  | nil => exact (List.length_eq_zero_iff.mp hl.symm).symm
  | cons b r ih =>
    cases l2 with
    | nil => simp at hl
    | cons b' r' =>
      simp only [chunkDigit] at h
      have : b = b' ∧ chunkDigit r = chunkDigit r' := by
        cases b <;> cases b' <;> simp at h ⊢ <;> omega
      rw [this.1, ih (by simpa using hl) this.2]

theorem chunkDigit_lt (l : List Bool) : chunkDigit l < 2 ^ l.length := by
  induction l with
  | nil => simp [chunkDigit]
  | cons b r ih =>
    simp only [chunkDigit, List.length_cons, Nat.pow_succ]
    cases b <;> simp <;> omega

theorem chunks5_chunk_le {α : Type} {m : List α} : ∀ c ∈ chunks5 m, c.length ≤ 5 := by
  induction m using chunks5.induct with
  | case1 a b c d e rest ih =>
    intro x hx
    rw [chunks5, List.mem_cons] at hx
    rcases hx with rfl | hx
    · simp
    · exact ih x hx
  | case2 => simp [chunks5]
  | case3 l h5 h0 =>
    intro x hx
    rw [chunks5.eq_3 l h5 h0, List.mem_singleton] at hx
    subst hx
    match x, h5 with
    | [], _ | [_], _ | [_, _], _ | [_, _, _], _ | [_, _, _, _], _ => simp
    | a :: b :: c :: d :: e :: r, h5 => exact (h5 a b c d e r rfl).elim

/-- the number with these base-32 digits, least significant first (as `chunkDigit` reads bits) -/
def ofDigits32 : List Nat → Nat
  | [] => 0
  | d :: r => d + 32 * ofDigits32 r

/-- the digits are the base-32 numeral of the number whose binary numeral is the mask -/
theorem ofDigits32_chunks (m : List Bool) : ofDigits32 ((chunks5 m).map chunkDigit) = chunkDigit m := by
  induction m using chunks5.induct with
  | case1 a b c d e rest ih =>
    rw [chunks5, List.map_cons, ofDigits32, ih]
    simp only [chunkDigit]
    omega
  | case2 => rfl
  | case3 l h5 h0 => simp [chunks5.eq_3 l h5 h0, ofDigits32]

theorem ofDigits32_append_zero (l : List Nat) : ofDigits32 (l ++ [0]) = ofDigits32 l := by
  induction l with
  | nil => rfl
  | cons d r ih => rw [List.cons_append, ofDigits32, ofDigits32, ih]

theorem ofDigits32_strip (ds : List Nat) : ofDigits32 (stripTrailingZeros ds) = ofDigits32 ds := by
  have key : ∀ r : List Nat, ofDigits32 (r.dropWhile (· == 0)).reverse = ofDigits32 r.reverse := by
    intro r
    induction r with
    | nil => rfl
    | cons x r ih =>
      rw [List.dropWhile_cons]
      split
      · rename_i hx
        rw [ih, List.reverse_cons, show x = 0 by simpa using hx, ofDigits32_append_zero]
      · rfl
  rw [stripTrailingZeros, key, List.reverse_reverse]

theorem mem_of_mem_stripTrailingZeros {a : List Nat} {x : Nat} (h : x ∈ stripTrailingZeros a) : x ∈ a := by
  unfold stripTrailingZeros at h
  rw [List.mem_reverse] at h
  have := (List.dropWhile_sublist (l := a.reverse) (· == 0)).mem h
  exact List.mem_reverse.mp this

theorem codeDigits_lt {n : List Nat} : ∀ d ∈ codeDigits n, d < 32 := by
  intro d hd
  unfold codeDigits at hd
  split at hd
  · simp at hd; omega
  · obtain ⟨c, hc, rfl⟩ := List.mem_map.mp (mem_of_mem_stripTrailingZeros hd)
    have := chunkDigit_lt c
    have : 2 ^ c.length ≤ 2 ^ 5 := Nat.pow_le_pow_right (by omega) (chunks5_chunk_le c hc)
    omega

theorem utf8Bytes_of_lt {c : Nat} (h : c < 0x80) : utf8Bytes c = [c] := by
  simp [utf8Bytes, h]

theorem upperMask_cons (c : Nat) (r : List Nat) :
    upperMask (c :: r) = (utf8Bytes c).map isAsciiUpper ++ upperMask r := by
  simp [upperMask, utf8]

/-- Where two names with one case folding differ, both have an ASCII letter, which is one UTF-8 byte, hence one bit
    of the capital mask. -/
theorem eq_of_fold_eq {n1 : List Nat} : ∀ {n2}, asciiFold n1 = asciiFold n2 →
    (upperMask n1).length = (upperMask n2).length ∧ (upperMask n1 = upperMask n2 → n1 = n2) := by
  induction n1 with
  | nil =>
    intro n2 h
    cases n2 with
    | nil => exact ⟨rfl, fun _ => rfl⟩
    | cons _ _ => simp [asciiFold] at h
  | cons c r ih =>
    intro n2 h
    cases n2 with
    | nil => simp [asciiFold] at h
    | cons c' r' =>
      simp only [asciiFold, List.map_cons, List.cons.injEq] at h
      obtain ⟨hl, he⟩ := ih h.2
      rw [upperMask_cons, upperMask_cons]
      rcases toAsciiLower_eq_cases h.1 with rfl | ⟨h1, h2, hc⟩
      · exact ⟨by rw [List.length_append, List.length_append, hl],
          fun hm => by rw [he (List.append_cancel_left hm)]⟩
      · rw [utf8Bytes_of_lt h1, utf8Bytes_of_lt h2]
        refine ⟨by simp [hl], fun hm => ?_⟩
        simp only [List.map_cons, List.map_nil, List.cons_append, List.nil_append, List.cons.injEq] at hm
        rw [hc hm.1, he hm.2]

theorem sep_not_mem_fold_base32 (ds : List Nat) (h : ∀ d ∈ ds, d < 32) :
    0x5E ∉ asciiFold (ds.map base32Char) := by
  intro hh
  simp only [asciiFold, List.mem_map] at hh
  obtain ⟨x, ⟨d, hd, rfl⟩, hx⟩ := hh
  exact (by decide : ∀ a, a < 32 → toAsciiLower (base32Char a) ≠ 0x5E) d (h d hd) hx

theorem caseSuffix_cases (n : List Nat) :
    (caseSuffix n = [] ∧ codeDigits n = []) ∨
    (caseSuffix n = 0x5E :: (codeDigits n).map base32Char ∧ codeDigits n ≠ []) := by
  unfold caseSuffix
  cases h : codeDigits n with
  | nil => left; simp
  | cons x r => right; simp [sepChar]

theorem fold_caseSuffix_cases (n : List Nat) :
    asciiFold (caseSuffix n) = [] ∨ ∃ t, asciiFold (caseSuffix n) = 0x5E :: t := by
  rcases caseSuffix_cases n with ⟨e, _⟩ | ⟨e, _⟩ <;> rw [e]
  · exact Or.inl rfl
  · exact Or.inr ⟨_, rfl⟩

theorem undigit_fold_caseSuffix (n : List Nat) : (asciiFold (caseSuffix n)).tail.map undigit = codeDigits n := by
  rcases caseSuffix_cases n with ⟨e, c⟩ | ⟨e, _⟩ <;> rw [e]
  · rw [c]
    rfl
  · rw [asciiFold, List.map_cons, List.tail_cons, List.map_map, List.map_map]
    exact map_eq_self fun d hm => undigit_fold_base32 (codeDigits_lt d hm)

/-- the digits are a numeral of the mask read as a binary number, whatever zeros were dropped; the digit 0
    of a reserved name changes nothing -/
theorem ofDigits32_codeDigits (n : List Nat) : ofDigits32 (codeDigits n) = chunkDigit (upperMask n) := by
  have h : ofDigits32 (caseDigits n) = chunkDigit (upperMask n) := by
    rw [caseDigits, ofDigits32_strip, ofDigits32_chunks]
  unfold codeDigits
  split
  · rename_i h1
    rw [← h, (List.isEmpty_iff.1 (Bool.and_eq_true_iff.1 h1).1)]
    rfl
  · exact h

/-- The name can be recovered from the case-folded file name. The folded escaped name holds no '^' (it is
    reserved, hence escaped) and the case suffix is empty or begins with '^', so the two parts are cut apart at
    the first '^' (`split_at_opt_sep`). Undoing the percent escapes of the first part gives the folded name
    (`unesc_fold_escBody`). The digits of the second part are a base-32 numeral of the capital mask read as a binary
    number (`ofDigits32_codeDigits`), and the folded name gives the length of the mask, so the mask is known
    (`chunkDigit_inj`); folded name and mask give the name (`eq_of_fold_eq`). -/
theorem stf_core {n1 n2 : List Nat}
    (h : asciiFold (escBody n1 ++ caseSuffix n1) = asciiFold (escBody n2 ++ caseSuffix n2)) : n1 = n2 := by
  rw [asciiFold_append, asciiFold_append] at h
  obtain ⟨hbody, hsuf⟩ := split_at_opt_sep (sep_not_mem_fold_escBody n1)
    (sep_not_mem_fold_escBody n2) (fold_caseSuffix_cases n1) (fold_caseSuffix_cases n2) h
  have hfold : asciiFold n1 = asciiFold n2 := by
    rw [← unesc_fold_escBody n1, ← unesc_fold_escBody n2, hbody]
  obtain ⟨hlen, hname⟩ := eq_of_fold_eq hfold
  have hval := congrArg (fun s => ofDigits32 (s.tail.map undigit)) hsuf
  simp only [undigit_fold_caseSuffix, ofDigits32_codeDigits] at hval
  exact hname (chunkDigit_inj hlen hval)

theorem stf_eq_append (n s : List Nat) : stringToFilename n s = (escBody n ++ caseSuffix n) ++ s := by
  simp [stringToFilename]

theorem stf_suffix (n s : List Nat) : s <:+ stringToFilename n s :=
  ⟨_, (stf_eq_append n s).symm⟩

theorem stf_fold_inj_suffix {n1 n2 s1 s2 : List Nat} (hl : s1.length = s2.length)
    (h : asciiFold (stringToFilename n1 s1) = asciiFold (stringToFilename n2 s2)) :
    n1 = n2 ∧ asciiFold s1 = asciiFold s2 := by
  rw [stf_eq_append, stf_eq_append, asciiFold_append _ s1, asciiFold_append _ s2] at h
  obtain ⟨h1, h2⟩ := List.append_inj' h (by simp [asciiFold, hl])
  exact ⟨stf_core h1, h2⟩

theorem stf_inj {n1 n2 s : List Nat} (h : stringToFilename n1 s = stringToFilename n2 s) : n1 = n2 :=
  (stf_fold_inj_suffix rfl (congrArg asciiFold h)).1

theorem stf_inj_suffix {n1 n2 s1 s2 : List Nat} (hl : s1.length = s2.length)
    (h : stringToFilename n1 s1 = stringToFilename n2 s2) : n1 = n2 ∧ s1 = s2 := by
  obtain ⟨hn, _⟩ := stf_fold_inj_suffix hl (congrArg asciiFold h)
  subst hn
  rw [stf_eq_append, stf_eq_append] at h
  exact ⟨rfl, List.append_cancel_left h⟩

theorem flatMap_escChar_plain (p : List Nat) (hp : ∀ c ∈ p, isReservedChar c = false) :
    p.flatMap (escChar false) = p := by
  induction p with
  | nil => rfl
  | cons c r ih =>
    rw [List.flatMap_cons, ih fun x hx => hp x (List.mem_cons_of_mem _ hx)]
    simp [escChar, hp c List.mem_cons_self]

theorem stf_plain_prefix {p t s : List Nat} (hp : ∀ c ∈ p, isReservedChar c = false ∧ c ≠ 0x2E) :
    p <+: stringToFilename (p ++ t) s := by
  cases p with
  | nil => exact List.nil_prefix
  | cons c r =>
    have hc := hp c List.mem_cons_self
    have e : escBody (c :: r ++ t) = c :: r ++ t.flatMap (escChar false) := by
      simp [escBody, escChar, hc.1, hc.2,
        flatMap_escChar_plain r fun x hx => (hp x (List.mem_cons_of_mem _ hx)).1]
    rw [stringToFilename, e, List.append_assoc, List.append_assoc]
    exact List.prefix_append _ _

theorem stf_no_slash {n s : List Nat} (hs : 0x2F ∉ s) : 0x2F ∉ stringToFilename n s := by
  intro h
  simp only [stringToFilename, List.mem_append] at h
  rcases h with (h | h) | h
  · rcases mem_escBody h with h | h
    · omega
    · revert h; decide
  · rcases caseSuffix_cases n with ⟨e, _⟩ | ⟨e, _⟩
    · rw [e] at h; simp at h
    · rw [e] at h
      simp only [List.mem_cons, List.mem_map] at h
      rcases h with h | ⟨d, hd, h⟩
      · omega
      · exact (by decide : ∀ d, d < 32 → base32Char d ≠ 0x2F) d (codeDigits_lt d hd) h
  · exact hs h

end Fontc.Paths
