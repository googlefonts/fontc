/-
  C18: names supplied through feature code — fea-rs' `NameBuilder` (explicit `nameid` records in any order, anonymous
  groups taking the next free id) and fontbe's merge with the compiler's own names.
-/
import FontcProofs.NamesAssoc

namespace Fontc.Names

theorem foldl_add_records (l : List (Nat × FeaSpec)) (b : FeaBuilder) :
    (l.foldl (fun b p => b.add p.1 p.2) b).records = b.records ++ l := by
  induction l generalizing b with
  | nil => simp
  | cons p t ih =>
    rw [List.foldl_cons, ih]
    simp [FeaBuilder.add]

theorem foldl_add_last (l : List (Nat × FeaSpec)) (b : FeaBuilder) :
    (l.foldl (fun b p => b.add p.1 p.2) b).last = l.foldl (fun m p => max m p.1) b.last := by
  induction l generalizing b with
  | nil => rfl
  | cons p t ih => rw [List.foldl_cons, ih]; rfl

theorem feaExplicit_records (expl : List (Nat × FeaSpec)) : (feaExplicit expl).records = expl := by
  simp [feaExplicit, foldl_add_records, FeaBuilder.empty]

theorem feaExplicit_last (expl : List (Nat × FeaSpec)) :
    255 ≤ (feaExplicit expl).last ∧ (∀ p ∈ expl, p.1 ≤ (feaExplicit expl).last) ∧
    ((feaExplicit expl).last = 255 ∨ ∃ p ∈ expl, p.1 = (feaExplicit expl).last) := by
  exact foldl_select_map selects_max_nat _ (foldl_add_last expl FeaBuilder.empty).symm

theorem feaExplicit_last_perm {e₁ e₂ : List (Nat × FeaSpec)} (h : e₁.Perm e₂) :
    (feaExplicit e₁).last = (feaExplicit e₂).last := by
  obtain ⟨a1, a2, a3⟩ := feaExplicit_last e₁
  obtain ⟨b1, b2, b3⟩ := feaExplicit_last e₂
  apply Nat.le_antisymm
  · rcases a3 with h' | ⟨p, hp, e⟩
    · omega
    · rw [← e]; exact b2 p (h.mem_iff.mp hp)
  · rcases b3 with h' | ⟨p, hp, e⟩
    · omega
    · rw [← e]; exact a2 p (h.mem_iff.mpr hp)

/-- the entries of an anonymous group that `addAnonGroup` records: those with a non-empty string -/
def nonEmptySpecs (g : List FeaSpec) : List FeaSpec := g.filter fun e => !e.str.isEmpty

theorem mem_nonEmptySpecs {g : List FeaSpec} {sp : FeaSpec} : sp ∈ nonEmptySpecs g ↔ sp ∈ g ∧ sp.str ≠ [] := by
  simp [nonEmptySpecs]

theorem foldl_add_const_last (id : Nat) (l : List FeaSpec) (b : FeaBuilder) :
    (l.foldl (fun c e => c.add id e) b).last = if l = [] then b.last else max b.last id := by
  induction l generalizing b with
  | nil => simp
  | cons e t ih =>
    simp only [List.foldl_cons, ih, reduceCtorEq, if_false]
    have : (b.add id e).last = max b.last id := rfl
    split <;> simp [this]

theorem foldl_add_const_records (id : Nat) (l : List FeaSpec) (b : FeaBuilder) :
    (l.foldl (fun c e => c.add id e) b).records = b.records ++ l.map (fun e => (id, e)) := by
  simpa [List.foldl_map] using foldl_add_records (l.map fun e => (id, e)) b

theorem addAnonGroup_id (b : FeaBuilder) (g : List FeaSpec) : (b.addAnonGroup g).2 = b.last + 1 := rfl

theorem addAnonGroup_records (b : FeaBuilder) (g : List FeaSpec) :
    (b.addAnonGroup g).1.records = b.records ++ (nonEmptySpecs g).map (fun e => (b.last + 1, e)) :=
  foldl_add_const_records (b.last + 1) (nonEmptySpecs g) b

theorem addAnonGroup_last (b : FeaBuilder) (g : List FeaSpec) :
    (b.addAnonGroup g).1.last = if nonEmptySpecs g = [] then b.last else b.last + 1 := by
  rw [show (b.addAnonGroup g).1 = (nonEmptySpecs g).foldl (fun c e => c.add (b.last + 1) e) b from rfl,
    foldl_add_const_last]
  split
  · rfl
  · exact Nat.max_eq_right (Nat.le_succ _)

theorem addGroups_ids_congr (groups : List (List FeaSpec)) {b b' : FeaBuilder} (h : b.last = b'.last) :
    (b.addGroups groups).2 = (b'.addGroups groups).2 := by
  induction groups generalizing b b' with
  | nil => rfl
  | cons g gs ih =>
    simp only [FeaBuilder.addGroups, addAnonGroup_id, h]
    congr 1
    apply ih
    rw [addAnonGroup_last, addAnonGroup_last, h]

theorem addGroups_length (groups : List (List FeaSpec)) (b : FeaBuilder) :
    (b.addGroups groups).2.length = groups.length := by
  induction groups generalizing b with
  | nil => rfl
  | cons g gs ih => simp [FeaBuilder.addGroups, ih]

theorem addGroups_records (groups : List (List FeaSpec)) (b : FeaBuilder) :
    (b.addGroups groups).1.records =
      b.records ++ (groups.zip (b.addGroups groups).2).flatMap fun p => (nonEmptySpecs p.1).map fun e => (p.2, e) := by
  induction groups generalizing b with
  | nil => simp [FeaBuilder.addGroups]
  | cons g gs ih =>
    simp only [FeaBuilder.addGroups, List.zip_cons_cons, List.flatMap_cons]
    rw [ih, addAnonGroup_records, addAnonGroup_id, List.append_assoc]

theorem addGroups_of_nonempty {groups : List (List FeaSpec)} (b : FeaBuilder)
    (hne : ∀ g ∈ groups, nonEmptySpecs g ≠ []) :
    (b.addGroups groups).2 = List.range' (b.last + 1) groups.length := by
  induction groups generalizing b with
  | nil => rfl
  | cons g gs ih =>
    rw [FeaBuilder.addGroups, ih _ fun g' hg' => hne g' (List.mem_cons_of_mem _ hg'), addAnonGroup_last,
      if_neg (hne g List.mem_cons_self), addAnonGroup_id, List.length_cons, List.range'_succ]

theorem zip_addGroups_eq_zipIdx {groups : List (List FeaSpec)} (b : FeaBuilder)
    (hne : ∀ g ∈ groups, nonEmptySpecs g ≠ []) : groups.zip (b.addGroups groups).2 = groups.zipIdx (b.last + 1) := by
  rw [addGroups_of_nonempty b hne, List.zipIdx_eq_zip_range']

theorem addGroups_exact (groups : List (List FeaSpec)) (b : FeaBuilder)
    (hold : ∀ r ∈ b.records, r.1 ≤ b.last) (hne : ∀ g ∈ groups, nonEmptySpecs g ≠ [])
    (g : List FeaSpec) (id : Nat) (hz : (g, id) ∈ groups.zip (b.addGroups groups).2) (sp : FeaSpec) :
    (id, sp) ∈ (b.addGroups groups).1.records ↔ sp ∈ nonEmptySpecs g := by
  rw [addGroups_records, zip_addGroups_eq_zipIdx b hne]
  rw [zip_addGroups_eq_zipIdx b hne, List.mem_zipIdx_iff_le_and_getElem?_sub] at hz
  simp only [List.mem_append, List.mem_flatMap, List.mem_map, Prod.mk.injEq, Prod.exists,
    List.mem_zipIdx_iff_le_and_getElem?_sub]
  constructor
  · rintro (h | ⟨g', id', ⟨_, hg'⟩, e, he, rfl, rfl⟩)
    · -- an older record has a smaller id
      exact absurd (hold _ h) (by simp only; omega)
    · -- one id, one group
      exact (Option.some.inj (hz.2.symm.trans hg') : g = g') ▸ he
  · exact fun h => Or.inr ⟨g, id, hz, sp, h, rfl, rfl⟩

theorem feaShift_of_le {T : Table} {id : Nat} (h : id ≤ 255) : feaShift T id = id := by
  simp only [feaShift, if_pos h, ite_self]

theorem lt_feaShift {T : Table} {id : Nat} (h : 256 ≤ id) : maxId T < feaShift T id := by
  unfold feaShift; split
  · omega
  · rw [if_neg (by omega)]; omega

theorem feaShift_inj {T : Table} {id id' : Nat} (h : feaShift T id = feaShift T id') : id = id' := by
  unfold feaShift at h
  split at h
  · exact h
  · split at h <;> split at h <;> omega

theorem alookup_feaRecordsShifted_none {own : Table} (b : FeaBuilder) {k : NameKey} (hid : 256 ≤ k.id)
    (hk : k.id ≤ maxId own) : alookup k (feaRecordsShifted own b) = none := by
  rw [alookup_eq_none_iff]
  intro v hv
  obtain ⟨r, _, hr⟩ := List.mem_map.mp hv
  have hkid : feaShift own r.1 = k.id := congrArg (fun q => q.1.id) hr
  by_cases hr1 : r.1 ≤ 255
  · rw [feaShift_of_le hr1] at hkid; omega
  · have := lt_feaShift (T := own) (id := r.1) (by omega); omega

theorem alookup_mergeNames {own fea : Table} (ho : (akeys own).Nodup) (hf : (akeys fea).Nodup) (k : NameKey) :
    alookup k (mergeNames own fea) = (alookup k fea).or (alookup k own) := by
  unfold mergeNames
  rw [alookup_foldl_ainsert, List.reverse_append, alookup_append, alookup_reverse_of_nodup ho,
    alookup_reverse_of_nodup hf]
  simp

end Fontc.Names
