/-
  The scheduler under a given script.  First what the static views that the checker computes with (`spawns`, `jobs`,
  `owners`, `creators`, `installers`, `skippers`, `addedIds`) contain, as membership lemmas.  Then the invariant `Scr`:
  whatever a reachable state holds (a pending job, its read access, a recorded launch, an owner, a skip) the script
  declares, and what only a delivery brings in is there only after that delivery (`JobOrigin`, `AccOrigin`).  Every atom
  keeps it, so it needs no freshness hypothesis; with it the inserted ids are known exactly (`ReachInit.mem_inserted`).
-/
import FontcProofs.SchedSafety
namespace Fontc.Sched

theorem effects_entry (sc : Script) (q : Id) :
    sc.effects q = [] ∨ ∃ p ∈ sc.onDeliver, p.1 = q ∧ sc.effects q = p.2 := by
  unfold Script.effects
  split
  · rename_i p hp
    right
    exact ⟨p, List.mem_of_find?_eq_some hp, by simpa using List.find?_some hp, rfl⟩
  · left; rfl

theorem effects_mem {sc : Script} {q : Id} {e : Effect} (h : e ∈ sc.effects q) :
    ∃ p ∈ sc.onDeliver, p.1 = q ∧ e ∈ p.2 := by
  rcases effects_entry sc q with he | ⟨p, hp, hpq, he⟩
  · simp [he] at h
  · exact ⟨p, hp, hpq, he ▸ h⟩

theorem mem_spawns_iff {sc : Script} {q : Id} {j : Job} :
    (q, j) ∈ sc.spawns ↔ ∃ p ∈ sc.onDeliver, p.1 = q ∧ Effect.add j ∈ p.2 := by
  simp only [Script.spawns, List.mem_flatMap, List.mem_filterMap]
  refine exists_congr fun p => and_congr_right fun _ => ⟨?_, fun ⟨hq, he⟩ => ⟨.add j, he, by simp [Effect.addJob?, hq]⟩⟩
  rintro ⟨e, he, h⟩
  cases e <;> simp [Effect.addJob?] at h
  exact ⟨h.1, h.2 ▸ he⟩

theorem add_mem_spawns {sc : Script} {q : Id} {j : Job} (h : Effect.add j ∈ sc.effects q) : (q, j) ∈ sc.spawns := by
  obtain ⟨p, hp, hq, he⟩ := effects_mem h
  exact mem_spawns_iff.2 ⟨p, hp, hq, he⟩

theorem mem_addedIds {sc : Script} {q w : Id} : w ∈ sc.addedIds q ↔ ∃ k, Effect.add k ∈ sc.effects q ∧ w ∈ k.ids := by
  simp only [Script.addedIds, List.mem_flatMap]
  refine ⟨?_, fun ⟨k, hk, hw⟩ => ⟨.add k, hk, hw⟩⟩
  rintro ⟨e, he, hw⟩
  cases e <;> simp at hw
  exact ⟨_, he, by simpa using hw⟩

theorem mem_jobs_iff {sc : Script} {j : Job} : j ∈ sc.jobs ↔ j ∈ sc.init ∨ ∃ q, (q, j) ∈ sc.spawns := by
  simp [Script.jobs]

theorem spawns_mem_jobs {sc : Script} {q : Id} {j : Job} (h : (q, j) ∈ sc.spawns) : j ∈ sc.jobs :=
  mem_jobs_iff.2 (.inr ⟨q, h⟩)

theorem init_mem_jobs {sc : Script} {j : Job} (h : j ∈ sc.init) : j ∈ sc.jobs :=
  mem_jobs_iff.2 (.inl h)

theorem rewrite_mem_rewrites {sc : Script} {q id : Id} {a : Access} {m : Bool} (h : Effect.rewrite id a m ∈ sc.effects q) :
    (q, id, a) ∈ sc.rewrites := by
  obtain ⟨p, hp, rfl, he⟩ := effects_mem h
  simp only [Script.rewrites, List.mem_flatMap, List.mem_filterMap]
  exact ⟨p, hp, .rewrite id a m, he, rfl⟩

theorem skip_mem_skips {sc : Script} {q o : Id} (h : Effect.skip o ∈ sc.effects q) : (q, o) ∈ sc.skips := by
  obtain ⟨p, hp, rfl, he⟩ := effects_mem h
  simp only [Script.skips, List.mem_flatMap, List.mem_filterMap]
  exact ⟨p, hp, .skip o, he, rfl⟩

theorem mem_owners_iff {sc : Script} {o x : Id} : o ∈ sc.owners x ↔ ∃ j ∈ sc.jobs, x ∈ j.ids ∧ j.id = o := by
  simp [Script.owners, and_assoc]

theorem mem_owners {sc : Script} {j : Job} {x : Id} (hj : j ∈ sc.jobs) (hx : x ∈ j.ids) : j.id ∈ sc.owners x :=
  mem_owners_iff.2 ⟨j, hj, hx, rfl⟩

theorem mem_creators_iff {sc : Script} {q j : Id} : q ∈ sc.creators j ↔ ∃ k, (q, k) ∈ sc.spawns ∧ k.id = j := by
  simp only [Script.creators, List.mem_map, List.mem_filter, decide_eq_true_eq]
  exact ⟨fun ⟨⟨_, k⟩, ⟨h, hk⟩, hq⟩ => ⟨k, hq ▸ h, hk⟩, fun ⟨k, h, hk⟩ => ⟨(q, k), ⟨h, hk⟩, rfl⟩⟩

theorem mem_creators {sc : Script} {q : Id} {j : Job} (h : (q, j) ∈ sc.spawns) : q ∈ sc.creators j.id :=
  mem_creators_iff.2 ⟨j, h, rfl⟩

theorem mem_installers_iff {sc : Script} {q j : Id} {a : Access} : q ∈ sc.installers j a ↔ (q, j, a) ∈ sc.rewrites := by
  simp only [Script.installers, List.mem_map, List.mem_filter, decide_eq_true_eq]
  exact ⟨fun ⟨⟨_, _, _⟩, ⟨h, hj, ha⟩, hq⟩ => hq ▸ hj ▸ ha ▸ h, fun h => ⟨(q, j, a), ⟨h, rfl, rfl⟩, rfl⟩⟩

theorem mem_skippers_iff {sc : Script} {q o : Id} : q ∈ sc.skippers o ↔ (q, o) ∈ sc.skips := by
  simp only [Script.skippers, List.mem_map, List.mem_filter, decide_eq_true_eq]
  exact ⟨fun ⟨⟨_, _⟩, ⟨h, ho⟩, hq⟩ => hq ▸ ho ▸ h, fun h => ⟨(q, o), ⟨h, rfl⟩, rfl⟩⟩

theorem mem_initialAccesses {sc : Script} {j : Job} (h : j ∈ sc.jobs) : j.reads ∈ sc.initialAccesses j.id := by
  simp only [Script.initialAccesses, List.mem_map, List.mem_filter]
  exact ⟨j, ⟨h, by simp⟩, rfl⟩

theorem initialAccesses_sub_versions {sc : Script} {j : Id} {a : Access} (h : a ∈ sc.initialAccesses j) : a ∈ sc.versions j := by
  simp [Script.versions, h]

theorem installers_sub_versions {sc : Script} {q j : Id} {a : Access} (h : q ∈ sc.installers j a) : a ∈ sc.versions j := by
  simp only [Script.versions, List.mem_append, List.mem_map, List.mem_filter]
  exact Or.inr ⟨(q, j, a), ⟨mem_installers_iff.1 h, by simp⟩, rfl⟩

/-- where `j` (as a job) comes from: `Workload::new`, or an `add` effect of a delivery that has happened -/
def JobOrigin (sc : Script) (s : State) (j : Id) : Prop :=
  sc.init.any (·.id = j) = true ∨ ∃ q ∈ s.delivered, q ∈ sc.creators j

/-- where the read access `a` of `j` comes from: the job's own declaration, or a rewrite of a delivery that has happened -/
def AccOrigin (sc : Script) (s : State) (j : Id) (a : Access) : Prop :=
  (sc.initialAccesses j).contains a = true ∨ ∃ q ∈ s.delivered, q ∈ sc.installers j a

theorem JobOrigin.isjob {sc : Script} {s : State} {j : Id} (h : JobOrigin sc s j) : j ∈ sc.owners j := by
  rcases h with h | ⟨q, _, hq⟩
  · obtain ⟨job, hjob, hid⟩ := List.any_eq_true.1 h
    exact of_decide_eq_true hid ▸ mem_owners (init_mem_jobs hjob) List.mem_cons_self
  · obtain ⟨k, hp, rfl⟩ := mem_creators_iff.1 hq
    exact mem_owners (spawns_mem_jobs hp) List.mem_cons_self

theorem JobOrigin.mono {sc : Script} {s s' : State} {j : Id} (m : ∀ x ∈ s.delivered, x ∈ s'.delivered)
    (h : JobOrigin sc s j) : JobOrigin sc s' j := by
  rcases h with h | ⟨q, hq, hc⟩
  · exact Or.inl h
  · exact Or.inr ⟨q, m q hq, hc⟩

theorem AccOrigin.mono {sc : Script} {s s' : State} {j : Id} {a : Access} (m : ∀ x ∈ s.delivered, x ∈ s'.delivered)
    (h : AccOrigin sc s j a) : AccOrigin sc s' j a := by
  rcases h with h | ⟨q, hq, hc⟩
  · exact Or.inl h
  · exact Or.inr ⟨q, m q hq, hc⟩

theorem AccOrigin.version {sc : Script} {s : State} {j : Id} {a : Access} (h : AccOrigin sc s j a) : a ∈ sc.versions j := by
  rcases h with h | ⟨q, _, hc⟩
  · exact initialAccesses_sub_versions (by simpa using h)
  · exact installers_sub_versions hc

/-- The state is one the script can produce: every pending job and every launch recorded, every also-completes edge, skip
    and completion is accounted for by the static views of the script (`jobs`, `owners`, `creators`, `installers`, `skippers`). -/
structure Scr (sc : Script) (s : State) : Prop where
  entry_job : ∀ e ∈ s.pending, e.kind ≠ .alsoComplete → JobOrigin sc s e.id
  entry_acc : ∀ e ∈ s.pending, e.kind ≠ .alsoComplete → AccOrigin sc s e.id e.reads
  launched_job : ∀ p ∈ s.launched, JobOrigin sc s p.1
  launched_acc : ∀ p ∈ s.launched, AccOrigin sc s p.1 p.2
  owner_static : ∀ e ∈ s.pending, e.owner ∈ sc.owners e.id
  also_static : ∀ o x, x ∈ s.alsoOf o → ∃ job ∈ sc.jobs, job.id = o ∧ x ∈ job.also
  skipped_origin : ∀ o ∈ s.skipped, ∃ q ∈ s.delivered, q ∈ sc.skippers o
  skipped_job : ∀ o ∈ s.skipped, o ∈ sc.owners o

theorem Scr.also_owner {sc : Script} {s : State} (hs : Scr sc s) {o x : Id} (hx : x ∈ s.alsoOf o) : o ∈ sc.owners x := by
  obtain ⟨job, hj, rfl, hxa⟩ := hs.also_static o x hx
  exact mem_owners hj (by simp [Job.ids, hxa])

/-- a delivered job was launched, so it is a job of the script -/
theorem Scr.done_job {sc : Script} {s : State} (hs : Scr sc s) (hh : Hist s) {o : Id} (ho : o ∈ s.delivered ∨ o ∈ s.skipped) :
    o ∈ sc.owners o := by
  rcases ho with ho | ho
  · obtain ⟨a, ha⟩ := hh.fin_launched o (hh.delivered_fin o ho)
    exact (hs.launched_job _ ha).isjob
  · exact hs.skipped_job o ho

theorem Scr.success_owner {sc : Script} {s : State} (hs : Scr sc s) (hh : Hist s) {x : Id} (hx : x ∈ s.success) :
    ∃ o ∈ sc.owners x, o ∈ s.delivered ∨ o ∈ s.skipped := by
  obtain ⟨o, ho, hxo⟩ := hh.succ_char x hx
  exact ⟨o, hxo.elim (fun e => e ▸ hs.done_job hh (o := o) ho) hs.also_owner, ho⟩

theorem Scr.entry_static {sc : Script} {s : State} (hs : Scr sc s) {e : Entry} (he : e ∈ s.pending)
    (hreal : e.kind ≠ .alsoComplete) : ∃ job ∈ sc.jobs, job.id = e.id := by
  obtain ⟨job, hj, _, hid⟩ := mem_owners_iff.1 (hs.entry_job e he hreal).isjob
  exact ⟨job, hj, hid⟩

/-- `Scr` looks at a pending entry only through its id, kind and owner and the origin of its read access -/
theorem Scr.pending_frame {sc : Script} {s : State} (hs : Scr sc s) {l : List Entry}
    (hl : ∀ e' ∈ l, ∃ e ∈ s.pending, e'.id = e.id ∧ e'.kind = e.kind ∧ e'.owner = e.owner ∧
      (e'.reads = e.reads ∨ AccOrigin sc s e.id e'.reads)) : Scr sc { s with pending := l } := by
  refine { hs with entry_job := ?_, entry_acc := ?_, owner_static := ?_ }
  · intro e' he' hk
    obtain ⟨e, he, hid, hkd, _, _⟩ := hl e' he'
    rw [hid]; exact hs.entry_job e he (hkd ▸ hk)
  · intro e' he' hk
    obtain ⟨e, he, hid, hkd, _, hr⟩ := hl e' he'
    rw [hid]
    rcases hr with hr | hr
    · rw [hr]; exact hs.entry_acc e he (hkd ▸ hk)
    · exact hr
  · intro e' he'
    obtain ⟨e, he, hid, _, ho, _⟩ := hl e' he'
    rw [hid, ho]; exact hs.owner_static e he

theorem scr_empty (sc : Script) : Scr sc State.empty := by
  constructor <;> simp [State.empty, State.alsoOf]

theorem scr_insertJob {sc : Script} {s s' : State} {j : Job} (hs : Scr sc s) (h : s.insertJob j = some s')
    (horigin : j ∈ sc.init ∨ ∃ q ∈ s.delivered, Effect.add j ∈ sc.effects q) : Scr sc s' := by
  have hal := insertJob_alsoOf h
  obtain ⟨hkind, cs, rfl, hcs, hnd, hnp⟩ := insertJob_spec h
  have hjobs : j ∈ sc.jobs := by
    rcases horigin with h | ⟨q, _, h⟩
    · exact init_mem_jobs h
    · exact spawns_mem_jobs (add_mem_spawns h)
  have hjo : JobOrigin sc s j.id := by
    rcases horigin with h | ⟨q, hq, h⟩
    · left; simp only [List.any_eq_true, decide_eq_true_eq]; exact ⟨j, h, rfl⟩
    · right; exact ⟨q, hq, mem_creators (add_mem_spawns h)⟩
  have all := fun {P : Entry → Prop} => (insertJob_pending h (P := P)).2
  refine { hs with also_static := ?_
                   entry_job := all ⟨fun _ => hjo, fun a _ hk => by simp [placeholder] at hk, hs.entry_job⟩
                   entry_acc := all ⟨fun _ => .inl (by simpa [jobEntry] using mem_initialAccesses hjobs),
                     fun a _ hk => by simp [placeholder] at hk, hs.entry_acc⟩
                   owner_static := all ⟨mem_owners hjobs (by simp [Job.ids, jobEntry]),
                     fun a ha => mem_owners hjobs (by simp [Job.ids, placeholder, ha]), hs.owner_static⟩ }
  · intro o x hx
    rw [hal o] at hx
    split at hx
    · rename_i ho
      exact ⟨j, hjobs, ho.1.symm, hx⟩
    · exact hs.also_static o x hx

theorem scr_launch {sc : Script} {s s' : State} {id : Id} (hs : Scr sc s) (h : s.launch id = some s') : Scr sc s' := by
  obtain ⟨e, rfl, he, rfl, hl⟩ := launch_spec h
  have hreal : e.kind ≠ .alsoComplete := (launchable_iff.1 hl).1
  have hp := hs.pending_frame (l := s.pending.map (setRunning e.id)) fun e' he' => by
    obtain ⟨y, hy, rfl⟩ := List.mem_map.1 he'
    exact ⟨y, hy, by simp⟩
  refine { hp with launched_job := ?_, launched_acc := ?_ }
  · intro p hp
    rcases List.mem_cons.1 hp with rfl | hp
    · exact hs.entry_job e he hreal
    · exact hs.launched_job p hp
  · intro p hp
    rcases List.mem_cons.1 hp with rfl | hp
    · exact hs.entry_acc e he hreal
    · exact hs.launched_acc p hp

theorem scr_finish {sc : Script} {s s' : State} {id : Id} (hs : Scr sc s) (h : s.finish id = some s') : Scr sc s' := by
  obtain ⟨e, cs, rfl, he, hid, hrun, hni, hdec⟩ := finish_spec h
  exact { hs with }

theorem scr_rewrite {sc : Script} {s s' : State} {id : Id} {a : Access} {m : Bool} (hs : Scr sc s)
    (h : s.rewrite id a m = some s') (horigin : ∃ q ∈ s.delivered, Effect.rewrite id a m ∈ sc.effects q) : Scr sc s' := by
  obtain rfl := rewrite_spec h
  obtain ⟨q, hq, hmem⟩ := horigin
  refine hs.pending_frame fun e' he' => ?_
  obtain ⟨y, hy, rfl⟩ := List.mem_map.1 he'
  refine ⟨y, hy, setReads_id .., setReads_kind .., setReads_owner .., ?_⟩
  unfold setReads
  split
  · rename_i hyid
    exact Or.inr (Or.inr ⟨q, hq, hyid ▸ mem_installers_iff.2 (rewrite_mem_rewrites hmem)⟩)
  · exact Or.inl rfl

theorem scr_complete {sc : Script} {s s' : State} {id : Id} (hs : Scr sc s) (h : s.complete id = some s') : Scr sc s' := by
  obtain ⟨rfl, _, _⟩ := complete_eq_some.1 h
  exact { hs.pending_frame fun e he => ⟨e, (List.mem_filter.1 he).1, rfl, rfl, rfl, .inl rfl⟩ with }

theorem scr_receive {sc : Script} {s s' : State} {id : Id} (hs : Scr sc s) (h : s.receive id = some s') : Scr sc s' := by
  obtain ⟨hin, _, hc⟩ := receive_spec h
  have m : ∀ x ∈ s.delivered, x ∈ id :: s.delivered := fun x hx => by simp [hx]
  refine scr_complete (s := { s with inflight := s.inflight.erase id, delivered := id :: s.delivered }) ?_ hc
  refine { hs with entry_job := ?_, entry_acc := ?_, launched_job := ?_, launched_acc := ?_, skipped_origin := ?_ }
  · intro e he hk; exact (hs.entry_job e he hk).mono m
  · intro e he hk; exact (hs.entry_acc e he hk).mono m
  · intro p hp; exact (hs.launched_job p hp).mono m
  · intro p hp; exact (hs.launched_acc p hp).mono m
  · intro x hx
    obtain ⟨q, hq, h⟩ := hs.skipped_origin x hx
    exact ⟨q, m q hq, h⟩

theorem scr_skip {sc : Script} {s s' : State} {id : Id} (hs : Scr sc s)
    (h : s.skip id = some s') (horigin : ∃ q ∈ s.delivered, Effect.skip id ∈ sc.effects q) : Scr sc s' := by
  rcases skip_spec h with ⟨_, rfl⟩ | ⟨o, cs, hc, ho, rfl, hrun, hreal, hdec⟩
  · exact hs
  · obtain ⟨q, hq, hmem⟩ := horigin
    refine scr_complete (s := { s with counters := cs, skipped := o.id :: s.skipped }) ?_ hc
    refine { hs with skipped_origin := ?_, skipped_job := ?_ }
    · intro x hx
      simp only [List.mem_cons] at hx
      rcases hx with rfl | hx
      · exact ⟨q, hq, mem_skippers_iff.2 (skip_mem_skips hmem)⟩
      · exact hs.skipped_origin x hx
    · intro x hx
      simp only [List.mem_cons] at hx
      rcases hx with rfl | hx
      · exact (hs.entry_job o ho hreal).isjob
      · exact hs.skipped_job x hx

theorem scr_atom {sc : Script} {s s' : State} (hs : Scr sc s) (a : Atom (· ∈ sc.init) sc s s') : Scr sc s' := by
  cases a with
  | insert ho h => exact scr_insertJob hs h ho
  | launch h => exact scr_launch hs h
  | finish h => exact scr_finish hs h
  | receive h => exact scr_receive hs h
  | rewrite ho h => exact scr_rewrite hs h ho
  | skip ho h => exact scr_skip hs h ho

theorem ReachInit.scr {sc : Script} {s : State} (r : ReachInit sc s) : Scr sc s :=
  r.atoms.preserves scr_atom (scr_empty sc)

theorem ReachInit.mem_inserted {sc : Script} {s : State} (r : ReachInit sc s) {x : Id} :
    x ∈ s.inserted ↔ x ∈ sc.initIds ∨ ∃ q ∈ s.delivered, x ∈ sc.addedIds q := by
  induction r with
  | init h =>
    have i := insertAll_inserts h
    rw [i.mem, i.delivered]
    simp [State.empty, Script.initIds]
  | launch id _ h ih => obtain ⟨e, rfl, _⟩ := launch_spec h; exact ih
  | finish id _ h ih => obtain ⟨e, cs, rfl, _⟩ := finish_spec h; exact ih
  | deliver id _ h ih =>
    obtain ⟨⟨l, p, e⟩, hd, _⟩ := deliver_history h
    rw [e, hd, List.mem_append, p.mem_iff, ih]
    simp only [List.mem_cons, exists_eq_or_imp, or_left_comm]

theorem ReachInit.init_inserted {sc : Script} {s : State} (r : ReachInit sc s) : ∀ x ∈ sc.initIds, x ∈ s.inserted :=
  fun _ hx => r.mem_inserted.2 (.inl hx)

theorem ReachInit.added_inserted {sc : Script} {s : State} (r : ReachInit sc s) :
    ∀ q ∈ s.delivered, ∀ x ∈ sc.addedIds q, x ∈ s.inserted :=
  fun q hq _ hx => r.mem_inserted.2 (.inr ⟨q, hq, hx⟩)

end Fontc.Sched
