/-
  C13, include resolution (model: FontcModel/FeaInclude.lean).

  Both loops of context.rs terminate on every graph (`loadStep_wf`, `validateStep_wf`): a lexicographic
  measure (files not yet in the visited set, remaining work on the stack) decreases in every iteration.

  `IncludeGraph::validate` is a depth-first search with an explicit stack; an invariant over its run
  (`InvRun`) shows that when it ends, every file that was finished has all its *unreported* include
  statements pointing at files that were finished earlier (`FinOK`).  A duplicate-free list in such an order
  holds no cycle, whatever the relation (`Topo.acyclic`).  Hence the graph that `generate_recurse` follows
  (reported statements skipped) has no cycle reachable from the root (`validate_kept_acyclic`), and a
  reachable cycle always produces at least one error (`validate_reports_cycle`).
  Two peculiarities of the real code are covered: the root is not put into `seen`, so it can be entered a
  second time (the frame at the bottom of the stack is treated as a copy that is never "finished"), and
  the cycle test also fires for an edge back to the root after that second visit has ended (the proof never asks
  whether a report is justified: a report only removes an edge from the graph that is followed).
-/
import FontcModel.FeaInclude

namespace Fontc.FeaInclude

theorem wf_of_lex_decreases {α : Type} {step : α → Option α} {m : α → Nat × Nat}
    (h : ∀ s s', step s = some s' → Prod.Lex (· < ·) (· < ·) (m s') (m s)) :
    WellFounded (fun s' s : α => step s = some s') :=
  Subrelation.wf (fun {s' s} hs => h s s' hs) (InvImage.wf m (Prod.lex Nat.lt_wfRel Nat.lt_wfRel).wf)

theorem loadStep_wf (g : Graph) : WellFounded (fun s' s : LoadState => loadStep g s = some s') :=
  wf_of_lex_decreases (loadStep_decreases g)

theorem validateStep_wf (g : Graph) : WellFounded (fun s' s : VState => validateStep g s = some s') :=
  wf_of_lex_decreases (validateStep_decreases g)

theorem Reach.mono {r r' : Nat → Nat → Prop} (h : ∀ a b, r a b → r' a b) {a b : Nat} (hab : Reach r a b) :
    Reach r' a b := by
  induction hab with
  | refl => exact .refl _
  | step _ hk ih => exact .step ih (h _ _ hk)

theorem ReachPlus.mono {r r' : Nat → Nat → Prop} (h : ∀ a b, r a b → r' a b) {a b : Nat} (hab : ReachPlus r a b) :
    ReachPlus r' a b := by
  induction hab with
  | single hk => exact .single (h _ _ hk)
  | step _ hk ih => exact .step ih (h _ _ hk)

/-- `l` lists nodes so that every `r`-successor of a member comes later in the list -/
def Topo (r : Nat → Nat → Prop) : List Nat → Prop
  | [] => True
  | u :: later => (∀ v, r u v → v ∈ later) ∧ Topo r later

theorem Topo.mono {r r' : Nat → Nat → Prop} (h : ∀ u v, r' u v → r u v) : ∀ {l}, Topo r l → Topo r' l
  | [], _ => trivial
  | _ :: _, ht => ⟨fun v hv => ht.1 v (h _ v hv), Topo.mono h ht.2⟩

theorem Topo.closed {r : Nat → Nat → Prop} : ∀ {l}, Topo r l → ∀ u ∈ l, ∀ v, r u v → v ∈ l
  | _ :: _, ht, u, hu, v, hr => by
    rcases List.mem_cons.1 hu with rfl | hu
    · exact List.mem_cons_of_mem _ (ht.1 v hr)
    · exact List.mem_cons_of_mem _ (ht.2.closed u hu v hr)

theorem Topo.reach {r : Nat → Nat → Prop} {l : List Nat} (ht : Topo r l) {u v : Nat} (hu : u ∈ l)
    (h : Reach r u v) : v ∈ l := by
  induction h with
  | refl => exact hu
  | step _ hk ih => exact ht.closed _ ih _ hk

theorem Topo.later {r : Nat → Nat → Prop} {u : Nat} {later : List Nat} (ht : Topo r (u :: later)) {v : Nat}
    (h : ReachPlus r u v) : v ∈ later := by
  induction h with
  | single hk => exact ht.1 _ hk
  | step _ hk ih => exact ht.2.closed _ ih _ hk

theorem Topo.suffix {r : Nat → Nat → Prop} : ∀ (pre : List Nat) {l}, Topo r (pre ++ l) → Topo r l
  | [], _, h => h
  | _ :: pre, _, h => Topo.suffix pre h.2

theorem Topo.acyclic {r : Nat → Nat → Prop} {l : List Nat} (ht : Topo r l) (hnd : l.Nodup) {u v : Nat} (hu : u ∈ l)
    (huv : Reach r u v) : ¬ ReachPlus r v v := by
  intro hcyc
  -- `v` is a member, and a cycle through `v` would put it once more among the members after itself
  obtain ⟨pre, later, rfl⟩ := List.append_of_mem (ht.reach hu huv)
  exact (List.nodup_cons.1 (List.nodup_append.1 hnd).2.1).1 ((ht.suffix pre).later hcyc)

def upperNodes (st : List Frame) : List Nat := (st.dropLast).map (·.node)

theorem upperNodes_single (a : Frame) : upperNodes [a] = [] := rfl

theorem isBad_mono {bad bad' : List IncludeError} (h : bad ⊆ bad') {u i : Nat} (hb : isBad bad u i = true) :
    isBad bad' u i = true := by
  obtain ⟨e, he, hp⟩ := List.any_eq_true.1 hb
  exact List.any_eq_true.2 ⟨e, h he, hp⟩

theorem isBad_append_self {bad : List IncludeError} {u i : Nat} {k : ErrKind} :
    isBad (bad ++ [⟨u, i, k⟩]) u i = true := by
  unfold isBad
  rw [List.any_append]
  simp

theorem keptEdge_mono {g : Graph} {bad bad' : List IncludeError} (hb : bad ⊆ bad') (u v : Nat)
    (hk : keptEdge g bad' u v) : keptEdge g bad u v := by
  obtain ⟨i, hv, hnb⟩ := hk
  exact ⟨i, hv, by cases h : isBad bad u i with | false => rfl | true => rw [isBad_mono hb h] at hnb; cases hnb⟩

/-- every edge of frame `f` that has been looked at is reported or leads to a file of `known` -/
def FrameOK (g : Graph) (bad : List IncludeError) (known : List Nat) (f : Frame) : Prop :=
  ∀ i v, i < f.cur → (edgesOf g f.node)[i]? = some v → isBad bad f.node i = true ∨ v ∈ known

theorem FrameOK.fresh {g : Graph} {bad : List IncludeError} {known : List Nat} {n : Nat} : FrameOK g bad known ⟨n, 0⟩ :=
  fun _ _ hi => absurd hi (Nat.not_lt_zero _)

theorem FrameOK.mono {g : Graph} {bad bad' : List IncludeError} {known known' : List Nat} {f : Frame} (hb : bad ⊆ bad')
    (hk : known ⊆ known') (h : FrameOK g bad known f) : FrameOK g bad' known' f :=
  fun i v hi hv => (h i v hi hv).imp (isBad_mono hb) (@hk v)

theorem FrameOK.kept {g : Graph} {bad : List IncludeError} {known : List Nat} {f : Frame} (h : FrameOK g bad known f)
    (hnone : (edgesOf g f.node)[f.cur]? = none) (v : Nat) (hk : keptEdge g bad f.node v) : v ∈ known := by
  obtain ⟨i, hv, hnb⟩ := hk
  have h1 := (List.getElem?_eq_some_iff.1 hv).1
  have h2 := List.getElem?_eq_none_iff.1 hnone
  exact (h i v (by omega) hv).resolve_left (by rw [hnb]; nofun)

/-- `known` is, for the top frame, the finished files; for a frame below, also the files of the frames above it (the
    edge being explored right now leads to the nearest of them).  So when the top frame goes and its file is finished,
    nothing changes for the frames below. -/
def FramesOK (g : Graph) (bad : List IncludeError) : List Nat → List Frame → Prop
  | _, [] => True
  | known, f :: rest => FrameOK g bad known f ∧ FramesOK g bad (f.node :: known) rest

theorem FramesOK.mono {g : Graph} {bad bad' : List IncludeError} (hb : bad ⊆ bad') :
    ∀ {st : List Frame} {known known' : List Nat}, known ⊆ known' → FramesOK g bad known st →
      FramesOK g bad' known' st
  | [], _, _, _, _ => trivial
  | _ :: _, _, _, hk, h => ⟨h.1.mono hb hk, h.2.mono hb (List.cons_subset_cons _ hk)⟩

theorem FramesOK.advance {g : Graph} {bad bad' : List IncludeError} {known known' : List Nat} {f : Frame}
    {rest : List Frame} {child : Nat} (h : FramesOK g bad known (f :: rest))
    (hchild : (edgesOf g f.node)[f.cur]? = some child) (hb : bad ⊆ bad') (hk : known ⊆ known')
    (hedge : isBad bad' f.node f.cur = true ∨ child ∈ known') :
    FramesOK g bad' known' ({ f with cur := f.cur + 1 } :: rest) := by
  refine ⟨fun i v hi hv => ?_, h.2.mono hb (List.cons_subset_cons _ hk)⟩
  by_cases hic : i = f.cur
  · subst hic
    rw [show v = child from Option.some.inj (hv.symm.trans hchild)]
    exact hedge
  · exact h.1.mono hb hk i v (by have : i < f.cur + 1 := hi; omega) hv

/-- the finished files, newest first: unreported edges of a finished file lead to files finished earlier -/
abbrev FinOK (g : Graph) (bad : List IncludeError) : List Nat → Prop := Topo (keptEdge g bad)

/-- The search in progress.  `grey`: the files of the frames above the bottom frame, which is the root's; `fin`: the
    finished files, newest first.  Together they are `seen`, each file once. -/
structure InvRun (g : Graph) (root : Nat) (s : VState) (fin grey : List Nat) : Prop where
  nodes : s.stack.map (·.node) = grey ++ [root]
  frames : FramesOK g s.bad fin s.stack
  seenNodup : s.seen.Nodup
  seenPerm : s.seen.Perm (fin ++ grey)
  finOK : FinOK g s.bad fin

/-- the search has ended: a duplicate-free list of files in finishing order that holds the root -/
def Done (g : Graph) (root : Nat) (bad : List IncludeError) : Prop :=
  ∃ l, FinOK g bad l ∧ l.Nodup ∧ root ∈ l

/-- the root is not in `seen`, so it may or may not have been finished as an inner file as well -/
theorem done_of_root {g : Graph} {root : Nat} {bad : List IncludeError} {fin : List Nat} (hnd : fin.Nodup)
    (ht : FinOK g bad fin) (hroot : ∀ v, keptEdge g bad root v → v ∈ fin) : Done g root bad := by
  by_cases h : root ∈ fin
  · exact ⟨fin, ht, hnd, h⟩
  · exact ⟨root :: fin, ⟨hroot, ht⟩, List.nodup_cons.2 ⟨h, hnd⟩, List.mem_cons_self⟩

theorem InvRun.init {g : Graph} {root : Nat} : InvRun g root { stack := [⟨root, 0⟩], seen := [], bad := [] } [] [] :=
  ⟨rfl, ⟨.fresh, trivial⟩, List.nodup_nil, .nil, trivial⟩

theorem InvRun.step {g : Graph} {root : Nat} {s : VState} {fin grey : List Nat} (hinv : InvRun g root s fin grey) :
    ∃ s', validateStep g s = some s' ∧
      ((∃ fin' grey', InvRun g root s' fin' grey') ∨ (validateStep g s' = none ∧ Done g root s'.bad)) := by
  obtain ⟨hn, hfr, hnd, hperm, hfin⟩ := hinv
  cases hst : s.stack with
  | nil => rw [hst] at hn; cases grey <;> cases hn
  | cons f rest =>
    rw [hst] at hn hfr
    have unseen : ∀ child, s.seen.contains child = false → (child :: s.seen).Nodup :=
      fun child hns => List.nodup_cons.2 ⟨by simpa using hns, hnd⟩
    apply validateStep_cases hst
    case onPop =>
      intro hnone
      cases grey with
      | nil =>
        -- the bottom frame: the search ends
        obtain ⟨hroot, rfl⟩ : f.node = root ∧ rest = [] := by simpa using hn
        exact Or.inr ⟨rfl, done_of_root ((List.append_nil fin ▸ hperm).nodup_iff.1 hnd) hfin
          (hroot ▸ hfr.1.kept hnone)⟩
      | cons x grey' =>
        -- `f.node` is finished; the frames below were checked against `f.node :: fin` already
        obtain ⟨rfl, hn'⟩ : f.node = x ∧ rest.map (·.node) = grey' ++ [root] := by simpa using hn
        exact Or.inl ⟨f.node :: fin, grey', hn', hfr.2, hnd, hperm.trans List.perm_middle, hfr.1.kept hnone, hfin⟩
    case onReport =>
      -- an edge that is reported (too deep, or a cycle) changes nothing else
      intro child k hchild
      have hb := List.subset_append_left s.bad [⟨f.node, f.cur, k⟩]
      exact Or.inl ⟨fin, grey, hn, hfr.advance hchild hb (List.Subset.refl _) (Or.inl isBad_append_self),
        hnd, hperm, hfin.mono (keptEdge_mono hb)⟩
    case onLeaf =>
      -- a new file without includes is finished at once
      intro child hchild hns hnil
      refine Or.inl ⟨child :: fin, grey, hn, hfr.advance hchild (List.Subset.refl _)
        (List.subset_cons_self _ _) (Or.inr List.mem_cons_self), unseen child hns, hperm.cons child, ?_, hfin⟩
      rintro v ⟨i, hv, _⟩
      rw [hnil] at hv
      cases hv
    case onPush =>
      intro child hchild hns _
      exact Or.inl ⟨fin, child :: grey, congrArg (List.cons child) hn,
        ⟨.fresh, hfr.advance hchild (List.Subset.refl _)
          (List.subset_cons_self _ _) (Or.inr List.mem_cons_self)⟩,
        unseen child hns, (hperm.cons child).trans List.perm_middle.symm, hfin⟩
    case onSeen =>
      -- the child was seen and is not on the stack: it is finished
      intro child hchild hs hnot
      have hcfin : child ∈ fin :=
        (List.mem_append.1 (hperm.mem_iff.1 (List.contains_iff_mem.1 hs))).resolve_right
          fun h => hnot (hn ▸ List.mem_append_left _ h)
      exact Or.inl ⟨fin, grey, hn, hfr.advance hchild (List.Subset.refl _) (List.Subset.refl _) (Or.inr hcfin),
        hnd, hperm, hfin⟩

theorem runValidate_done {g : Graph} {root : Nat} {s : VState} :
    (∃ fin grey, InvRun g root s fin grey) ∨ (validateStep g s = none ∧ Done g root s.bad) →
      Done g root (runValidate g s) := by
  fun_induction runValidate g s with
  | case1 s hnone =>
    rintro (⟨fin, grey, hinv⟩ | ⟨_, hd⟩)
    · obtain ⟨s', h, _⟩ := hinv.step
      rw [hnone] at h
      cases h
    · exact hd
  | case2 s s' hstep ih =>
    rintro (⟨fin, grey, hinv⟩ | ⟨hnone, _⟩)
    · obtain ⟨t, h, h'⟩ := hinv.step
      rw [hstep] at h
      cases h
      exact ih h'
    · rw [hnone] at hstep
      cases hstep

/-- `include_cycle_reported`, first half: skipping the reported statements leaves no cycle reachable from the root -/
theorem validate_kept_acyclic (g : Graph) (root : Nat) :
    ∀ v, Reach (keptEdge g (validate g root)) root v → ¬ ReachPlus (keptEdge g (validate g root)) v v := by
  have done : Done g root (validate g root) := by
    unfold validate
    split
    · -- the root has no resolvable include: nothing is reachable
      rename_i hemp
      refine done_of_root List.nodup_nil trivial ?_
      rintro v ⟨i, hv, _⟩
      rw [show edgesOf g root = [] by simpa using hemp] at hv
      cases hv
    · exact runValidate_done (Or.inl ⟨[], [], .init⟩)
  obtain ⟨l, ht, hnd, hr⟩ := done
  exact fun v hv => ht.acyclic hnd hr hv

/-- `include_cycle_reported`, second half: a cycle that the root can reach always produces an error -/
theorem validate_reports_cycle {g : Graph} {root : Nat}
    (h : ∃ v, Reach (edge g) root v ∧ ReachPlus (edge g) v v) : validate g root ≠ [] := by
  intro hnil
  obtain ⟨v, hr, hc⟩ := h
  have kept : ∀ a b, edge g a b → keptEdge g [] a b := fun _ _ ⟨i, hv⟩ => ⟨i, hv, rfl⟩
  have := validate_kept_acyclic g root v
  rw [hnil] at this
  exact this (hr.mono kept) (hc.mono kept)

end Fontc.FeaInclude
