/- C17: the head bbox is a union, so each of its sides a selection fold; `bbox_of_composite` returns the bounding
   rectangle of the resolved points; the loca offsets are the running sums of the record sizes. -/
import FontcModel.Limits
import FontcProofs.ListFacts
import FontcProofs.LimitsMaxp

namespace Fontc.Limits

theorem optUnion_eq : optUnion = optFold Box.union := by funext o b; cases o <;> rfl

theorem headBbox_eq (gs : List Glyph) :
    headBbox gs = ((gs.filterMap (·.bbox)).foldl optUnion none).getD Box.zero := by
  simp [headBbox, maxBuilderOf, MaxBuilder.foldl_update]

theorem headBbox_proj {gs : List Glyph} (p : Box → Int) (op : Int → Int → Int)
    (hp : ∀ a b, p (a.union b) = op (p a) (p b)) (h0 : p Box.zero = 0) :
    p (headBbox gs) = (((gs.filterMap (·.bbox)).map p).foldl (optFold op) none).getD 0 := by
  rw [headBbox_eq, optUnion_eq, ← Option.map_none p, ← map_foldl_optFold hp, ← h0, Option.getD_map]

/-- bounding rectangle of a point list, folded the way `bbox_of_composite` folds -/
def ptsRect (acc : Option Rect) (pts : List (Rat × Rat)) : Option Rect :=
  pts.foldl (fun a p => some (Rect.addPt a p)) acc

theorem ptsRect_append (acc : Option Rect) (xs ys : List (Rat × Rat)) :
    ptsRect acc (xs ++ ys) = ptsRect (ptsRect acc xs) ys := by
  simp [ptsRect, List.foldl_append]

/-- `Rect::from_points(p, p)` -/
def ptRect (p : Rat × Rat) : Rect := ⟨p.1, p.2, p.1, p.2⟩

theorem ptsRect_eq (acc : Option Rect) (pts : List (Rat × Rat)) :
    ptsRect acc pts = (pts.map ptRect).foldl (optFold Rect.union) acc := by
  rw [List.foldl_map]
  exact congrArg (fun f => List.foldl f acc pts) (funext fun a => funext fun p => by cases a <;> rfl)

theorem ptsRect_none_eq_none {ps : List (Rat × Rat)} (h : ptsRect none ps = none) : ps = [] := by
  cases ps with
  | nil => rfl
  | cons p ps =>
    rw [ptsRect_eq] at h
    exact absurd (h.symm.trans (foldl_optFold_some Rect.union _ (ptRect p))) (by simp)

theorem ratMin_eq (a b : Rat) : ratMin a b = if b < a then b else a := by unfold ratMin; grind
theorem ratMax_eq (a b : Rat) : ratMax a b = if a < b then b else a := by unfold ratMax; grind

theorem ratMin_assoc (a b c : Rat) : ratMin (ratMin a b) c = ratMin a (ratMin b c) := by
  unfold ratMin; grind
theorem ratMax_assoc (a b c : Rat) : ratMax (ratMax a b) c = ratMax a (ratMax b c) := by
  unfold ratMax; grind

instance : Std.Associative Rect.union :=
  ⟨fun a b c => by simp [Rect.union, ratMin_assoc, ratMax_assoc]⟩

theorem ptsRect_some_eq_union (a : Rect) {ps : List (Rat × Rat)} {r : Rect} (h : ptsRect none ps = some r) :
    ptsRect (some a) ps = some (a.union r) := by
  rw [ptsRect_eq] at h ⊢
  rw [foldl_optFold_some, foldl_eq_of_optFold h]

/-- `bboxOfComposite` and `resolvedPoints` recurse alike; at each component the accumulator takes in the points met there. -/
theorem bboxOfComposite_eq {g : List Shape} {fuel : Nat} {comps : List Component} {t : Affine} {acc : Option Rect} :
    ∀ r, bboxOfComposite g fuel comps t acc = some r → r = ptsRect acc (resolvedPoints g fuel comps t) := by
  fun_induction bboxOfComposite g fuel comps t acc with
  | case1 fuel t acc =>
    intro r h
    rw [resolvedPoints]
    exact (Option.some.inj h).symm
  -- no fuel left, a missing glyph, a failing child
  | case2 | case3 | case6 =>
    intro r h
    cases h
  | case4 fuel c rest t acc hg ih =>
    rw [resolvedPoints]
    simp only [hg, List.nil_append]
    exact ih
  | case5 fuel c rest t acc t' contours hg acc' ih =>
    rw [resolvedPoints]
    simp only [hg]
    rw [ptsRect_append, show ptsRect acc (contours.flatten.map fun p => t'.apply (ptToRat p)) = acc' from List.foldl_map ..]
    exact ih
  | case7 fuel c rest t acc t' comps hg hchild ih1 ih2 =>
    rw [resolvedPoints]
    simp only [hg]
    rw [show resolvedPoints g fuel comps t' = [] from ptsRect_none_eq_none (ih1 none hchild).symm]
    exact ih2
  | case8 fuel c rest t acc t' comps hg child hchild acc' ih1 ih2 =>
    rw [resolvedPoints]
    simp only [hg]
    have hacc : ptsRect acc (resolvedPoints g fuel comps t') = acc' := by
      cases acc with
      | none => exact (ih1 _ hchild).symm
      | some a => exact ptsRect_some_eq_union a (ih1 _ hchild).symm
    rw [ptsRect_append, hacc]
    exact ih2

theorem ptsRect_proj {R : Rat → Rat → Prop} {op : Rat → Rat → Rat} (hs : Selects R op) (p : Rect → Rat)
    (q : Rat × Rat → Rat) (hp : ∀ a b, p (a.union b) = op (p a) (p b)) (hq : ∀ x, p (ptRect x) = q x)
    {ps : List (Rat × Rat)} {r : Rect} (h : ptsRect none ps = some r) :
    ∃ pt ∈ ps, q pt = p r ∧ ∀ z ∈ ps, R (q pt) (q z) := by
  have hne : ps.map q ≠ [] := by
    cases ps with
    | nil => cases h
    | cons _ _ => simp
  obtain ⟨v, hv, hb, hm⟩ := foldl_optFold_none hs hne
  have hpr := map_foldl_optFold hp (ps.map ptRect) none
  rw [← ptsRect_eq, h, List.map_map, show p ∘ ptRect = q from funext hq, Option.map_none, hv] at hpr
  cases hpr
  obtain ⟨pt, hpt, e⟩ := List.mem_map.1 hm
  exact ⟨pt, hpt, e, fun z hz => e ▸ hb _ (List.mem_map_of_mem hz)⟩

theorem ptsRect_bounds (ps : List (Rat × Rat)) {r : Rect} (h : ptsRect none ps = some r) :
    (∃ p ∈ ps, p.1 = r.x0 ∧ ∀ q ∈ ps, p.1 ≤ q.1) ∧ (∃ p ∈ ps, p.2 = r.y0 ∧ ∀ q ∈ ps, p.2 ≤ q.2) ∧
    (∃ p ∈ ps, p.1 = r.x1 ∧ ∀ q ∈ ps, q.1 ≤ p.1) ∧ (∃ p ∈ ps, p.2 = r.y1 ∧ ∀ q ∈ ps, q.2 ≤ p.2) :=
  ⟨ptsRect_proj selects_min_rat Rect.x0 Prod.fst (fun _ _ => ratMin_eq _ _) (fun _ => rfl) h,
   ptsRect_proj selects_min_rat Rect.y0 Prod.snd (fun _ _ => ratMin_eq _ _) (fun _ => rfl) h,
   ptsRect_proj selects_max_rat Rect.x1 Prod.fst (fun _ _ => ratMax_eq _ _) (fun _ => rfl) h,
   ptsRect_proj selects_max_rat Rect.y1 Prod.snd (fun _ _ => ratMax_eq _ _) (fun _ => rfl) h⟩

theorem rectToBox_of_le (r : Rect) (hx : r.x0 ≤ r.x1) (hy : r.y0 ≤ r.y1) :
    rectToBox r = ⟨satI16 (otRound r.x0), satI16 (otRound r.y0), satI16 (otRound r.x1), satI16 (otRound r.y1)⟩ := by
  simp [rectToBox, ratMin, ratMax, hx, hy]

theorem glyphBbox_composite {g : List Shape} {fuel : Nat} {comps : List Component} {b : Box}
    (h : glyphBbox g fuel (.composite comps) = some (some b)) :
    (resolvedPoints g fuel comps Affine.identity = [] ∧ b = Box.zero) ∨
    ∃ r, ptsRect none (resolvedPoints g fuel comps Affine.identity) = some r ∧ b = rectToBox r := by
  unfold glyphBbox at h
  cases hb : bboxOfComposite g fuel comps Affine.identity none with
  | none => simp [hb] at h
  | some r =>
    have hr := (bboxOfComposite_eq r hb).symm
    cases r with
    | none => exact Or.inl ⟨ptsRect_none_eq_none hr, by simpa [hb] using h.symm⟩
    | some r => exact Or.inr ⟨r, hr, by simpa [hb] using h.symm⟩

/-- the running end positions from `pos` on, without `pos` itself -/
def prefixSums (pos : Nat) : List Nat → List Nat
  | [] => []
  | s :: rest => (pos + s) :: prefixSums (pos + s) rest

theorem locaOffsets_fold (sizes : List Nat) (acc : List Nat) (pos : Nat) :
    (sizes.foldl (fun (a : List Nat × Nat) s => (a.1 ++ [a.2 + s], a.2 + s)) (acc, pos)) =
      (acc ++ prefixSums pos sizes, pos + sizes.sum) := by
  induction sizes generalizing acc pos with
  | nil => simp [prefixSums]
  | cons s rest ih =>
    simp only [List.foldl_cons, ih, prefixSums, List.sum_cons, List.append_assoc, List.singleton_append]
    simp [Nat.add_assoc]

theorem locaOffsets_eq (sizes : List Nat) : locaOffsets sizes = 0 :: prefixSums 0 sizes := by
  simp [locaOffsets, locaOffsets_fold]

/-- consecutive differences: for loca offsets, the glyph record sizes -/
def diffs : List Nat → List Nat
  | a :: b :: rest => (b - a) :: diffs (b :: rest)
  | _ => []

/-- everything `loca` needs to know about the running end positions, in one induction over the sizes -/
theorem prefixSums_spec (pos : Nat) (sizes : List Nat) :
    (pos :: prefixSums pos sizes).getLast? = some (pos + sizes.sum) ∧
    diffs (pos :: prefixSums pos sizes) = sizes ∧
    (∀ o ∈ prefixSums pos sizes, o ≤ pos + sizes.sum) ∧
    (pos % 2 = 0 → ((∀ o ∈ prefixSums pos sizes, o % 2 = 0) ↔ ∀ s ∈ sizes, s % 2 = 0)) := by
  induction sizes generalizing pos with
  | nil => simp [prefixSums, diffs]
  | cons s rest ih =>
    obtain ⟨h1, h2, h3, h4⟩ := ih (pos + s)
    simp only [prefixSums, List.sum_cons, List.getLast?_cons_cons, diffs, List.mem_cons, forall_eq_or_imp, h1, h2]
    refine ⟨by rw [Nat.add_assoc], by simp, ⟨by omega, fun o ho => by have := h3 o ho; omega⟩, fun hp => ?_⟩
    by_cases hs : s % 2 = 0
    · have := h4 (by omega)
      simp only [hs, true_and, this, (by omega : (pos + s) % 2 = 0)]
    · have : ¬ (pos + s) % 2 = 0 := by omega
      simp only [hs, this, false_and]

theorem locaOffsets_spec (sizes : List Nat) :
    (locaOffsets sizes).head? = some 0 ∧ (locaOffsets sizes).getLast? = some sizes.sum ∧
    diffs (locaOffsets sizes) = sizes ∧ (∀ o ∈ locaOffsets sizes, o ≤ sizes.sum) ∧
    ((∀ o ∈ locaOffsets sizes, o % 2 = 0) ↔ ∀ s ∈ sizes, s % 2 = 0) := by
  obtain ⟨hlast, hdiff, hle, heven⟩ := prefixSums_spec 0 sizes
  rw [Nat.zero_add] at hlast hle
  rw [locaOffsets_eq]
  exact ⟨rfl, hlast, hdiff, by simpa using hle, by rw [← heven rfl]; simp⟩

theorem locaFormat_short_iff (sizes : List Nat) :
    locaFormat (locaOffsets sizes) = .short ↔ (sizes.sum < 0x20000 ∧ ∀ s ∈ sizes, s % 2 = 0) := by
  obtain ⟨_, hlast, _, _, heven⟩ := locaOffsets_spec sizes
  simp only [locaFormat, hlast, Option.getD_some, ← heven, List.all_eq_true, beq_iff_eq]
  constructor
  · intro h
    split at h
    · assumption
    · cases h
  · exact fun h => if_pos h

theorem locaDecode_encode {fmt : LocaFormat} {offs : List Nat}
    (hs : fmt = .short → ∀ o ∈ offs, o % 2 = 0 ∧ o < 0x20000) (hl : ∀ o ∈ offs, o < 4294967296) :
    locaDecode fmt (locaEncode fmt offs) = offs := by
  cases fmt with
  | short =>
    simp only [locaDecode, locaEncode, List.map_map]
    refine map_eq_self fun o ho => ?_
    have := hs rfl o ho
    simp only [Function.comp]
    omega
  | long =>
    simp only [locaDecode, locaEncode]
    refine map_eq_self fun o ho => ?_
    have := hl o ho
    omega

end Fontc.Limits
