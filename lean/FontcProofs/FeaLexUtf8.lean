/-
  C13: from "`EndOK` position" to "valid position of a Lean `String`".

  A Lean `String` is by definition a byte array that is valid UTF-8, and `String.Pos.Raw.IsValid s p` says
  that `p` is a character boundary: by core's `isValid_iff_isUTF8FirstByte`, `p` is the end, or the byte at
  `p` can start a character.  The only fact about UTF-8 the lexer needs: an ASCII byte is a character of its
  own, so the positions in front of it and after it are both boundaries (`isValid_of_ascii`,
  `isValid_after_ascii`).
-/
import FontcProofs.FeaLex
namespace Fontc.FeaLex

theorem ascii_first {b : UInt8} (h : b < 0x80) : b &&& 0x80 = 0 := by
  apply UInt8.toNat_inj.1
  rw [UInt8.toNat_and]
  show b.toNat &&& 2 ^ 7 = 0
  -- the only bit of `2 ^ 7` is bit 7, which a number below `2 ^ 7` does not have
  apply Nat.eq_of_testBit_eq
  intro i
  rw [Nat.testBit_and, Nat.testBit_two_pow, Nat.zero_testBit]
  by_cases e : 7 = i
  · rw [← e, Nat.testBit_lt_two_pow (UInt8.lt_iff_toNat_lt.1 h)]; rfl
  · rw [decide_eq_false e, Bool.and_false]

theorem getUTF8Byte_eq_nth (s : String) (q : Nat) (h : String.Pos.Raw.mk q < s.rawEndPos) :
    s.getUTF8Byte ⟨q⟩ h = nth s.toUTF8.data q 0 := by
  have hq : q < s.utf8ByteSize := by simpa [String.Pos.Raw.lt_iff] using h
  simp [String.getUTF8Byte, nth, hq]
  rfl

theorem isValid_of_ascii {s : String} {q : Nat} (hq : q < s.utf8ByteSize) (hasc : nth s.toUTF8.data q 0 < 0x80) :
    (String.Pos.Raw.mk q).IsValid s := by
  have hlt : String.Pos.Raw.mk q < s.rawEndPos := by simpa [String.Pos.Raw.lt_iff] using hq
  refine String.Pos.Raw.isValid_iff_isUTF8FirstByte.2 (Or.inr ⟨hlt, Or.inl ?_⟩)
  rw [getUTF8Byte_eq_nth]
  exact ascii_first hasc

/-- the position after an ASCII byte is the `next` position after the (valid) position of that byte: the
    character there has the ASCII byte as its first byte, hence `utf8Size = 1` -/
theorem isValid_after_ascii {s : String} {q : Nat} (hq : q < s.utf8ByteSize) (hasc : nth s.toUTF8.data q 0 < 0x80) :
    (String.Pos.Raw.mk (q + 1)).IsValid s := by
  let pos : s.Pos := ⟨⟨q⟩, isValid_of_ascii hq hasc⟩
  have hlt : String.Pos.Raw.mk q < s.rawEndPos := by simpa [String.Pos.Raw.lt_iff] using hq
  have hne : pos ≠ s.endPos := by
    intro h
    have := congrArg (fun p => p.offset.byteIdx) h
    simp [pos] at this
    omega
  have hsize : (pos.get hne).utf8Size = 1 := by
    have hbyte : pos.byte hne = s.getUTF8Byte ⟨q⟩ hlt := by
      simp [String.Pos.byte, String.Slice.Pos.byte, String.Slice.getUTF8Byte, pos]
    have hb : pos.byte hne &&& 0x80 = 0 := by
      rw [hbyte, getUTF8Byte_eq_nth]
      exact ascii_first hasc
    rw [← String.Pos.utf8ByteSize_byte]
    simp [UInt8.utf8ByteSize, hb]
  have hoff : (pos.next hne).offset = ⟨q + 1⟩ := by
    ext
    rw [String.Pos.byteIdx_offset_next, hsize]
  exact hoff ▸ (pos.next hne).isValid

theorem endOK_isValid {s : String} {p : Nat} (h : EndOK s.toUTF8.data p) : (String.Pos.Raw.mk p).IsValid s := by
  have hsz : s.toUTF8.data.size = s.utf8ByteSize := rfl
  rcases h with h | h | ⟨h0, hle, hasc⟩
  · rw [h, hsz]
    exact String.Pos.Raw.isValid_iff_isUTF8FirstByte.2 (Or.inl rfl)
  · exact isValid_of_ascii (hsz ▸ h.1) h.2
  · have e : p - 1 + 1 = p := by omega
    exact e ▸ isValid_after_ascii (by omega) hasc

end Fontc.FeaLex
