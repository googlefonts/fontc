/-
  C11, contextual lookups: the anonymous lookups.  Inline rules of one contextual lookup share
  anonymous lookups (`find_or_create_anon_lookup`); under the conditions of the modelled subset every
  inline rule still finds its own replacement in the lookup it references, when all rules are in.
  Proved for inline single and multiple replacements; for inline ligatures only the vocabulary is here.
-/
import FontcProofs.FeaSubst

namespace Fontc.FeaCompile
open Cmp

theorem getElem?_modifyNth {α : Type} (f : α → α) (l : List α) (n k : Nat) :
    (modifyNth f l n)[k]? = if k = n then (l[k]?).map f else l[k]? := by
  induction l generalizing n k with
  | nil => simp [modifyNth]
  | cons x l ih => cases n <;> cases k <;> simp [modifyNth, ih]

theorem length_modifyNth {α : Type} (f : α → α) (l : List α) (n : Nat) : (modifyNth f l n).length = l.length := by
  induction l generalizing n with
  | nil => simp [modifyNth]
  | cons x l ih => cases n <;> simp [modifyNth, ih]

/-- The common shape of `anonAddSingle`, `anonAddMultiple`, `anonAddLigature`, `anonAddLigatures`: find a usable
    lookup or append a fresh one, then update it. -/
def addAnon (usable : Anon → Bool) (fresh : Anon) (upd : Anon → Anon) (an : List Anon) : List Anon × Nat :=
  (modifyNth upd (findOrCreate an usable fresh).1 (findOrCreate an usable fresh).2, (findOrCreate an usable fresh).2)

theorem addAnon_unfold (usable : Anon → Bool) (fresh : Anon) (upd : Anon → Anon) (an : List Anon) :
    ∃ an1 i, addAnon usable fresh upd an = (modifyNth upd an1 i, i) ∧
      ((an1 = an ∧ ∃ a, an[i]? = some a ∧ usable a = true) ∨
       (an1 = an ++ [fresh] ∧ i = an.length ∧ ∀ a ∈ an, usable a = false)) := by
  refine ⟨_, _, rfl, ?_⟩
  unfold findOrCreate
  cases hq : an.findIdx? usable with
  | some i =>
    obtain ⟨hlt, hp, _⟩ := List.findIdx?_eq_some_iff_getElem.mp hq
    exact .inl ⟨rfl, an[i], List.getElem?_eq_getElem hlt, hp⟩
  | none => exact .inr ⟨rfl, rfl, fun a ha => by simpa using List.findIdx?_eq_none_iff.mp hq a ha⟩

/-- entry `j` of the anonymous lookups `A` exists and satisfies `P` -/
def Holds (A : List Anon) (j : Nat) (P : Anon → Prop) : Prop := ∃ a, A[j]? = some a ∧ P a

theorem Holds.imp {A : List Anon} {j : Nat} {P Q : Anon → Prop} (h : Holds A j P) (hpq : ∀ a, P a → Q a) : Holds A j Q :=
  let ⟨a, ha, hp⟩ := h; ⟨a, ha, hpq a hp⟩

/-- An entry is only touched if it was found usable. -/
theorem addAnon_preserves {usable : Anon → Bool} {fresh : Anon} {upd : Anon → Anon} {an : List Anon} {j : Nat}
    {P : Anon → Prop} (hupd : ∀ a, P a → usable a = true → P (upd a)) (h : Holds an j P) :
    Holds (addAnon usable fresh upd an).1 j P := by
  obtain ⟨a, ha, hP⟩ := h
  have hlt : j < an.length := (List.getElem?_eq_some_iff.mp ha).1
  obtain ⟨an1, i, he, spec⟩ := addAnon_unfold usable fresh upd an
  simp only [he, Holds, getElem?_modifyNth]
  rcases spec with ⟨rfl, a', ha', hu⟩ | ⟨rfl, rfl, _⟩
  · by_cases hj : j = i
    · subst hj
      cases ha.symm.trans ha'
      exact ⟨upd a, by simp [ha], hupd a hP hu⟩
    · exact ⟨a, by simp [hj, ha], hP⟩
  · exact ⟨a, by simp [Nat.ne_of_lt hlt, List.getElem?_append_left hlt, ha], hP⟩

theorem addAnon_holds {usable : Anon → Bool} {fresh : Anon} {upd : Anon → Anon} {an : List Anon}
    {P : Anon → Prop} (hupd : ∀ a, a = fresh ∨ usable a = true → P (upd a)) :
    Holds (addAnon usable fresh upd an).1 (addAnon usable fresh upd an).2 P := by
  obtain ⟨an1, i, he, spec⟩ := addAnon_unfold usable fresh upd an
  simp only [he, Holds, getElem?_modifyNth, ↓reduceIte]
  rcases spec with ⟨rfl, a, ha, hu⟩ | ⟨rfl, rfl, _⟩
  · exact ⟨upd a, by simp [ha], hupd a (Or.inr hu)⟩
  · exact ⟨upd fresh, by simp, hupd fresh (Or.inl rfl)⟩

/-- `a` is a single-substitution lookup that maps every pair of `pairs` -/
def HasPairs (pairs : List (Glyph × Glyph)) (a : Anon) : Prop :=
  ∃ m, a = .single m ∧ ∀ p ∈ pairs, m.lookup p.1 = some p.2

/-- `a` is a multiple-substitution lookup that replaces `t` by `rs` -/
def HasMulti (t : Glyph) (rs : List Glyph) (a : Anon) : Prop :=
  ∃ m, a = .multiple m ∧ m.lookup t = some rs

/-- `Functional` (ListFacts) of glyph pairs, unfolded: the form in which `SingleOk`, a hypothesis of
    `C11.compile_correct_lookup_chain`, states it -/
def PairsFunctional (pairs : List (Glyph × Glyph)) : Prop :=
  ∀ p ∈ pairs, ∀ q ∈ pairs, p.1 = q.1 → p.2 = q.2

/-- the pairs `add_anon_gsub_type_1` tests an existing lookup against: all of them with the repair, else the targets
    zipped with the replacement glyphs (one pair only for a class → glyph rule) -/
def checkedPairs (fx : Fixes) (t r : GC) : List (Glyph × Glyph) :=
  if fx.anonSingle then singlePairs t r else t.glyphs.zip r.glyphs

/-- `singleUsable`, `singleUpd`: the usability test and the update of `anonAddSingle`, for `addAnon` -/
def singleUsable (fx : Fixes) (t r : GC) (a : Anon) : Bool :=
  match a with
  | .single m => (checkedPairs fx t r).all fun (a, b) => match m.lookup a with | some x => x == b | none => true
  | _ => false

def singleUpd (t r : GC) (a : Anon) : Anon :=
  match a with
  | .single m => .single ((singlePairs t r).foldl (fun m p => mapInsert p.1 p.2 m) m)
  | a => a

theorem anonAddSingle_eq (fx : Fixes) (an : List Anon) (t r : GC) :
    anonAddSingle fx an t r = addAnon (singleUsable fx t r) (.single []) (singleUpd t r) an := rfl

theorem anonAddSingle_holds (fx : Fixes) (an : List Anon) {t r : GC} (hf : PairsFunctional (singlePairs t r)) :
    Holds (anonAddSingle fx an t r).1 (anonAddSingle fx an t r).2 (HasPairs (singlePairs t r)) := by
  refine addAnon_holds fun a ha => ?_
  cases a with
  | single m => exact ⟨_, rfl, lookup_foldl_mapInsert_of_mem hf m⟩
  | _ => simp at ha

theorem anonAddSingle_preserves {fx : Fixes} {an : List Anon} {t r : GC} {j : Nat} {pairs' : List (Glyph × Glyph)}
    (hf : PairsFunctional (singlePairs t r))
    (hc : ∀ p ∈ singlePairs t r, ∀ q ∈ pairs', p.1 = q.1 → p ∈ checkedPairs fx t r ∨ p.2 = q.2)
    (h : Holds an j (HasPairs pairs')) : Holds (anonAddSingle fx an t r).1 j (HasPairs pairs') := by
  refine addAnon_preserves ?_ h
  rintro _ ⟨m, rfl, hall⟩ husable
  refine ⟨_, rfl, fun q hq => ?_⟩
  by_cases hk : q.1 ∈ (singlePairs t r).map (·.1)
  · obtain ⟨p, hp, hpk⟩ := List.mem_map.mp hk
    rw [← hpk, lookup_foldl_mapInsert_of_mem hf m p hp]
    rcases hc p hp q hq hpk with hch | heq
    · -- the pair was checked against the usable lookup, which has `q`
      simp only [List.all_eq_true] at husable
      have := husable p hch
      simp only [hpk, hall q hq, beq_iff_eq] at this
      rw [this]
    · rw [heq]
  · rw [lookup_foldl_mapInsert_of_not_mem hk]
    exact hall q hq

/-- `multiUsable`, `multiUpd`: the usability test and the update of `anonAddMultiple`, for `addAnon` -/
def multiUsable (t : Glyph) (rs : List Glyph) (a : Anon) : Bool :=
  match a with
  | .multiple m => (match m.lookup t with | some x => x == rs | none => true)
  | _ => false

def multiUpd (t : Glyph) (rs : List Glyph) (a : Anon) : Anon :=
  match a with
  | .multiple m => .multiple (mapInsert t rs m)
  | a => a

theorem anonAddMultiple_eq (an : List Anon) (t : Glyph) (rs : List Glyph) :
    anonAddMultiple an t rs = addAnon (multiUsable t rs) (.multiple []) (multiUpd t rs) an := rfl

theorem anonAddMultiple_holds (an : List Anon) (t : Glyph) (rs : List Glyph) :
    Holds (anonAddMultiple an t rs).1 (anonAddMultiple an t rs).2 (HasMulti t rs) := by
  refine addAnon_holds fun a ha => ?_
  cases a with
  | multiple m => exact ⟨_, rfl, by simp [lookup_mapInsert]⟩
  | _ => simp at ha

theorem anonAddMultiple_preserves {an : List Anon} {t : Glyph} {rs : List Glyph} {j : Nat} {t' : Glyph} {rs' : List Glyph}
    (h : Holds an j (HasMulti t' rs')) : Holds (anonAddMultiple an t rs).1 j (HasMulti t' rs') := by
  refine addAnon_preserves ?_ h
  rintro _ ⟨m, rfl, hl⟩ husable
  refine ⟨_, rfl, ?_⟩
  rw [lookup_mapInsert]
  split
  · -- the lookup was usable: its replacement for `t` is the new one
    subst_vars
    simp only [hl, beq_iff_eq] at husable
    rw [husable]
  · exact hl

/-- the anonymous lookups after rule `r`, given those before it (`Builder.add` on the `.chain` builder) -/
def anonStep (fx : Fixes) (an : List Anon) : Rule → List Anon
  | .chain _ input _ inl => (anonInline fx an input inl).1
  | _ => an

/-- the anonymous lookups after the rules `rs`, starting from `an` -/
def anonOf (fx : Fixes) : List Anon → List Rule → List Anon
  | an, [] => an
  | an, r :: rs => anonOf fx (anonStep fx an r) rs

theorem anonOf_holds (fx : Fixes) {P : Anon → Prop} (rs : List Rule)
    (h : ∀ r ∈ rs, ∀ A j, Holds A j P → Holds (anonStep fx A r) j P) {A : List Anon} {j : Nat} (hA : Holds A j P) :
    Holds (anonOf fx A rs) j P := by
  induction rs generalizing A with
  | nil => exact hA
  | cons r rs ih => exact ih (fun r' hr' => h r' (by simp [hr'])) (h r (by simp) A j hA)

/-- pairs of an inline single substitution rule, and whether it is of the class → glyph form -/
def inlineSinglePairs : Rule → Option (Bool × List (Glyph × Glyph))
  | .chain _ ((t, _) :: _) _ (.single by_) =>
    some ((normSingle t by_).1.isClass && !(normSingle t by_).2.isClass,
          singlePairs (normSingle t by_).1 (normSingle t by_).2)
  | _ => none

/-- rule shapes for which the inline replacement is modelled: single with one marked glyph, multiple
    with one marked glyph (not a class), no inline ligature, no explicit lookup references -/
def inlineShapeOk : Rule → Prop
  | .chain _ input _ (.single by_) => ∃ t, input = [(t, [])] ∧
      ∀ g ∈ t.glyphs, ∃ b, (g, b) ∈ singlePairs (normSingle t by_).1 (normSingle t by_).2
  | .chain _ input _ (.multi _) => ∃ a, input = [(.g a, [])]
  | .chain _ _ _ (.lig _) => False
  | .chain _ input _ .none => input ≠ [] ∧ ∀ x ∈ input, x.2 = []
  | .ignore alts => ∀ x ∈ alts, x.2.1 ≠ []
  | _ => False

theorem inlineShapeOk_cases {r : Rule} (h : inlineShapeOk r) :
    (∃ b input l, r = .chain b input l .none) ∨ (∃ alts, r = .ignore alts) ∨
    (∃ b t l by_, r = .chain b [(t, [])] l (.single by_)) ∨ (∃ b a l rs, r = .chain b [(.g a, [])] l (.multi rs)) := by
  cases r with
  | chain b input l inl =>
    cases inl with
    | none => exact .inl ⟨b, input, l, rfl⟩
    | single by_ => obtain ⟨t, rfl, _⟩ := h; exact .inr (.inr (.inl ⟨b, t, l, by_, rfl⟩))
    | multi rs => obtain ⟨a, rfl⟩ := h; exact .inr (.inr (.inr ⟨b, a, l, rs, rfl⟩))
    | lig _ => exact h.elim
  | ignore alts => exact .inr (.inl ⟨alts, rfl⟩)
  | _ => exact h.elim

theorem inlineShapeOk_marked {b l : List GC} {input : List (GC × List String)} {inl : Inline}
    (h : inlineShapeOk (.chain b input l inl)) (hne : inl ≠ .none) : ∃ t, input = [(t, [])] := by
  cases inl with
  | none => exact absurd rfl hne
  | single by_ => obtain ⟨t, rfl, _⟩ := h; exact ⟨t, rfl⟩
  | multi rs => obtain ⟨a, rfl⟩ := h; exact ⟨_, rfl⟩
  | lig _ => exact h.elim

theorem anonInline_single (fx : Fixes) (an : List Anon) (t by_ : GC) :
    anonInline fx an [(t, [])] (.single by_)
      = ((anonAddSingle fx an (normSingle t by_).1 (normSingle t by_).2).1,
         some (anonAddSingle fx an (normSingle t by_).1 (normSingle t by_).2).2) := by
  simp [anonInline]

theorem anonInline_multi (fx : Fixes) (an : List Anon) (a : Glyph) (rs : List Glyph) :
    anonInline fx an [(.g a, [])] (.multi rs) = ((anonAddMultiple an a rs).1, some (anonAddMultiple an a rs).2) := by
  simp [anonInline, GC.glyphs]

/-- class → glyph inline substitutions agree with all earlier inline substitutions of the lookup;
    pairs of one rule are consistent -/
def SingleOk : List Rule → List (Glyph × Glyph) → Prop
  | [], _ => True
  | r :: rs, earlier =>
    match inlineSinglePairs r with
    | some (c2g, pairs) =>
      PairsFunctional pairs ∧ (c2g = true → ∀ p ∈ pairs, ∀ q ∈ earlier, p.1 = q.1 → p.2 = q.2) ∧
      SingleOk rs (earlier ++ pairs)
    | none => SingleOk rs earlier

theorem SingleOk.weaken : ∀ (rs : List Rule) (e1 e2 : List (Glyph × Glyph)), (∀ q ∈ e1, q ∈ e2) → SingleOk rs e2 → SingleOk rs e1 := by
  intro rs
  induction rs with
  | nil => intro _ _ _ _; trivial
  | cons r rs ih =>
    intro e1 e2 hsub h
    simp only [SingleOk] at h ⊢
    cases hq : inlineSinglePairs r with
    | none => rw [hq] at h; exact ih e1 e2 hsub h
    | some x =>
      obtain ⟨c2g, pairs⟩ := x
      rw [hq] at h
      simp only at h ⊢
      refine ⟨h.1, fun hc p hp q hq' e => h.2.1 hc p hp q (hsub q hq') e, ih _ _ ?_ h.2.2⟩
      intro q hq'
      rcases List.mem_append.mp hq' with h' | h'
      · exact List.mem_append_left _ (hsub q h')
      · exact List.mem_append_right _ h'

theorem SingleOk.rule : ∀ (rs : List Rule) (earlier : List (Glyph × Glyph)), SingleOk rs earlier →
    ∀ r ∈ rs, ∀ x, inlineSinglePairs r = some x →
      PairsFunctional x.2 ∧ (x.1 = true → ∀ p ∈ x.2, ∀ q ∈ earlier, p.1 = q.1 → p.2 = q.2) := by
  intro rs
  induction rs with
  | nil => intro _ _ r hr; simp at hr
  | cons r0 rs ih =>
    intro earlier hok r hr x hx
    simp only [SingleOk] at hok
    rcases List.mem_cons.mp hr with rfl | hr'
    · rw [hx] at hok; exact ⟨hok.1, hok.2.1⟩
    · cases hq : inlineSinglePairs r0 with
      | none => rw [hq] at hok; exact ih earlier hok r hr' x hx
      | some y =>
        rw [hq] at hok
        exact ih earlier (SingleOk.weaken rs _ _ (fun q hq => List.mem_append_left _ hq) hok.2.2) r hr' x hx

theorem SingleOk.tail {r : Rule} {rs : List Rule} {earlier : List (Glyph × Glyph)} (h : SingleOk (r :: rs) earlier) :
    ∃ e, SingleOk rs e := by
  rw [SingleOk] at h
  split at h
  · exact ⟨_, h.2.2⟩
  · exact ⟨_, h⟩

/-- the check of `add_anon_gsub_type_1` is complete unless the rule is class → glyph (without the repair) -/
theorem checked_complete {fx : Fixes} {t r : GC} (h : (t.isClass && !r.isClass) = false) :
    ∀ p ∈ singlePairs t r, p ∈ checkedPairs fx t r := by
  intro p hp
  simp only [checkedPairs]
  split
  · exact hp
  · cases t <;> cases r <;> simp_all [singlePairs, GC.glyphs, GC.isClass]

theorem anonStep_hasPairs (fx : Fixes) {r : Rule} (hs : inlineShapeOk r) (pairs' : List (Glyph × Glyph))
    (hc : ∀ x, inlineSinglePairs r = some x →
      PairsFunctional x.2 ∧ (x.1 = true → ∀ p ∈ x.2, ∀ q ∈ pairs', p.1 = q.1 → p.2 = q.2))
    (A : List Anon) (j : Nat) (h : Holds A j (HasPairs pairs')) : Holds (anonStep fx A r) j (HasPairs pairs') := by
  rcases inlineShapeOk_cases hs with ⟨b, input, l, rfl⟩ | ⟨alts, rfl⟩ | ⟨b, t, l, by_, rfl⟩ | ⟨b, a, l, rs, rfl⟩
  · exact h
  · exact h
  · obtain ⟨hf, hc2g⟩ := hc _ rfl
    rw [anonStep, anonInline_single]
    refine anonAddSingle_preserves hf (fun p hp q hq hpq => ?_) h
    by_cases hcg : ((normSingle t by_).1.isClass && !(normSingle t by_).2.isClass) = true
    · exact Or.inr (hc2g hcg p hp q hq hpq)
    · exact Or.inl (checked_complete (by simpa using hcg) p hp)
  · rw [anonStep, anonInline_multi, anonAddMultiple_eq]
    refine addAnon_preserves ?_ h
    rintro _ ⟨m, rfl, hm⟩ _
    exact ⟨m, rfl, hm⟩

theorem anonStep_hasMulti (fx : Fixes) {r : Rule} (hs : inlineShapeOk r) (t : Glyph) (rs' : List Glyph)
    (A : List Anon) (j : Nat) (h : Holds A j (HasMulti t rs')) : Holds (anonStep fx A r) j (HasMulti t rs') := by
  rcases inlineShapeOk_cases hs with ⟨b, input, l, rfl⟩ | ⟨alts, rfl⟩ | ⟨b, t, l, by_, rfl⟩ | ⟨b, a, l, rs, rfl⟩
  · exact h
  · exact h
  · rw [anonStep, anonInline_single, anonAddSingle_eq]
    refine addAnon_preserves ?_ h
    rintro _ ⟨m, rfl, hm⟩ _
    exact ⟨m, rfl, hm⟩
  · rw [anonStep, anonInline_multi]
    exact anonAddMultiple_preserves h

/-- The anonymous lookup `a` realises the inline replacement `inl` of a rule with input `inp`: tried at a glyph of
    the marked class it does what the source says the replacement does. -/
def Does (inl : Inline) (inp : List GC) (a : Anon) : Prop :=
  ∀ gdef alt env flag ign rev g suf, (∃ t, inp.head? = some t ∧ t.has g = true) →
    (Src.actionStep gdef alt env flag (.inline inl inp)).map (· rev g suf)
      = some (OT.simpleSubtableStep ign alt (buildAnon a) rev g suf)

theorem does_single {t by_ : GC} (a : Anon)
    (hcov : ∀ g ∈ t.glyphs, ∃ b, (g, b) ∈ singlePairs (normSingle t by_).1 (normSingle t by_).2)
    (hfun : PairsFunctional (singlePairs (normSingle t by_).1 (normSingle t by_).2))
    (h : HasPairs (singlePairs (normSingle t by_).1 (normSingle t by_).2) a) : Does (.single by_) [t] a := by
  obtain ⟨m, rfl, hall⟩ := h
  rintro _ alt _ _ ign rev g suf ⟨_, ⟨⟩, htg⟩
  -- the marked glyph is in the target class, so the rule has a pair for it, which the lookup holds
  obtain ⟨b, hb⟩ := hcov g (by simpa [GC.has] using htg)
  have hsrc : Src.subst1 (.single t by_) g = some [b] := by
    rw [← lookup_singlePairs, (lookup_eq_some_iff_of_functional hfun).mpr hb]
    rfl
  simp [Src.actionStep, buildAnon, OT.simpleSubtableStep, hall (g, b) hb, Src.substStep, hsrc]

theorem does_multi (x : Glyph) (rs : List Glyph) (a : Anon) (h : HasMulti x rs a) : Does (.multi rs) [.g x] a := by
  obtain ⟨m, rfl, hm⟩ := h
  rintro _ alt _ _ ign rev g suf ⟨_, ⟨⟩, htg⟩
  obtain rfl : g = x := by simpa [GC.has, GC.glyphs] using htg
  simp [Src.actionStep, buildAnon, OT.simpleSubtableStep, hm, GC.has, GC.glyphs]

/-- the inline replacement is found in `A` at the index `anonInline` returned (the last argument); without an index
    there is no replacement -/
def InlineHolds (A : List Anon) (input : List (GC × List String)) (inl : Inline) : Option Nat → Prop
  | some j => Holds A j (Does inl (input.map (·.1)))
  | none => inl = .none

/-- the rule finds its replacement right after its own step, and the later rules keep it in place -/
theorem inlineHolds_final (fx : Fixes) {b l : List GC} {input : List (GC × List String)} {inl : Inline} {rs : List Rule}
    (hs : inlineShapeOk (.chain b input l inl)) (hrest : ∀ r ∈ rs, inlineShapeOk r) (an : List Anon)
    {earlier : List (Glyph × Glyph)} (hok : SingleOk (.chain b input l inl :: rs) earlier) :
    InlineHolds (anonOf fx an (.chain b input l inl :: rs)) input inl (anonInline fx an input inl).2 := by
  rw [anonOf]
  rcases inlineShapeOk_cases hs with ⟨_, _, _, ⟨⟩⟩ | ⟨_, ⟨⟩⟩ | ⟨_, t, _, by_, ⟨⟩⟩ | ⟨_, a, _, rs', ⟨⟩⟩
  · simp [InlineHolds, anonInline]
  · obtain ⟨hf, _, hok'⟩ := hok
    obtain ⟨_, ⟨⟩, hcov⟩ := hs
    rw [anonStep, anonInline_single]
    refine (anonOf_holds fx rs (fun r' hr' => anonStep_hasPairs fx (hrest r' hr') _ fun x hx => ?_)
      (anonAddSingle_holds fx an hf)).imp fun a => does_single a hcov hf
    obtain ⟨h1, h2⟩ := SingleOk.rule rs _ hok' r' hr' x hx
    exact ⟨h1, fun hc p hp q hq => h2 hc p hp q (List.mem_append_right _ hq)⟩
  · rw [anonStep, anonInline_multi]
    exact (anonOf_holds fx rs (fun r' hr' => anonStep_hasMulti fx (hrest r' hr') _ _)
      (anonAddMultiple_holds an a rs')).imp fun a' => does_multi a rs' a'

/-! Inline ligature replacements (`Inline.lig`: `sub x a' b' by c;`) are not proved: `inlineShapeOk` excludes them, and
    nothing uses this block.  It is the vocabulary a proof would start from: the two adders in the `addAnon` form
    (`anonAddLigature`; `anonAddLigatures` of the repaired compiler); `LigHolds`, the counterpart of `HasPairs` and
    `HasMulti` with `Holds A j` written out (`addAnon_holds` and `addAnon_preserves` apply to it read as
    `Holds A j fun a => ∃ m, a = .ligature m ∧ …`); `LigContent`: a pooled lookup also holds the sequences of other
    rules, and a longer one of those could match first — the defect the repair `anonLigPrefix` is about. -/

/-- entry `j` of `A` is a ligature lookup that holds every sequence of `seqs` with the ligature `r` -/
def LigHolds (A : List Anon) (j : Nat) (seqs : List (List Glyph)) (r : Glyph) : Prop :=
  ∃ m : LigMap, A[j]? = some (Anon.ligature m) ∧ ∀ f rest, f :: rest ∈ seqs → (rest, r) ∈ (m.lookup f).getD []

/-- whatever a ligature lookup of `A` holds is a pair of `S` -/
def LigContent (A : List Anon) (S : List (List Glyph × Glyph)) : Prop :=
  ∀ (j : Nat) (m : LigMap), A[j]? = some (Anon.ligature m) → ∀ f rest x, (rest, x) ∈ (m.lookup f).getD [] → (f :: rest, x) ∈ S

def ligUsableA (fx : Fixes) (seq : List Glyph) (r : Glyph) (a : Anon) : Bool :=
  match a with
  | .ligature m => ligUsable fx m seq r
  | _ => false

def ligUpd (seq : List Glyph) (r : Glyph) (a : Anon) : Anon :=
  match a with
  | .ligature m => .ligature (ligInsert m seq r)
  | a => a

theorem anonAddLigature_eq' (fx : Fixes) (an : List Anon) (seq : List Glyph) (r : Glyph) :
    anonAddLigature fx an seq r = addAnon (ligUsableA fx seq r) (.ligature []) (ligUpd seq r) an := rfl

def ligsUsableA (fx : Fixes) (seqs : List (List Glyph)) (r : Glyph) (a : Anon) : Bool :=
  match a with
  | .ligature m => seqs.all fun seq => ligUsable fx m seq r
  | _ => false

def ligsUpd (seqs : List (List Glyph)) (r : Glyph) (a : Anon) : Anon :=
  match a with
  | .ligature m => .ligature (seqs.foldl (fun m seq => ligInsert m seq r) m)
  | a => a

theorem anonAddLigatures_eq' (fx : Fixes) (an : List Anon) (seqs : List (List Glyph)) (r : Glyph) :
    anonAddLigatures fx an seqs r = addAnon (ligsUsableA fx seqs r) (.ligature []) (ligsUpd seqs r) an := rfl

/-- Where entry `j` of the result of `addAnon` comes from.  Nothing uses it: inline single and multiple replacements only need
    that entries persist; a bound on what a pooled lookup holds (`LigContent`) would be proved with it. -/
theorem addAnon_from (usable : Anon → Bool) (fresh : Anon) (upd : Anon → Anon) (an : List Anon) (j : Nat) (a : Anon)
    (h : (addAnon usable fresh upd an).1[j]? = some a) :
    (∃ a0, an[j]? = some a0 ∧ (a = a0 ∨ (j = (addAnon usable fresh upd an).2 ∧ a = upd a0))) ∨
    (an[j]? = none ∧ j = (addAnon usable fresh upd an).2 ∧ a = upd fresh ∧ ∀ x ∈ an, usable x = false) := by
  obtain ⟨an1, i, he, spec⟩ := addAnon_unfold usable fresh upd an
  simp only [he, getElem?_modifyNth] at h ⊢
  rcases spec with ⟨rfl, _⟩ | ⟨rfl, rfl, h3⟩
  · left
    cases hq : an1[j]? with
    | none => simp [hq] at h
    | some a0 =>
      rw [hq] at h
      by_cases hj : j = i
      · simp only [hj, ↓reduceIte, Option.map_some, Option.some.injEq] at h
        exact ⟨a0, rfl, .inr ⟨hj, h.symm⟩⟩
      · simp only [hj, ↓reduceIte, Option.some.injEq] at h
        exact ⟨a0, rfl, .inl h.symm⟩
  · rcases Nat.lt_trichotomy j an.length with hlt | rfl | hgt
    · left
      simp only [List.getElem?_append_left hlt, Nat.ne_of_lt hlt, ↓reduceIte] at h
      exact ⟨a, h, .inl rfl⟩
    · right
      simp only [↓reduceIte, List.getElem?_concat_length, Option.map_some, Option.some.injEq] at h
      exact ⟨by simp, rfl, h.symm, h3⟩
    · rw [List.getElem?_eq_none (by simp; omega)] at h
      simp at h

end Fontc.FeaCompile
