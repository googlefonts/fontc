/-
  C11: the maps of fea-rs are association lists in the model (`BTreeMap`s: `Cmp.mapInsert`, `Cmp.upsert`; the
  `HashMap`s of `ActiveFeature`: `Cmp.assocPush`); here they are read as maps through `List.lookup`.
  What the map-keyed builders have in common (`foldl_add_flatMap`, `findSome_unless_empty`).  Membership in `Cmp.sortedSet`.
-/
import FontcModel.FeaCompile
import FontcProofs.ListFacts

namespace Fontc.FeaCompile
open Cmp

theorem lookup_mapInsert {β : Type} (k k' : Glyph) (v : β) (m : List (Glyph × β)) :
    (mapInsert k v m).lookup k' = if k' = k then some v else m.lookup k' := by
  fun_induction mapInsert k v m
  · simp [lookup_cons_ite]
  · simp [lookup_cons_ite]
  · simp only [lookup_cons_ite, beq_iff_eq]; split <;> rfl
  · rename_i hne ih
    simp only [lookup_cons_ite, ih]
    split <;> split <;> simp_all

theorem isInsert_mapInsert {β : Type} : IsInsert (mapInsert (β := β)) := fun k v m k' => by
  rw [lookup_mapInsert]; simp only [beq_iff_eq]

/-- `BTreeMap::insert` overwrites: the last entry of `ps` for a key is the one found -/
theorem lookup_foldl_mapInsert_reverse {β : Type} (ps m : List (Glyph × β)) (g : Glyph) :
    (ps.foldl (fun m (p : Glyph × β) => mapInsert p.1 p.2 m) m).lookup g = (ps.reverse.lookup g).or (m.lookup g) :=
  isInsert_mapInsert.lookup_foldl ps m g

theorem lookup_foldl_mapInsert {β : Type} {ps m : List (Glyph × β)} {g : Glyph} (hf : Functional ps) :
    (ps.foldl (fun m (p : Glyph × β) => mapInsert p.1 p.2 m) m).lookup g = (ps.lookup g).or (m.lookup g) := by
  rw [lookup_foldl_mapInsert_reverse, lookup_congr hf fun _ => List.mem_reverse]

theorem lookup_foldl_mapInsert_of_not_mem {β : Type} {ps m : List (Glyph × β)} {a : Glyph} (h : a ∉ ps.map (·.1)) :
    (ps.foldl (fun m (p : Glyph × β) => mapInsert p.1 p.2 m) m).lookup a = m.lookup a := by
  rw [lookup_foldl_mapInsert_reverse, lookup_eq_none_of_not_mem (by simpa using h)]
  rfl

theorem lookup_foldl_mapInsert_of_mem {β : Type} {ps : List (Glyph × β)} (hf : Functional ps) (m : List (Glyph × β)) :
    ∀ p ∈ ps, (ps.foldl (fun m (p : Glyph × β) => mapInsert p.1 p.2 m) m).lookup p.1 = some p.2 := by
  intro p hp
  rw [lookup_foldl_mapInsert hf, (lookup_eq_some_iff_of_functional hf).mpr hp]
  rfl

theorem lookup_zip (ts xs : List Glyph) (g : Glyph) :
    (ts.zip xs).lookup g = (indexOf? ts g).bind (xs[·]?) := by
  induction ts generalizing xs with
  | nil => rfl
  | cons t ts ih =>
    cases xs with
    | nil => simp only [List.zip_nil_right, List.lookup, indexOf?]; split <;> simp
    | cons x xs =>
      by_cases h : t = g
      · simp [indexOf?, h]
      · have h' : ¬g = t := fun e => h e.symm
        simp only [List.zip_cons_cons, lookup_cons_ite, beq_iff_eq, indexOf?, h, h', if_false, ih xs]
        cases indexOf? ts g <;> simp

theorem map_fst_map {β γ : Type} (f : β → γ) (ps : List (Glyph × β)) :
    (ps.map fun p => (p.1, f p.2)).map (·.1) = ps.map (·.1) := by
  induction ps <;> simp_all

/-- an empty builder writes no subtable; looked up in, the empty subtable gives nothing either -/
theorem findSome_unless_empty {α σ γ : Type} {m : List α} (st : List α → σ) {F : σ → Option γ} (h : F (st []) = none) :
    (if m.isEmpty then [] else [st m]).findSome? F = F (st m) := by
  cases m <;> simp [h]

theorem foldl_add_flatMap {M P : Type} {fx : Fixes} {root : Nat} {named : String → LookupId} (mk : M → Builder)
    (ins : M → P → M) (items : Rule → List P) {rs : List Rule}
    (h : ∀ r ∈ rs, ∀ m, Builder.add fx root named (mk m) r = mk ((items r).foldl ins m)) (m : M) :
    rs.foldl (Builder.add fx root named) (mk m) = mk ((rs.flatMap items).foldl ins m) := by
  induction rs generalizing m with
  | nil => rfl
  | cons r rs ih =>
    rw [List.foldl_cons, h r (by simp), ih (fun r' hr' => h r' (by simp [hr'])), List.flatMap_cons, List.foldl_append]

theorem insertBefore_eq {κ β : Type} (lt : κ → κ → Bool) (k : κ) (v : β) (m : List (κ × β)) :
    ∃ l₁ l₂, m = l₁ ++ l₂ ∧ insertBefore lt k v m = l₁ ++ (k, v) :: l₂ := by
  induction m with
  | nil => exact ⟨[], [], rfl, rfl⟩
  | cons p m ih =>
    rw [insertBefore]
    split
    · exact ⟨[], p :: m, rfl, rfl⟩
    · obtain ⟨l₁, l₂, e, h⟩ := ih
      exact ⟨p :: l₁, l₂, congrArg (p :: ·) e, congrArg (p :: ·) h⟩

theorem lookup_insertBefore {κ β : Type} [BEq κ] [LawfulBEq κ] {lt : κ → κ → Bool} {k k' : κ} {v : β}
    {m : List (κ × β)} (hk : m.lookup k = none) :
    (insertBefore lt k v m).lookup k' = if k' == k then some v else m.lookup k' := by
  obtain ⟨l₁, l₂, rfl, h⟩ := insertBefore_eq lt k v m
  rw [h, List.lookup_append, List.lookup_append, lookup_cons_ite]
  split
  · rename_i e
    rw [List.lookup_append, Option.or_eq_none_iff] at hk
    rw [beq_iff_eq.mp e, hk.1]; rfl
  · rfl

theorem lookup_upsert {κ β : Type} [BEq κ] [LawfulBEq κ] (lt : κ → κ → Bool) (k k' : κ) (init : β) (f : β → β)
    (m : List (κ × β)) :
    (upsert lt k init f m).lookup k' = if k' == k then some (f ((m.lookup k).getD init)) else m.lookup k' := by
  unfold upsert
  rw [← lookup_isSome_eq_any]
  cases hv : m.lookup k with
  | some v => simp only [Option.isSome_some, ↓reduceIte]; rw [lookup_map_update, hv]; rfl
  | none =>
    simp only [Option.isSome_none, Bool.false_eq_true, ↓reduceIte]
    rw [lookup_insertBefore hv]; rfl

theorem insertBefore_keys_perm {κ β : Type} (lt : κ → κ → Bool) (k : κ) (v : β) (m : List (κ × β)) :
    ((insertBefore lt k v m).map (·.1)).Perm (k :: m.map (·.1)) := by
  obtain ⟨l₁, l₂, rfl, h⟩ := insertBefore_eq lt k v m
  rw [h, List.map_append, List.map_append]
  exact List.perm_middle

theorem upsert_keys_nodup {κ β : Type} [BEq κ] [LawfulBEq κ] {lt : κ → κ → Bool} {k : κ} {init : β} {f : β → β}
    {m : List (κ × β)} (h : (m.map (·.1)).Nodup) : ((upsert lt k init f m).map (·.1)).Nodup := by
  unfold upsert
  split
  · rw [keys_map_update]; exact h
  · rename_i hany
    exact (insertBefore_keys_perm lt k (f init) m).nodup_iff.mpr
      (List.nodup_cons.mpr ⟨not_mem_keys_of_any_false hany, h⟩)

theorem assocPush_eq_upsert {α β : Type} [BEq α] (k : α) (v : β) (m : List (α × List β)) :
    assocPush k v m = upsert (fun _ _ => false) k [] (· ++ [v]) m := by
  have hins : ∀ (m : List (α × List β)) x, insertBefore (fun _ _ => false) k x m = m ++ [(k, x)] := fun m x => by
    induction m with
    | nil => rfl
    | cons p m ih => simp [insertBefore, ih]
  unfold assocPush upsert
  rw [hins]
  rfl

theorem lookup_assocPush {α β : Type} [BEq α] [LawfulBEq α] (k k' : α) (v : β) (m : List (α × List β)) :
    (assocPush k v m).lookup k' = if k' == k then some ((m.lookup k).getD [] ++ [v]) else m.lookup k' := by
  rw [assocPush_eq_upsert, lookup_upsert]

theorem assocPush_keys_nodup {α β : Type} [BEq α] [LawfulBEq α] {k : α} {v : β} {m : List (α × List β)}
    (h : (m.map (·.1)).Nodup) : ((assocPush k v m).map (·.1)).Nodup := by
  rw [assocPush_eq_upsert]; exact upsert_keys_nodup h

theorem mem_insertSorted (g x : Nat) (ys : List Nat) : g ∈ OT.insertSorted x ys ↔ g = x ∨ g ∈ ys := by
  induction ys with
  | nil => simp [OT.insertSorted]
  | cons y ys ih =>
    simp only [OT.insertSorted]
    split
    · simp
    · split
      · subst_vars; simp
      · simp [ih]; constructor <;> (rintro (h | h | h) <;> simp [h])

theorem mem_sortDedup (xs : List Nat) (a : Nat) : a ∈ OT.sortDedup xs ↔ a ∈ xs := by
  unfold OT.sortDedup
  induction xs with
  | nil => simp
  | cons x xs ih => simp [List.foldr_cons, mem_insertSorted, ih]

theorem mem_sortedSet (xs : List Glyph) (g : Glyph) : g ∈ sortedSet xs ↔ g ∈ xs := mem_sortDedup xs g

theorem contains_sortedSet (xs : List Glyph) (g : Glyph) : (sortedSet xs).contains g = xs.contains g := by
  rw [Bool.eq_iff_iff]; simp [mem_sortedSet]

end Fontc.FeaCompile
