/-
  C09: what `evalPairs` (the PairPos precedence) returns on any list of pairs whose classes are pairwise equal or
  disjoint on each side: the sort, the class subtables, and `evalPairs_spec`.  Nothing here speaks of `build`.
-/
import FontcProofs.KernBasic

namespace Fontc.Kern
open Fontc

/-- Whether the first side is a class.  It is all of the sort by `EPair.le` that `evalPairs_spec` needs: a pair that starts
    with a glyph comes before one that starts with a class; and it is the level of a pair that is not class/class
    (`level_eq_rank`). -/
def rank (p : EPair) : Nat := if p.e₁.isCls then 1 else 0

theorem le_of_rank_lt (p q : EPair) (h : rank p < rank q) : EPair.le p q = true := by
  unfold rank at h
  unfold EPair.le
  cases h₁ : p.e₁ <;> cases h₂ : q.e₁ <;> simp [h₁, h₂, Emit.isCls, Emit.le] at h ⊢

theorem rank_le_of_le (p q : EPair) (h : EPair.le p q = true) : rank p ≤ rank q := by
  unfold rank
  unfold EPair.le at h
  cases h₁ : p.e₁ <;> cases h₂ : q.e₁ <;> simp [h₁, h₂, Emit.isCls, Emit.le] at h ⊢

theorem level_eq_rank {p : EPair} (hcc : p.isCC = false) : p.level = rank p := by
  unfold EPair.isCC at hcc
  unfold EPair.level rank
  cases h₁ : p.e₁.isCls
  · rfl
  · rw [h₁, Bool.true_and] at hcc; rw [hcc]; rfl

theorem mem_ordered (ps : List EPair) (p : EPair) :
    p ∈ ordered ps ↔ p ∈ ps ∧ p.Live := by
  simp only [ordered, List.mem_filter, mem_insertSort, Bool.not_eq_true', EPair.Live]

theorem ordered_pairwise (ps : List EPair) : (ordered ps).Pairwise (fun a b => rank a ≤ rank b) :=
  List.Pairwise.filter _ ((insertSort_spec EPair.le).pairwise_rank rank rank_le_of_le le_of_rank_lt _)

/-- the step of the fold in `classSubs` (`classSubs_eq`): a class/class pair is inserted, any other pair is passed over -/
def stepCls (subs : List ClassSub) (p : EPair) : List ClassSub :=
  match p.e₁, p.e₂ with
  | .cls c₁, .cls c₂ => insertClasses subs c₁ c₂ p
  | _, _ => subs

theorem classSubs_eq (ccs : List EPair) : classSubs ccs = (ccs.foldl stepCls []).reverse := rfl

theorem cls_of_isCC {p : EPair} (h : p.isCC = true) : ∃ c₁ c₂, p.e₁ = .cls c₁ ∧ p.e₂ = .cls c₂ := by
  unfold EPair.isCC at h
  cases h₁ : p.e₁ <;> cases h₂ : p.e₂ <;> simp [h₁, h₂, Emit.isCls] at h
  exact ⟨_, _, rfl, rfl⟩

/-- `cs` are the classes the pairs `seen` have on the side `e` (`EPair.e₁` or `EPair.e₂`) -/
def ClassesOf (cs : List (List Nat)) (seen : List EPair) (e : EPair → Emit) : Prop :=
  ∀ c, c ∈ cs ↔ ∃ p ∈ seen, e p = .cls c

/-- what the subtable `t` holds when the class/class pairs `seen` have gone into it -/
def Inv (t : ClassSub) (seen : List EPair) : Prop :=
  ClassesOf t.classes1 seen (·.e₁) ∧ ClassesOf t.classes2 seen (·.e₂) ∧
  ∀ a b q, ((a, b), q) ∈ t.items ↔ q ∈ seen ∧ q.e₁ = .cls a ∧ q.e₂ = .cls b

theorem ClassesOf.insert {cs : List (List Nat)} {seen : List EPair} {e : EPair → Emit} (h : ClassesOf cs seen e)
    {p : EPair} {c : List Nat} (hp : e p = .cls c) :
    ClassesOf (if cs.contains c then cs else c :: cs) (p :: seen) e := by
  intro c'
  simp only [List.mem_cons, exists_eq_or_imp, hp, Emit.cls.injEq, ← h c']
  split
  · rename_i hc
    exact ⟨Or.inr, fun h' => h'.elim (fun e => e ▸ List.contains_iff_mem.mp hc) id⟩
  · exact List.mem_cons.trans (or_congr_left eq_comm)

theorem ClassesOf.canAdd_of_compat {cs : List (List Nat)} {seen L : List EPair} {e : EPair → Emit} (h : ClassesOf cs seen e)
    (hL : CompatOn L e) (hsub : ∀ q ∈ seen, q ∈ L) {p : EPair} (hpL : p ∈ L) {c : List Nat} (hp : e p = .cls c) :
    canAdd cs c = true := by
  unfold canAdd
  cases hc : cs.contains c with
  | true => rfl
  | false =>
    rw [Bool.false_or, List.all_eq_true]
    intro g hg
    simp only [Bool.not_eq_true', List.any_eq_false]
    intro c' hc' hcont
    obtain ⟨q, hq, hqe⟩ := (h c').mp hc'
    have hcc : c' = c := hL q (hsub q hq) p hpL c' c hqe hp g (List.contains_iff_mem.mp hcont) hg
    rw [← hcc, List.contains_iff_mem.mpr hc'] at hc
    cases hc

theorem ClassesOf.find? {cs : List (List Nat)} {ccs : List EPair} {e : EPair → Emit} (h : ClassesOf cs ccs e)
    (hc : CompatOn ccs e) (hcls : ∀ p ∈ ccs, ∃ c, e p = .cls c) (g : Nat) :
    (cs.find? (·.contains g) = none ∧ ∀ p ∈ ccs, (e p).covers g = false) ∨
    ∃ c, cs.find? (·.contains g) = some c ∧ g ∈ c ∧ ∀ p ∈ ccs, (e p).covers g = true → e p = .cls c := by
  cases hf : cs.find? (·.contains g) with
  | none =>
    refine Or.inl ⟨rfl, fun p hp => ?_⟩
    obtain ⟨c, hpc⟩ := hcls p hp
    rw [hpc]
    exact Bool.eq_false_iff.mpr (List.find?_eq_none.mp hf c ((h c).mpr ⟨p, hp, hpc⟩))
  | some c =>
    have hg : g ∈ c := List.contains_iff_mem.mp (List.find?_some (p := fun x : List Nat => x.contains g) hf)
    obtain ⟨q, hq, hqe⟩ := (h c).mp (List.mem_of_find?_eq_some hf)
    refine Or.inr ⟨c, rfl, hg, fun p hp hcov => ?_⟩
    obtain ⟨c', hpc⟩ := hcls p hp
    rw [hpc, covers_cls] at hcov
    rw [hpc, hc p hp q hq c' c hpc hqe g hcov hg]

theorem foldl_stepCls {L : List EPair} (hall : ∀ p ∈ L, p.isCC = true) (hcompat : Compat L) (rest : List EPair) :
    ∀ (seen : List EPair) (t : ClassSub), (∀ q ∈ seen, q ∈ L) → (∀ q ∈ rest, q ∈ L) → Inv t seen →
    ∃ t', rest.foldl stepCls [t] = [t'] ∧ Inv t' (rest.reverse ++ seen) := by
  obtain ⟨hcompat₁, hcompat₂⟩ := (compat_iff L).mp hcompat
  induction rest with
  | nil => intro seen t _ _ hinv; exact ⟨t, rfl, hinv⟩
  | cons p rest ih =>
    intro seen t hseen hrest hinv
    have hpL : p ∈ L := hrest p List.mem_cons_self
    obtain ⟨c₁, c₂, h₁, h₂⟩ := cls_of_isCC (hall p hpL)
    -- compatible classes can be added, so the pair goes into the one subtable
    have hstep : stepCls [t] p =
        [{ classes1 := if t.classes1.contains c₁ then t.classes1 else c₁ :: t.classes1
           classes2 := if t.classes2.contains c₂ then t.classes2 else c₂ :: t.classes2
           items := ((c₁, c₂), p) :: t.items }] := by
      unfold stepCls
      rw [h₁, h₂]
      simp only [insertClasses, hinv.1.canAdd_of_compat hcompat₁ hseen hpL h₁, hinv.2.1.canAdd_of_compat hcompat₂ hseen hpL h₂,
        Bool.and_self, if_true]
    rw [List.foldl_cons, hstep, List.reverse_cons, List.append_assoc]
    refine ih (p :: seen) _ (List.forall_mem_cons.mpr ⟨hpL, hseen⟩) (fun q hq => hrest q (List.mem_cons_of_mem _ hq))
      ⟨hinv.1.insert h₁, hinv.2.1.insert h₂, fun a b q => ?_⟩
    rw [List.mem_cons, List.mem_cons, hinv.2.2]
    constructor
    · rintro (heq | ⟨hq, ha, hb⟩)
      · cases heq; exact ⟨Or.inl rfl, h₁, h₂⟩
      · exact ⟨Or.inr hq, ha, hb⟩
    · rintro ⟨rfl | hq, ha, hb⟩
      · rw [h₁] at ha; rw [h₂] at hb; cases ha; cases hb; exact Or.inl rfl
      · exact Or.inr ⟨hq, ha, hb⟩

/-- With compatible classes all class/class pairs go into one subtable (none if there is no pair, which evaluates like the
    empty subtable). -/
theorem classSubs_single {ccs : List EPair} (hall : ∀ p ∈ ccs, p.isCC = true) (hcompat : Compat ccs) :
    ∃ t, Inv t ccs ∧ ∀ i g₁ g₂, (classSubs ccs).findSome? (fun t => t.eval i g₁ g₂) = t.eval i g₁ g₂ := by
  have hempty : Inv ⟨[], [], []⟩ [] := ⟨by simp [ClassesOf], by simp [ClassesOf], by simp⟩
  cases ccs with
  | nil => exact ⟨_, hempty, fun _ _ _ => rfl⟩
  | cons p₀ rest =>
    -- the first insertion, into no table, is the insertion into the empty table
    have hfirst : stepCls [] p₀ = stepCls [⟨[], [], []⟩] p₀ := by
      obtain ⟨c₁, c₂, h₁, h₂⟩ := cls_of_isCC (hall p₀ List.mem_cons_self)
      unfold stepCls
      rw [h₁, h₂]
      simp [insertClasses, canAdd]
    obtain ⟨t, ht, hinv⟩ := foldl_stepCls hall hcompat (p₀ :: rest) [] ⟨[], [], []⟩ nofun (fun _ h => h) hempty
    have hm : ∀ q, q ∈ (p₀ :: rest).reverse ++ [] ↔ q ∈ p₀ :: rest := fun q => by
      rw [List.append_nil, List.mem_reverse]
    simp only [Inv, ClassesOf, hm] at hinv
    refine ⟨t, hinv, fun i g₁ g₂ => ?_⟩
    rw [classSubs_eq, List.foldl_cons, hfirst, ← List.foldl_cons, ht]
    cases h : t.eval i g₁ g₂ <;> simp [List.findSome?, h]

theorem Inv.eval {t : ClassSub} {ccs : List EPair} (hinv : Inv t ccs) (hall : ∀ p ∈ ccs, p.isCC = true) (hcompat : Compat ccs)
    (i g₁ g₂ : Nat) :
    ((t.eval i g₁ g₂ = none ∨ t.eval i g₁ g₂ = some 0) ∧ ∀ p ∈ ccs, ¬ p.Covers g₁ g₂) ∨
    ∃ p ∈ ccs, p.Covers g₁ g₂ ∧ t.eval i g₁ g₂ = some (p.roundedAt i) := by
  obtain ⟨i1, i2, i3⟩ := hinv
  obtain ⟨hcompat₁, hcompat₂⟩ := (compat_iff _).mp hcompat
  have hcls₁ : ∀ p ∈ ccs, ∃ c, p.e₁ = .cls c := fun p hp =>
    let ⟨c₁, _, h₁, _⟩ := cls_of_isCC (hall p hp); ⟨c₁, h₁⟩
  have hcls₂ : ∀ p ∈ ccs, ∃ c, p.e₂ = .cls c := fun p hp =>
    let ⟨_, c₂, _, h₂⟩ := cls_of_isCC (hall p hp); ⟨c₂, h₂⟩
  -- the class found for g₁, then for g₂, is the class of every pair covering the glyph; the items hold the pair of the two, if any
  unfold ClassSub.eval
  rcases i1.find? hcompat₁ hcls₁ g₁ with ⟨hf₁, hn₁⟩ | ⟨c₁, hf₁, hg₁, hu₁⟩ <;> rw [hf₁]
  · exact Or.inl ⟨Or.inl rfl, fun p hp hc => Bool.false_ne_true ((hn₁ p hp).symm.trans hc.1)⟩
  · rcases i2.find? hcompat₂ hcls₂ g₂ with ⟨hf₂, hn₂⟩ | ⟨c₂, hf₂, hg₂, hu₂⟩ <;> rw [hf₂]
    · exact Or.inl ⟨Or.inr rfl, fun p hp hc => Bool.false_ne_true ((hn₂ p hp).symm.trans hc.2)⟩
    · simp only
      cases hl : t.items.lookup (c₁, c₂) with
      | some p =>
        obtain ⟨hp, hp₁, hp₂⟩ := (i3 c₁ c₂ p).mp (mem_of_lookup_eq_some hl)
        exact Or.inr ⟨p, hp, ⟨by rw [hp₁, covers_cls]; exact hg₁, by rw [hp₂, covers_cls]; exact hg₂⟩, rfl⟩
      | none =>
        refine Or.inl ⟨Or.inr rfl, fun p hp hc => ?_⟩
        have := lookup_isSome_iff.2 ⟨p, (i3 c₁ c₂ p).mpr ⟨hp, hu₁ p hp hc.1, hu₂ p hp hc.2⟩⟩
        rw [hl] at this; cases this

/-- What the PairPos lookup built from `ps` applies: the rounded value of a surviving covering pair of least level, or 0
    if there is none. -/
theorem evalPairs_spec {ps : List EPair} (hcompat : Compat ps) (i g₁ g₂ : Nat) :
    (∃ p ∈ ps, p.Live ∧ p.Covers g₁ g₂ ∧ (∀ q ∈ ps, q.Live → q.Covers g₁ g₂ → p.level ≤ q.level) ∧
      evalPairs ps i g₁ g₂ = p.roundedAt i) ∨
    ((∀ q ∈ ps, q.Live → ¬ q.Covers g₁ g₂) ∧ evalPairs ps i g₁ g₂ = 0) := by
  unfold evalPairs
  simp only
  generalize hP : (fun p : EPair => !p.isCC && p.e₁.covers g₁ && p.e₂.covers g₂) = P
  have hPdef : ∀ p, P p = true ↔ p.isCC = false ∧ p.Covers g₁ g₂ := by
    intro p; rw [← hP]; simp only [Bool.and_eq_true, Bool.not_eq_true', EPair.Covers, and_assoc]
  cases hf : (ordered ps).find? P with
  | some p =>
    -- a glyph/glyph or class/glyph pair: the first in the sorted order, so of the least level
    obtain ⟨hpp, hpl⟩ := (mem_ordered ps p).mp (List.mem_of_find?_eq_some hf)
    obtain ⟨hncc, hcov⟩ := (hPdef p).mp (List.find?_some hf)
    refine Or.inl ⟨p, hpp, hpl, hcov, fun q hq hql hqc => ?_, rfl⟩
    rw [level_eq_rank hncc]
    cases hqcc : q.isCC with
    | true => rw [(isCC_iff_level q).mp hqcc, rank]; split <;> decide
    | false =>
      rw [level_eq_rank hqcc]
      rcases find?_pairwise (ordered_pairwise ps) hf ((mem_ordered ps q).mpr ⟨hq, hql⟩) ((hPdef q).mpr ⟨hqcc, hqc⟩)
        with rfl | hr
      · exact Nat.le_refl _
      · exact hr
  | none =>
    -- only class/class pairs cover (g₁, g₂): the class subtables decide
    have hnone : ∀ q ∈ ps, q.Live → q.Covers g₁ g₂ → q.isCC = true := by
      intro q hq hql hqc
      cases hqcc : q.isCC with
      | true => rfl
      | false => exact absurd ((hPdef q).mpr ⟨hqcc, hqc⟩) (List.find?_eq_none.mp hf q ((mem_ordered ps q).mpr ⟨hq, hql⟩))
    have hccmem : ∀ p, p ∈ (ordered ps).filter (·.isCC) ↔ (p ∈ ps ∧ p.Live) ∧ p.isCC = true := fun p => by
      rw [List.mem_filter, mem_ordered]
    have hall : ∀ p ∈ (ordered ps).filter (·.isCC), p.isCC = true := fun p hp => ((hccmem p).mp hp).2
    have hcompat' := hcompat.subset fun p hp => ((hccmem p).mp hp).1.1
    obtain ⟨t, hinv, he⟩ := classSubs_single hall hcompat'
    rw [he]
    rcases hinv.eval hall hcompat' i g₁ g₂ with ⟨hr, hno⟩ | ⟨p, hp, hc, hr⟩
    · refine Or.inr ⟨fun q hq hql hqc => hno q ((hccmem q).mpr ⟨⟨hq, hql⟩, hnone q hq hql hqc⟩) hqc, ?_⟩
      rcases hr with hr | hr <;> rw [hr]
    · obtain ⟨⟨hpp, hpl⟩, hpcc⟩ := (hccmem p).mp hp
      refine Or.inl ⟨p, hpp, hpl, hc, fun q hq hql hqc => ?_, by rw [hr]⟩
      rw [(isCC_iff_level p).mp hpcc, (isCC_iff_level q).mp (hnone q hq hql hqc)]
      exact Nat.le_refl 2

end Fontc.Kern
