/-
  For C19: the primitive conversions of FontcModel/Casts.lean.  Saturating and wrapping casts fix
  exactly the values of the target range; `otRound v` lands in an integer range exactly when `v` lies in the
  half-integer interval around it; `roundHalfAway` is `otRound` reflected at 0 (`roundAway` of Rounding.lean), so
  everything about the 2.14 conversion is read off the `otRound` lemmas and `Nearest`.
-/
import FontcModel.Casts
import FontcProofs.Rounding

namespace Fontc.Casts
open Fontc

theorem satU16_eq_iff {v : Int} : satU16 v = v ↔ inU16 v := by
  unfold inU16 satU16; (repeat' split) <;> omega

theorem satI16_above {v : Int} (h : 32767 < v) : satI16 v = 32767 := by
  unfold satI16; (repeat' split) <;> omega
theorem satI16_below {v : Int} (h : v < -32768) : satI16 v = -32768 := by
  unfold satI16; (repeat' split) <;> omega
theorem satU16_above {v : Int} (h : 65535 < v) : satU16 v = 65535 := by
  unfold satU16; (repeat' split) <;> omega
theorem satU16_below {v : Int} (h : v < 0) : satU16 v = 0 := by
  unfold satU16; (repeat' split) <;> omega

theorem wrapU16_eq_iff {v : Int} : wrapU16 v = v ↔ inU16 v := by
  unfold inU16 wrapU16; omega
theorem wrapI16_eq_iff {v : Int} : wrapI16 v = v ↔ inI16 v := by
  unfold inI16 wrapI16; omega
theorem wrapI16_of_in {v : Int} (h : inI16 v) : wrapI16 v = v := wrapI16_eq_iff.2 h
theorem wrapU16_range (v : Int) : inU16 (wrapU16 v) := by
  unfold inU16 wrapU16; omega
theorem wrapI16_range (v : Int) : inI16 (wrapI16 v) := by
  unfold inI16 wrapI16; omega

theorem cnt_nonneg (v : Rat) : 0 ≤ cnt v := by unfold cnt; omega

theorem inU16_cnt_iff (v : Rat) : inU16 (cnt v) ↔ cnt v ≤ 65535 :=
  ⟨fun h => h.2, fun h => ⟨cnt_nonneg v, h⟩⟩

theorem inI16_otRound_iff (v : Rat) : inI16 (otRound v) ↔ (-32768 - 1/2 : Rat) ≤ v ∧ v < 32767 + 1/2 := by
  unfold inI16
  rw [otRound_ge_iff, otRound_le_iff]
  simp

theorem inU16_otRound_iff (v : Rat) : inU16 (otRound v) ↔ (-1/2 : Rat) ≤ v ∧ v < 65535 + 1/2 := by
  unfold inU16
  rw [otRound_ge_iff, otRound_le_iff]
  simp
  grind

theorem truncI_nonneg {x : Rat} (h : 0 ≤ x) : truncI x = x.floor := if_neg (Rat.not_lt.2 h)
theorem truncI_neg {x : Rat} (h : x < 0) : truncI x = -((-x).floor) := if_pos h

theorem roundHalfAway_of_nonneg {x : Rat} (h : 0 ≤ x) : roundHalfAway x = otRound x := by
  rw [roundHalfAway, if_pos h, truncI_nonneg (by grind), otRound]

theorem roundHalfAway_of_neg {x : Rat} (h : x < 0) : roundHalfAway x = -otRound (-x) := by
  rw [roundHalfAway, if_neg (by grind), truncI_neg (by grind), otRound]
  congr 2; grind

theorem roundHalfAway_eq (x : Rat) : roundHalfAway x = roundAway x := by
  unfold roundAway
  split
  · next h => exact roundHalfAway_of_neg h
  · next h => exact roundHalfAway_of_nonneg (Rat.not_lt.1 h)

theorem roundHalfAway_nearest : Nearest roundHalfAway := fun x => roundHalfAway_eq x ▸ roundAway_nearest x

/-- For `0 ≤ k` the upper boundary is that of `otRound`: a negative `x` rounds to at most 0. -/
theorem roundHalfAway_le_iff {k : Int} (hk : 0 ≤ k) (x : Rat) : roundHalfAway x ≤ k ↔ x < (k : Rat) + 1/2 := by
  by_cases h : 0 ≤ x
  · rw [roundHalfAway_of_nonneg h, otRound_le_iff]
  · have hx : x < 0 := Rat.not_le.1 h
    have h0 : 0 ≤ otRound (-x) := (otRound_ge_iff _ 0).2 (by grind)
    have hk' : (0 : Rat) ≤ k := by exact_mod_cast hk
    rw [roundHalfAway_of_neg hx]
    exact ⟨fun _ => by grind, fun _ => by omega⟩

theorem f2dot14FromF64_eq (v : Rat) : f2dot14FromF64 v = satI16 (roundHalfAway (v * 16384)) := by
  have : 0 ≤ v * 16384 ↔ 0 ≤ v := by grind
  simp only [f2dot14FromF64, roundHalfAway, asI16, this]

theorem f2dot14FromF64_eq_bits (v : Rat) : f2dot14FromF64 v = f2dot14Bits v := by
  rw [f2dot14FromF64_eq, roundHalfAway_eq]; rfl

theorem roundHalfAway_scaled_le_iff (v : Rat) : roundHalfAway (v * 16384) ≤ 32767 ↔ v < 2 - 1/32768 := by
  rw [roundHalfAway_le_iff (by decide)]
  simp
  grind

theorem roundHalfAway_scaled_ge {v : Rat} (h : -2 ≤ v) : -32768 ≤ roundHalfAway (v * 16384) :=
  roundHalfAway_nearest.int_le (m := -32768) (by simp; grind)

end Fontc.Casts
