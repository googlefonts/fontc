/-
  C11: what `lookupStep` is on either side for the lookup of a run.  Source: the step of the run's one
  kind.  Tables: a lookup without contextual subtables — every builder but the contextual one writes such —
  is tried subtable by subtable, nested lookups never come into play.
-/
import FontcModel.FeaCompile
import FontcProofs.FeaMap

namespace Fontc.FeaCompile
open Cmp

/-- what a lookup is taken for is decided by the kinds of its rules; for a run they are all the same -/
theorem any_of_homogeneous (p : Kind → Bool) {rules : List Rule} {k : Kind} (hne : rules ≠ [])
    (h : ∀ r ∈ rules, r.kind = k) : rules.any (fun r => p r.kind) = p k := by
  cases rules with
  | nil => exact absurd rfl hne
  | cons r rs =>
    rw [Bool.eq_iff_iff, List.any_eq_true]
    constructor
    · rintro ⟨x, hx, e⟩; rw [← h x hx]; exact e
    · intro e; exact ⟨r, by simp, by rw [h r (by simp)]; exact e⟩

theorem lookupStep_homogeneous {rules : List Rule} {k : Kind} (hne : rules ≠ []) (hk : ∀ r ∈ rules, r.kind = k)
    (gdefSrc : List (Glyph × Nat)) (alt : Nat) (env : String → Option Src.Lookup) (name : Option String) (f : Flag) :
    Src.lookupStep gdefSrc alt env ⟨name, f, rules⟩ =
      if k = .chain then Src.chainStep gdefSrc alt env ⟨name, f, rules⟩
      else if k = .ligature then Src.ligStep (Src.ignored gdefSrc f) rules
      else if k = .alternate then Src.altStep alt rules
      else Src.substStep rules := by
  simp only [Src.lookupStep, Src.simpleStep, Src.Lookup.isChain, Src.Lookup.isLig, Src.Lookup.isAlt,
    fun k' => any_of_homogeneous (· == k') hne hk, beq_iff_eq]

theorem lookupStep_simple {gdef : OT.Gdef} {alt : Nat} {lookups : List OT.Lookup} {d : Nat} {l : OT.Lookup}
    (h : ∀ st ∈ l.subtables, ∀ ign rev g suf, OT.ctxSubtableMatch ign st rev g suf = none)
    (rev : List Glyph) (g : Glyph) (suf : List Glyph) :
    OT.lookupStep gdef alt lookups d l rev g suf
      = l.subtables.findSome? fun st => OT.simpleSubtableStep (l.ign gdef) alt st rev g suf := by
  cases d with
  | zero => rfl
  | succ d =>
    simp only [OT.lookupStep]
    refine findSome?_congr fun st hst => ?_
    rw [h st hst]
    cases OT.simpleSubtableStep (l.ign gdef) alt st rev g suf <;> rfl

theorem lookupStep_nonchain {gdef : OT.Gdef} {alt : Nat} {lookups : List OT.Lookup} {d : Nat} {cf : CFlag} {b : Builder}
    (h : b.kind ≠ .chain) (rev : List Glyph) (g : Glyph) (suf : List Glyph) :
    OT.lookupStep gdef alt lookups d (buildLookup cf b) rev g suf
      = (buildSubtables b).findSome? fun st => OT.simpleSubtableStep (OT.ignored gdef cf.1 cf.2) alt st rev g suf := by
  refine lookupStep_simple (fun st hst ign rev g suf => ?_) rev g suf
  cases b with
  | chain => exact absurd rfl h
  | ppos pairs classes =>
    simp only [buildLookup, buildSubtables, buildClassSub, List.mem_append, List.mem_map] at hst
    rcases hst with hst | ⟨c, _, rfl⟩
    · split at hst <;> simp at hst; subst hst; rfl
    · rfl
  | single m | ligature m | spos m =>
    simp only [buildLookup, buildSubtables, buildLig] at hst
    split at hst <;> simp at hst
    subst hst; rfl
  | multiple m | alternate m =>
    simp only [buildLookup, buildSubtables, List.mem_singleton] at hst
    subst hst; rfl

end Fontc.FeaCompile
