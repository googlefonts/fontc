/-
  C11: the hypotheses of `compile_correct_gen` as a decidable predicate on programs
  (`Fragment.ok`), with the proof that it implies them.
-/
import FontcProofs.FeaCorrectGen

namespace Fontc.FeaCompile
open Cmp

namespace Fragment

/-- the `lookupflag` statements a lookup block starts with -/
def blockFlags : List BStmt → List Flag
  | .flag f :: rest => f :: blockFlags rest
  | _ => []

/-- the block after them (`block_split`) -/
def blockRest : List BStmt → List BStmt
  | .flag _ :: rest => blockRest rest
  | l => l

/-- the rules of a list of rule statements; `none` if a `lookupflag` stands among them -/
def rulesOf : List BStmt → Option (List Rule)
  | [] => some []
  | .rule r :: rest => (rulesOf rest).map (r :: ·)
  | .flag _ :: _ => none

theorem block_split (body : List BStmt) : body = (blockFlags body).map BStmt.flag ++ blockRest body := by
  induction body with
  | nil => rfl
  | cons st body ih =>
    cases st with
    | flag f => simp only [blockFlags, blockRest, List.map_cons, List.cons_append]; rw [← ih]
    | rule r => rfl

theorem rulesOf_eq {l : List BStmt} {rs : List Rule} (h : rulesOf l = some rs) : l = rs.map BStmt.rule := by
  induction l generalizing rs with
  | nil => simp [rulesOf] at h; subst h; rfl
  | cons st l ih =>
    cases st with
    | flag f => simp [rulesOf] at h
    | rule r =>
      simp only [rulesOf, Option.map_eq_some_iff] at h
      obtain ⟨rs', h1, rfl⟩ := h
      simp [ih h1]

/-- the condition on a `lookupflag` statement (`FlagNorm`, attachment class in `U`) as a computation -/
def flagOkB (U : List (List Glyph)) (f : Flag) : Bool :=
  (match f.attach with | none => true | some c => sortedSet c == c && U.contains (sortedSet c)) &&
  (match f.filter with | none => true | some c => sortedSet c == c)

theorem flagOk_of_B {U : List (List Glyph)} {f : Flag} (h : flagOkB U f = true) :
    FlagNorm f ∧ ∀ c, f.attach = some c → sortedSet c ∈ U := by
  simp only [flagOkB, Bool.and_eq_true] at h
  obtain ⟨h1, h2⟩ := h
  refine ⟨⟨?_, ?_⟩, ?_⟩
  · intro c hc; rw [hc] at h1; simp at h1; exact h1.1
  · intro c hc; rw [hc] at h2; simpa using h2
  · intro c hc; rw [hc] at h1; simp at h1; exact h1.2

/-- `BlockOk` as a computation -/
def blockOkB (U : List (List Glyph)) (body : List BStmt) : Bool :=
  match rulesOf (blockRest body) with
  | none => false
  | some rs => !rs.isEmpty && (blockFlags body).all (flagOkB U) && rs.all (fun r => r.kind == headKind rs)

theorem blockOk_of_B {U : List (List Glyph)} {body : List BStmt} (h : blockOkB U body = true) : BlockOk U body := by
  simp only [blockOkB] at h
  cases hq : rulesOf (blockRest body) with
  | none => rw [hq] at h; cases h
  | some rs =>
    rw [hq] at h
    simp only [Bool.and_eq_true, Bool.not_eq_true', List.all_eq_true, beq_iff_eq] at h
    obtain ⟨⟨h1, h2⟩, h3⟩ := h
    refine ⟨blockFlags body, rs, headKind rs, ?_, fun f hf => flagOk_of_B (h2 f hf), h3, ?_⟩
    · have := block_split body
      rw [rulesOf_eq hq] at this
      exact this
    · intro e; rw [e] at h1; simp at h1

/-- `StmtOk` as a computation -/
def stmtOkB (U : List (List Glyph)) (w : Src.Walk) (used : List String) : Stmt → Bool
  | .flag f => flagOkB U f
  | .rule r =>
    match w.cur with
    | none => true
    | some (_, f, rules) => !(decide (f = w.flag)) || !(Wf.mixes (headKind rules) r.kind)
  | .ref n => used.contains n
  | .lookup n body => !used.contains n && blockOkB U body
  | .script t => !(decide (w.reg = .script t))
  | .language _ _ => true

theorem stmtOk_of_B {U : List (List Glyph)} {w : Src.Walk} {used : List String} {st : Stmt}
    (h : stmtOkB U w used st = true) : StmtOk U w used st := by
  cases st with
  | flag f => exact flagOk_of_B h
  | rule r =>
    simp only [StmtOk]
    intro reg f rules hw hf
    simp only [stmtOkB, hw, Bool.or_eq_true, Bool.not_eq_true', decide_eq_false_iff_not] at h
    rcases h with h | h
    · exact absurd hf h
    · exact h
  | ref n => simpa [stmtOkB, StmtOk] using h
  | lookup n body =>
    simp only [stmtOkB, Bool.and_eq_true, Bool.not_eq_true', List.contains_eq_mem, decide_eq_false_iff_not] at h
    exact ⟨h.1, blockOk_of_B h.2⟩
  | script t => simpa [stmtOkB, StmtOk] using h
  | language l ex => trivial

/-- `BodyOk` as a computation -/
def bodyOkB (U : List (List Glyph)) : Src.Walk → List String → List Stmt → Bool
  | _, _, [] => true
  | w, used, st :: rest => stmtOkB U w used st && bodyOkB U (Src.walkStmt w st) (namesAfter used [st]) rest

theorem bodyOk_of_B {U : List (List Glyph)} {body : List Stmt} :
    ∀ {w : Src.Walk} {used : List String}, bodyOkB U w used body = true → BodyOk U w used body := by
  induction body with
  | nil => intro _ _ _; trivial
  | cons st body ih =>
    intro w used h
    simp only [bodyOkB, Bool.and_eq_true] at h
    exact ⟨stmtOk_of_B h.1, ih h.2⟩

/-- `FlatBody`, `FlagsOk` and `NoMixFrom` as a computation -/
def flatOkB (U : List (List Glyph)) (w : Src.Walk) : List Stmt → Bool
  | [] => true
  | st :: rest =>
    (match st with | .flag _ | .rule _ => true | _ => false) && stmtOkB U w [] st &&
    flatOkB U (Src.walkStmt w st) rest

theorem flat_of_B {U : List (List Glyph)} {body : List Stmt} :
    ∀ {w : Src.Walk}, flatOkB U w body = true → FlatBody body ∧ FlagsOk U body ∧ NoMixFrom w body := by
  induction body with
  | nil => intro _ _; exact ⟨by simp [FlatBody], by simp [FlagsOk], trivial⟩
  | cons st body ih =>
    intro w h
    simp only [flatOkB, Bool.and_eq_true] at h
    obtain ⟨⟨h1, h2⟩, h3⟩ := h
    obtain ⟨i1, i2, i3⟩ := ih h3
    have hst := stmtOk_of_B h2
    cases st with
    | flag f =>
      refine ⟨fun st' hm => ?_, fun f' hm => ?_, trivial, i3⟩
      · rcases List.mem_cons.mp hm with rfl | hm
        · exact Or.inl ⟨f, rfl⟩
        · exact i1 st' hm
      · rcases List.mem_cons.mp hm with e | hm
        · cases e; exact hst
        · exact i2 f' hm
    | rule r =>
      refine ⟨fun st' hm => ?_, fun f' hm => ?_, hst, i3⟩
      · rcases List.mem_cons.mp hm with rfl | hm
        · exact Or.inr ⟨r, rfl⟩
        · exact i1 st' hm
      · rcases List.mem_cons.mp hm with e | hm
        · cases e
        · exact i2 f' hm
    | _ => cases h1

/-- `NoLangDflt` as a computation -/
def noLangDfltB (body : List Stmt) : Bool :=
  body.all fun | .language l _ => l != "dflt" | _ => true

theorem noLangDflt_of_B {body : List Stmt} (h : noLangDfltB body = true) : NoLangDflt body := by
  intro l ex hm
  simp only [noLangDfltB, List.all_eq_true] at h
  have := h _ hm
  simpa using this

/-- `TopsOk` as a computation -/
def topsOkB (U : List (List Glyph)) (dls : List Sys) : List String → List Top → Bool
  | _, [] => true
  | _, .langsys .. :: _ => false
  | used, .lookup n body :: rest => !used.contains n && blockOkB U body && topsOkB U dls (n :: used) rest
  | used, .feature _ body :: rest =>
    bodyOkB U {} used body && sysOk dls none [] (stmtSys "DFLT" body) && noLangDfltB body &&
    topsOkB U dls (namesAfter used body) rest

theorem topsOk_of_B {U : List (List Glyph)} {dls : List Sys} {rest : List Top} :
    ∀ {used}, topsOkB U dls used rest = true → TopsOk U dls used rest := by
  induction rest with
  | nil => intro _ _; trivial
  | cons t rest ih =>
    intro used h
    cases t with
    | langsys a b => simp [topsOkB] at h
    | lookup n body =>
      simp only [topsOkB, Bool.and_eq_true, Bool.not_eq_true', List.contains_eq_mem, decide_eq_false_iff_not] at h
      exact ⟨h.1.1, blockOk_of_B h.1.2, ih h.2⟩
    | feature tag body =>
      simp only [topsOkB, Bool.and_eq_true] at h
      exact ⟨bodyOk_of_B h.1.1.1, h.1.1.2, noLangDflt_of_B h.1.2, ih h.2⟩

def isLangsys : Top → Bool
  | .langsys .. => true
  | _ => false

/-- the `languagesystem` statements the program starts with (`tops_split`) -/
def leadLangsys : List Top → List (Tag × Tag)
  | .langsys s l :: rest => (s, l) :: leadLangsys rest
  | _ => []

theorem tops_split (tops : List Top) : tops = lsTops (leadLangsys tops) ++ tops.dropWhile isLangsys := by
  induction tops with
  | nil => rfl
  | cons t tops ih =>
    cases t with
    | langsys s l =>
      simp only [leadLangsys, lsTops, List.map_cons, List.cons_append, List.dropWhile_cons, isLangsys, ↓reduceIte]
      rw [← lsTops, ← ih]
    | lookup n b => rfl
    | feature tag b => rfl

/-- the attachment classes named by the `lookupflag` statements of the program -/
def attachClasses (p : Program) : List (List Glyph) :=
  (((Wf.flagsOf p.tops).filterMap (·.attach)).map sortedSet).eraseDups

/-- two different classes of `U` share no glyph, as a computation -/
def disjointB (U : List (List Glyph)) : Bool :=
  U.all fun c => U.all fun c' => c == c' || c.all fun g => !c'.contains g

theorem disjoint_of_B {U : List (List Glyph)} (h : disjointB U = true) :
    ∀ c ∈ U, ∀ c' ∈ U, c ≠ c' → ∀ g ∈ c, g ∉ c' := by
  intro c hc c' hc' hne g hg hg'
  simp only [disjointB, List.all_eq_true, Bool.or_eq_true, beq_iff_eq, Bool.not_eq_true',
    List.contains_eq_mem, decide_eq_false_iff_not] at h
  rcases h c hc c' hc' with h | h
  · exact hne h
  · exact h g hg hg'

/-- `LangOkFor` for both tables, as a computation -/
def langOkB (es : List Src.Entry) (script lang : Tag) : Bool :=
  lang == "dflt" ||
  [false, true].all fun isPos =>
    es.any (fun e => e.lookup.isPos == isPos && e.regs.any fun r => r.2.1 == script && r.2.2 == lang) ||
    es.all (fun e => !(e.lookup.isPos == isPos) || !(e.regs.any fun r => r.2.1 == script && r.2.2 == "dflt"))

theorem langOk_of_B {es : List Src.Entry} {script lang : Tag} (h : langOkB es script lang = true) (isPos : Bool) :
    LangOkFor es isPos script lang := by
  -- per table, the first test of `langOkB` is `regsAny` for the language and the second, by De Morgan, its negation for "dflt"
  have hd : ∀ b, (es.all fun e => !(e.lookup.isPos == b) || !(e.regs.any fun r => r.2.1 == script && r.2.2 == "dflt")) =
      !regsAny es b script "dflt" := fun b => by
    simp only [regsAny, List.not_any_eq_all_not, Bool.not_and]
  simp only [langOkB, hd, List.all_cons, List.all_nil, Bool.and_true, Bool.or_eq_true, Bool.and_eq_true, beq_iff_eq,
    Bool.not_eq_true'] at h
  rcases h with h | ⟨h0, h1⟩
  · exact Or.inl h
  · cases isPos
    · exact Or.inr h0
    · exact Or.inr h1

/-- **The fragment of the feature-file language for which `compile_correct` is proved**, as a
    computation on programs. -/
def ok (p : Program) : Bool :=
  let U := attachClasses p
  topsOkB U (Src.langsysOf p.tops) [] (p.tops.dropWhile isLangsys) &&
  (Src.entries p).all (fun e => runOkB e.lookup.rules) &&
  decide (p.gdef.map (·.1)).Nodup &&
  U.all (fun c => decide c.Nodup) && disjointB U

end Fragment

end Fontc.FeaCompile
