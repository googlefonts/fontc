/-
  C20 — induction over plist values: the value type is nested (a value holds lists of values), so the
  hypotheses for arrays and dictionaries speak of every member; `valid` and `canonical` of a list in that
  form.  Decidable equality of values.
-/
import FontcModel.Plist
namespace Fontc.Plist

theorem PVal.induct {P : PVal → Prop}
    (hstr : ∀ s, P (.str s)) (hint : ∀ i, P (.int i)) (hflt : ∀ t, P (.flt t)) (hdata : ∀ b, P (.data b))
    (harr : ∀ xs, (∀ x ∈ xs, P x) → P (.arr xs))
    (hdict : ∀ kvs, (∀ kv ∈ kvs, P kv.2) → P (.dict kvs)) : ∀ v, P v
  | .str s => hstr s
  | .int i => hint i
  | .flt t => hflt t
  | .data b => hdata b
  | .arr xs => harr xs (fun x _ => PVal.induct hstr hint hflt hdata harr hdict x)
  | .dict kvs => hdict kvs (fun kv _ => PVal.induct hstr hint hflt hdata harr hdict kv.2)
termination_by v => sizeOf v
decreasing_by
  · have := List.sizeOf_lt_of_mem ‹x ∈ xs›
    simp
    omega
  · have := List.sizeOf_lt_of_mem ‹kv ∈ kvs›
    cases kv
    simp at *
    omega

theorem validL_iff (xs : List PVal) : validL xs = true ↔ ∀ x ∈ xs, valid x = true := by
  induction xs with
  | nil => simp [validL]
  | cons x xs ih => simp [validL, ih]

theorem validE_iff (kvs : List (Key × PVal)) : validE kvs = true ↔ ∀ kv ∈ kvs, valid kv.2 = true := by
  induction kvs with
  | nil => simp [validE]
  | cons kv kvs ih => obtain ⟨k, v⟩ := kv; simp [validE, ih]

theorem canonicalE_iff (kvs : List (Key × PVal)) : canonicalE kvs = true ↔ ∀ kv ∈ kvs, canonical kv.2 = true := by
  induction kvs with
  | nil => simp [canonicalE]
  | cons kv kvs ih => obtain ⟨k, v⟩ := kv; simp [canonicalE, ih]

theorem canonicalL_iff (xs : List PVal) : canonicalL xs = true ↔ ∀ x ∈ xs, canonical x = true := by
  induction xs with
  | nil => simp [canonicalL]
  | cons x xs ih => simp [canonicalL, ih]

mutual
/-- equality test on values by structural recursion (the derived `BEq` does not reduce in the kernel) -/
def PVal.eqb : PVal → PVal → Bool
  | .dict xs, .dict ys => PVal.eqbKVs xs ys
  | .arr xs, .arr ys => PVal.eqbList xs ys
  | .str s, .str t => decide (s = t)
  | .int i, .int j => decide (i = j)
  | .flt s, .flt t => decide (s = t)
  | .data s, .data t => decide (s = t)
  | _, _ => false
def PVal.eqbList : List PVal → List PVal → Bool
  | [], [] => true
  | x :: xs, y :: ys => x.eqb y && PVal.eqbList xs ys
  | _, _ => false
def PVal.eqbKVs : List (Key × PVal) → List (Key × PVal) → Bool
  | [], [] => true
  | (k, x) :: xs, (l, y) :: ys => decide (k = l) && x.eqb y && PVal.eqbKVs xs ys
  | _, _ => false
end

theorem PVal.eqbList_iff {xs : List PVal} (h : ∀ x ∈ xs, ∀ y, x.eqb y = true ↔ x = y) :
    ∀ ys, PVal.eqbList xs ys = true ↔ xs = ys := by
  induction xs with
  | nil => intro ys; cases ys <;> simp [PVal.eqbList]
  | cons x xs ih =>
    intro ys
    cases ys with
    | nil => simp [PVal.eqbList]
    | cons y ys =>
      simp [PVal.eqbList, h x List.mem_cons_self y, ih (fun x hx => h x (List.mem_cons_of_mem _ hx)) ys]

theorem PVal.eqbKVs_iff {xs : List (Key × PVal)} (h : ∀ kv ∈ xs, ∀ y, kv.2.eqb y = true ↔ kv.2 = y) :
    ∀ ys, PVal.eqbKVs xs ys = true ↔ xs = ys := by
  induction xs with
  | nil => intro ys; cases ys <;> simp [PVal.eqbKVs]
  | cons x xs ih =>
    intro ys
    obtain ⟨k, x⟩ := x
    cases ys with
    | nil => simp [PVal.eqbKVs]
    | cons y ys =>
      obtain ⟨l, y⟩ := y
      simp [PVal.eqbKVs, h (k, x) List.mem_cons_self y, ih (fun x hx => h x (List.mem_cons_of_mem _ hx)) ys, and_assoc]

theorem PVal.eqb_iff : ∀ a b : PVal, a.eqb b = true ↔ a = b := by
  intro a
  induction a using PVal.induct with
  | hstr s => intro b; cases b <;> simp [PVal.eqb]
  | hint s => intro b; cases b <;> simp [PVal.eqb]
  | hflt s => intro b; cases b <;> simp [PVal.eqb]
  | hdata s => intro b; cases b <;> simp [PVal.eqb]
  | harr xs ih => intro b; cases b <;> simp [PVal.eqb, PVal.eqbList_iff ih]
  | hdict xs ih => intro b; cases b <;> simp [PVal.eqb, PVal.eqbKVs_iff ih]

instance : DecidableEq PVal := fun a b => decidable_of_iff _ (PVal.eqb_iff a b)

end Fontc.Plist
