/-
  C07, algebraic part: `deltasAux` (model of `VariationModel::deltas_with_rounding`) followed by
  `interpolate` (model of `interpolate_from_deltas`) reproduces the master values, given that the
  influence regions are unitriangular on the master locations (`Triangular`; proved for
  `Model.new` in FontcProofs/VarModelTri.lean).

  All statements are for arbitrary lists; positions are addressed with `l[j]? = some x`, so every
  index condition is explicit (no `getD`/`get!` defaults).  The deltas are written
  `deltasAux round infl (locs.zip vals) []`, which is what `Model.deltas` is by definition.
-/
import FontcModel.VarModel
import FontcProofs.Rounding
import FontcProofs.ListFacts

namespace Fontc.VarModel
open Fontc

/-- What one region contributes at `loc`: its scalar there times its delta, nothing if the master supplied no value. -/
def term (r : Region) (d : Option Rat) (loc : Loc) : Rat :=
  match d with
  | some dk => scalarAt r loc * dk
  | none => 0

/-- Σ scalar · delta over regions and deltas paired by position.  Both folds of the model are this sum:
    `interpolate` adds it up (`interpolate_eq_dot`), `deltasAux` subtracts it from the master value (`deltasAux_cons`). -/
def dot : List Region → List (Option Rat) → Loc → Rat
  | r :: rs, d :: ds, loc => term r d loc + dot rs ds loc
  | [], _, _ => 0
  | _ :: _, [], _ => 0

@[simp] theorem dot_nil_left (ds : List (Option Rat)) (loc : Loc) : dot [] ds loc = 0 := by
  simp [dot]
@[simp] theorem dot_nil_right (rs : List Region) (loc : Loc) : dot rs [] loc = 0 := by
  cases rs <;> simp [dot]
@[simp] theorem dot_cons (r : Region) (rs) (d : Option Rat) (ds) (loc : Loc) :
    dot (r :: rs) (d :: ds) loc = term r d loc + dot rs ds loc := by simp [dot]

theorem foldl_add_eq (l : List Rat) (a : Rat) : l.foldl (· + ·) a = a + l.foldl (· + ·) 0 := by
  have := List.foldl_assoc (op := fun x y : Rat => x + y) (l := l) (a₁ := a) (a₂ := 0)
  rwa [Rat.add_zero] at this

theorem foldl_sub_eq (l : List Rat) (a : Rat) :
    l.foldl (fun acc c => acc - c) a = a - l.foldl (· + ·) 0 := by
  induction l generalizing a with
  | nil => simp [Rat.sub_eq_add_neg, Rat.add_zero]
  | cons x xs ih =>
    simp only [List.foldl_cons]
    rw [ih (a - x), foldl_add_eq xs (0 + x)]
    grind

theorem foldl_zipWith_eq_dot (infl : List Region) (ds : List (Option Rat)) (loc : Loc)
    (g : Region → Option Rat → Rat) (hg : ∀ r d, g r d = term r d loc) :
    (List.zipWith g infl ds).foldl (· + ·) 0 = dot infl ds loc := by
  fun_induction dot infl ds loc with
  | case1 r rs d ds loc ih =>
    simp only [List.zipWith_cons_cons, List.foldl_cons]
    rw [foldl_add_eq, ih hg, hg]
    grind
  | case2 => simp
  | case3 => simp

theorem interpolate_eq_dot (infl : List Region) (ds : List (Option Rat)) (loc : Loc) :
    interpolate infl ds loc = dot infl ds loc := by
  unfold interpolate
  rw [List.map_zip_eq_zipWith]
  exact foldl_zipWith_eq_dot infl ds loc _ (by intro r d; cases d <;> rfl)

/-- The delta `deltasAux` appends for master `p`, given the deltas `done` of the masters before it. -/
def deltaStep (round : Rat → Rat) (infl : List Region) (done : List (Option Rat))
    (p : Loc × Option Rat) : Option Rat :=
  match p.2 with
  | none => none
  | some v => some (round (v - dot infl done p.1))

theorem deltasAux_cons (round : Rat → Rat) (infl : List Region) (p : Loc × Option Rat)
    (rest : List (Loc × Option Rat)) (done : List (Option Rat)) :
    deltasAux round infl (p :: rest) done
      = deltasAux round infl rest (done ++ [deltaStep round infl done p]) := by
  obtain ⟨loc, ov⟩ := p
  cases ov with
  | none => simp [deltasAux, deltaStep]
  | some v =>
    simp only [deltasAux, deltaStep]
    rw [foldl_sub_eq, List.map_zip_eq_zipWith, List.zipWith_comm,
      foldl_zipWith_eq_dot infl done loc _ (by intro r d; cases d <;> rfl)]

theorem deltasAux_eq_accMap (round : Rat → Rat) (infl : List Region) (l : List (Loc × Option Rat))
    (done : List (Option Rat)) : deltasAux round infl l done = accMap (deltaStep round infl) done l := by
  induction l generalizing done with
  | nil => rfl
  | cons p ps ih => rw [deltasAux_cons, accMap, ih]

theorem deltasAux_getElem? (round : Rat → Rat) (infl : List Region)
    {l : List (Loc × Option Rat)} {j : Nat} {p : Loc × Option Rat} (hp : l[j]? = some p) :
    (deltasAux round infl l [])[j]?
      = some (deltaStep round infl ((deltasAux round infl l []).take j) p) := by
  simpa [deltasAux_eq_accMap] using getElem?_accMap (deltaStep round infl) [] l j p hp

theorem deltas_length {round : Rat → Rat} {infl : List Region} {locs : List Loc} {vals : Values}
    (hlen : vals.length = locs.length) :
    (deltasAux round infl (locs.zip vals) []).length = locs.length := by
  rw [deltasAux_eq_accMap, length_accMap]; simp [hlen]

theorem deltas_getElem?_none (round : Rat → Rat) (infl : List Region) (locs : List Loc) (vals : Values)
    (hlen : vals.length = locs.length) (j : Nat) :
    (deltasAux round infl (locs.zip vals) [])[j]? = some none ↔ vals[j]? = some none := by
  rcases Nat.lt_or_ge j locs.length with hj | hj
  · have hjv : j < vals.length := by omega
    have hp : (locs.zip vals)[j]? = some (locs[j], vals[j]) := by
      rw [List.getElem?_zip_eq_some]; simp [hj, hjv]
    rw [deltasAux_getElem? round infl hp, List.getElem?_eq_getElem hjv]
    simp only [deltaStep]
    cases vals[j] <;> simp
  · rw [List.getElem?_eq_none (by rw [deltas_length hlen]; exact hj),
        List.getElem?_eq_none (by omega)]

theorem deltas_getElem?_some (round : Rat → Rat) (infl : List Region) {locs : List Loc} (vals : Values)
    {j : Nat} {loc : Loc} (v : Rat) (hl : locs[j]? = some loc) (hv : vals[j]? = some (some v)) :
    (deltasAux round infl (locs.zip vals) [])[j]?
      = some (some (round (v - dot infl ((deltasAux round infl (locs.zip vals) []).take j) loc))) := by
  have hp : (locs.zip vals)[j]? = some (loc, some v) := by
    rw [List.getElem?_zip_eq_some]; exact ⟨hl, hv⟩
  rw [deltasAux_getElem? round infl hp]
  simp [deltaStep]

theorem dot_split {infl : List Region} {D : List (Option Rat)} {loc : Loc} {m : Nat}
    {r : Region} {d : Option Rat} (hr : infl[m]? = some r) (hd : D[m]? = some d) :
    dot infl D loc
      = dot infl (D.take m) loc + (term r d loc + dot (infl.drop (m + 1)) (D.drop (m + 1)) loc) := by
  induction infl generalizing D m with
  | nil => simp at hr
  | cons r' rs ih =>
    cases D with
    | nil => simp at hd
    | cons d' ds =>
      cases m with
      | zero =>
        simp only [List.getElem?_cons_zero, Option.some.injEq] at hr hd
        simp [hr, hd, Rat.zero_add]
      | succ m =>
        simp only [List.getElem?_cons_succ] at hr hd
        simp only [List.take_succ_cons, List.drop_succ_cons, dot_cons, ih hr hd, Rat.add_assoc]

theorem dot_eq_zero {l : List Region} {d : List (Option Rat)} {loc : Loc}
    (h : ∀ r ∈ l, scalarAt r loc = 0) : dot l d loc = 0 := by
  fun_induction dot l d loc with
  | case1 r rs d ds loc ih =>
    rw [ih (fun r hr => h r (List.mem_cons_of_mem _ hr))]
    cases d <;> simp [term, h r List.mem_cons_self, Rat.zero_mul, Rat.add_zero]
  | case2 => rfl
  | case3 => rfl

/-- The influence regions are *unitriangular* on the master locations: region `j` is 1 at master `j`
    and 0 at every earlier master `i < j`. -/
def Triangular (infl : List Region) (locs : List Loc) : Prop :=
  infl.length = locs.length ∧
  (∀ (j : Nat) (r : Region) (l : Loc), infl[j]? = some r → locs[j]? = some l → scalarAt r l = 1) ∧
  (∀ (i j : Nat) (r : Region) (l : Loc), i < j → infl[j]? = some r → locs[i]? = some l → scalarAt r l = 0)

theorem triangular_iff_getElem (infl : List Region) (locs : List Loc) :
    Triangular infl locs ↔
      infl.length = locs.length ∧
      (∀ (j : Nat) (hi : j < infl.length) (hl : j < locs.length), scalarAt infl[j] locs[j] = 1) ∧
      (∀ (i j : Nat) (_ : i < j) (hj : j < infl.length) (hi : i < locs.length), scalarAt infl[j] locs[i] = 0) := by
  unfold Triangular
  constructor
  · rintro ⟨h0, h1, h2⟩
    refine ⟨h0, ?_, ?_⟩
    · intro j hi hl; exact h1 j _ _ (List.getElem?_eq_getElem hi) (List.getElem?_eq_getElem hl)
    · intro i j hij hj hi
      exact h2 i j _ _ hij (List.getElem?_eq_getElem hj) (List.getElem?_eq_getElem hi)
  · rintro ⟨h0, h1, h2⟩
    refine ⟨h0, ?_, ?_⟩
    · intro j r l hr hl
      obtain ⟨hi, rfl⟩ := List.getElem?_eq_some_iff.mp hr
      obtain ⟨hl', rfl⟩ := List.getElem?_eq_some_iff.mp hl
      exact h1 j hi hl'
    · intro i j r l hij hr hl
      obtain ⟨hj, rfl⟩ := List.getElem?_eq_some_iff.mp hr
      obtain ⟨hi, rfl⟩ := List.getElem?_eq_some_iff.mp hl
      exact h2 i j hij hj hi

/-- At master `m` the regions after `m` vanish and region `m` has scalar 1. -/
theorem dot_at_master {infl : List Region} {locs : List Loc} {D : List (Option Rat)}
    (htri : Triangular infl locs)
    {m : Nat} {loc : Loc} (hl : locs[m]? = some loc) {dm : Option Rat} (hdm : D[m]? = some dm) :
    dot infl D loc = dot infl (D.take m) loc + dm.getD 0 := by
  obtain ⟨h0, h1, h2⟩ := htri
  obtain ⟨r, hr⟩ : ∃ r, infl[m]? = some r :=
    ⟨_, List.getElem?_eq_getElem (h0 ▸ (List.getElem?_eq_some_iff.1 hl).1)⟩
  have hrest : dot (infl.drop (m + 1)) (D.drop (m + 1)) loc = 0 :=
    dot_eq_zero fun r hr => by
      obtain ⟨k, hk⟩ := List.getElem?_of_mem hr
      rw [List.getElem?_drop] at hk
      exact h2 m (m + 1 + k) r loc (by omega) hk hl
  rw [dot_split hr hdm, hrest, Rat.add_zero]
  cases dm with
  | none => rfl
  | some d => rw [term, h1 m r loc hr hl, Rat.one_mul]; rfl

theorem interpolate_at_master {round : Rat → Rat} {infl : List Region} {locs : List Loc}
    {vals : Values} (htri : Triangular infl locs)
    {m : Nat} {loc : Loc} {v : Rat} (hl : locs[m]? = some loc) (hv : vals[m]? = some (some v)) :
    interpolate infl (deltasAux round infl (locs.zip vals) []) loc
      = dot infl ((deltasAux round infl (locs.zip vals) []).take m) loc
        + round (v - dot infl ((deltasAux round infl (locs.zip vals) []).take m) loc) := by
  rw [interpolate_eq_dot]
  rw [dot_at_master htri hl (deltas_getElem?_some round infl vals v hl hv)]
  rfl

theorem deltas_reproduce_exact (round : Rat → Rat) (infl : List Region) (locs : List Loc)
    (vals : Values) (htri : Triangular infl locs) (hlen : vals.length = locs.length)
    (hround : ∀ x, round x = x)
    (m : Nat) (loc : Loc) (v : Rat) (hl : locs[m]? = some loc) (hv : vals[m]? = some (some v)) :
    interpolate infl (deltasAux round infl (locs.zip vals) []) loc = v := by
  rw [interpolate_at_master htri hl hv, hround]
  grind

theorem deltas_reproduce_rounded (round : Rat → Rat) (infl : List Region) (locs : List Loc)
    (vals : Values) (htri : Triangular infl locs) (hlen : vals.length = locs.length)
    (hround : ∀ x, ratAbs (round x - x) ≤ 1/2)
    (m : Nat) (loc : Loc) (v : Rat) (hl : locs[m]? = some loc) (hv : vals[m]? = some (some v)) :
    ratAbs (interpolate infl (deltasAux round infl (locs.zip vals) []) loc - v) ≤ 1/2 := by
  rw [interpolate_at_master htri hl hv]
  generalize dot infl _ loc = S
  -- the error at the master is the rounding error of its own delta, nothing else
  rw [show S + round (v - S) - v = round (v - S) - (v - S) by grind]
  exact hround _

/-- `RoundingBehaviour::{None, RoundTiesEven}`. -/
theorem deltas_reproduce_rounding (rb : Rounding) {infl : List Region} {locs : List Loc}
    {vals : Values} (htri : Triangular infl locs) (hlen : vals.length = locs.length)
    {m : Nat} {loc : Loc} {v : Rat} (hl : locs[m]? = some loc) (hv : vals[m]? = some (some v)) :
    ratAbs (interpolate infl (deltasAux rb.apply infl (locs.zip vals) []) loc - v) ≤ 1/2 :=
  deltas_reproduce_rounded rb.apply infl locs vals htri hlen (Rounding.apply_abs_le rb) m loc v hl hv

theorem default_exact (round : Rat → Rat) (infl : List Region) (locs : List Loc)
    (vals : Values) (htri : Triangular infl locs) (hlen : vals.length = locs.length)
    (loc : Loc) (v : Rat) (hl : locs[0]? = some loc) (hv : vals[0]? = some (some v)) :
    interpolate infl (deltasAux round infl (locs.zip vals) []) loc = round v := by
  rw [interpolate_at_master htri hl hv]
  simp [Rat.sub_eq_add_neg, Rat.add_zero, Rat.zero_add]

theorem default_exact_of_fixed (round : Rat → Rat) (infl : List Region) (locs : List Loc)
    (vals : Values) (htri : Triangular infl locs) (hlen : vals.length = locs.length)
    (loc : Loc) (v : Rat) (hl : locs[0]? = some loc) (hv : vals[0]? = some (some v))
    (hfix : round v = v) :
    interpolate infl (deltasAux round infl (locs.zip vals) []) loc = v := by
  rw [default_exact round infl locs vals htri hlen loc v hl hv, hfix]

end Fontc.VarModel
