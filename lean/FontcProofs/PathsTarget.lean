/-
  The two `target_file` tables (FontcModel/Paths.lean) send distinct ids to distinct paths.
  The ids without a parameter form a finite table that is evaluated; an id with a parameter is told
  from those by its directory ('/') or by the plain beginning of its name (`kern_`, `kern_fragment_`).
-/
import FontcProofs.PathsKern
import FontcProofs.ListFacts

namespace Fontc.Paths

/-- the only tags in an FE id are the axis tags of a kerning instance: they are printable (`Loc.printable`) -/
def FeId.printable : FeId → Prop
  | .kernInstance l => l.printable
  | _ => True

/-- the ids without a parameter, each of which has one fixed file name -/
def feFixedAll : List FeId := [.staticMetadata, .globalMetrics, .preliminaryGlyphOrder, .glyphOrder, .preliminaryGdefCategories, .gdefCategories, .features, .kerningLocations, .colorPalettes, .paintGraph]

/-- the ids with a parameter: a glyph or anchor name, or the location of a kerning instance -/
def FeId.IsParam (a : FeId) : Prop :=
  (∃ n, a = .glyph n) ∨ (∃ n, a = .anchor n) ∨ ∃ l, a = .kernInstance l

theorem fe_cases (a : FeId) : a ∈ feFixedAll ∨ a.IsParam := by
  cases a
  case glyph n => exact .inr (.inl ⟨n, rfl⟩)
  case anchor n => exact .inr (.inr (.inl ⟨n, rfl⟩))
  case kernInstance l => exact .inr (.inr (.inr ⟨l, rfl⟩))
  all_goals exact .inl (by decide)

/-- All that is used of the table of ids without a parameter, in one evaluation of the table written out, its
    literals read through `lit_ofList`. -/
theorem feFixed_table (pr : Rat → List Nat) :
    (feFixedAll.map (feTarget pr)).Nodup ∧
    ∀ p ∈ feFixedAll.map (feTarget pr),
      0x2F ∉ p ∧ lit ".yml" <:+ p ∧ (lit "kern_" <+: p → p = lit "kern_locations.yml") := by
  -- these ids do not consult the printer: unfolding the table leaves a closed statement
  dsimp only [feFixedAll, List.map, feTarget]
  simp -index only [lit_ofList]
  decide +kernel

theorem slash_mem_dirs : 0x2F ∈ lit "glyph_ir/" ∧ 0x2F ∈ lit "anchor_ir/" ∧ 0x2F ∈ lit "glyphs/" := by
  simp -index only [lit_ofList]
  decide

theorem fe_param_ne_fixed {pr : Rat → List Nat} {a b : FeId} (ha : a.IsParam) (pa : a.printable)
    (hb : b ∈ feFixedAll) : feTarget pr a ≠ feTarget pr b := by
  intro h
  obtain ⟨hs, _, hk⟩ := (feFixed_table pr).2 _ (List.mem_map_of_mem hb)
  rw [← h] at hs hk
  rcases ha with ⟨n, rfl⟩ | ⟨n, rfl⟩ | ⟨l, rfl⟩
  · exact hs (List.mem_append_left _ slash_mem_dirs.1)
  · exact hs (List.mem_append_left _ slash_mem_dirs.2.1)
  · exact kernFileName_ne_locations pa (hk kernFileName_prefix)

theorem fe_target_inj {pr : Rat → List Nat} (hi : PrintInjective pr) (hu : PrintNoUnderscore pr)
    {a b : FeId} (pa : a.printable) (pb : b.printable)
    (h : feTarget pr a = feTarget pr b) : a = b := by
  rcases fe_cases a with ha | ha <;> rcases fe_cases b with hb | hb
  · exact eq_of_nodup_map (feFixed_table pr).1 ha hb h
  · exact absurd h.symm (fe_param_ne_fixed hb pb ha)
  · exact absurd h (fe_param_ne_fixed ha pa hb)
  · have dirs : ∀ x y, lit "glyph_ir/" ++ x ≠ lit "anchor_ir/" ++ y := fun x y e => by
      simp -index only [lit_ofList] at e
      simp at e
    have slash : ∀ d n l, 0x2F ∈ d → d ++ stringToFilename n (lit ".yml") ≠ kernFileName pr l :=
      fun d n l hd e => kernFileName_no_slash pr l (e ▸ List.mem_append_left _ hd)
    -- a is a glyph (three cases for b: glyph, anchor, kerning instance), then an anchor, then a kerning instance
    rcases ha with ⟨n1, rfl⟩ | ⟨n1, rfl⟩ | ⟨l1, rfl⟩ <;> rcases hb with ⟨n2, rfl⟩ | ⟨n2, rfl⟩ | ⟨l2, rfl⟩
    · rw [stf_inj (List.append_cancel_left h)]
    · exact absurd h (dirs _ _)
    · exact absurd h (slash _ n1 l2 slash_mem_dirs.1)
    · exact absurd h.symm (dirs _ _)
    · rw [stf_inj (List.append_cancel_left h)]
    · exact absurd h (slash _ n1 l2 slash_mem_dirs.2.1)
    · exact absurd h.symm (slash _ n2 l1 slash_mem_dirs.1)
    · exact absurd h.symm (slash _ n2 l1 slash_mem_dirs.2.1)
    · rw [kernName_inj hi hu pa pb (stf_inj h)]

theorem fe_ends_yml (pr : Rat → List Nat) (a : FeId) : lit ".yml" <:+ feTarget pr a := by
  rcases fe_cases a with ha | ⟨n, rfl⟩ | ⟨n, rfl⟩ | ⟨l, rfl⟩
  · exact ((feFixed_table pr).2 _ (List.mem_map_of_mem ha)).2.1
  · exact List.suffix_append_of_suffix (stf_suffix n _)
  · exact List.suffix_append_of_suffix (stf_suffix n _)
  · exact stf_suffix _ _

/-- the BE ids without a parameter, as `feFixedAll` -/
def beFixedAll : List BeId := [.features, .featuresAst, .avar, .cmap, .colr, .cpal, .font, .fvar, .gasp, .glyf, .gpos, .gsub, .gdef, .gvar, .head, .hhea, .hmtx, .hvar, .metaTable, .vhea, .vmtx, .vvar, .gatherIrKerning, .gatherBeKerning, .loca, .locaFormat, .marks, .maxp, .mvar, .name, .os2, .post, .stat, .extraFeaTables]

/-- the ids with a parameter: the glyph name of a glyf or gvar fragment, or the number of a kerning fragment -/
def BeId.IsParam (a : BeId) : Prop :=
  (∃ n, a = .glyfFragment n) ∨ (∃ n, a = .gvarFragment n) ∨ ∃ k, a = .kernFragment k

theorem be_cases (a : BeId) : a ∈ beFixedAll ∨ a.IsParam := by
  cases a
  case glyfFragment n => exact .inr (.inl ⟨n, rfl⟩)
  case gvarFragment n => exact .inr (.inr (.inl ⟨n, rfl⟩))
  case kernFragment k => exact .inr (.inr (.inr ⟨k, rfl⟩))
  all_goals exact .inl (by decide)

/-- what is used of the table of ids without a parameter, evaluated once like `feFixed_table` -/
theorem beFixed_table :
    (beFixedAll.map beTarget).Nodup ∧
    ∀ p ∈ beFixedAll.map beTarget, 0x2F ∉ p ∧ ¬ lit ".yml" <:+ p ∧ ¬ lit "kern_fragment_" <+: p := by
  dsimp only [beFixedAll, List.map, beTarget]
  simp -index only [lit_ofList]
  decide +kernel

theorem be_param_ne_fixed {a b : BeId} (ha : a.IsParam) (hb : b ∈ beFixedAll) :
    beTarget a ≠ beTarget b := by
  intro h
  obtain ⟨hs, _, hk⟩ := beFixed_table.2 _ (List.mem_map_of_mem hb)
  rw [← h] at hs hk
  rcases ha with ⟨n, rfl⟩ | ⟨n, rfl⟩ | ⟨k, rfl⟩
  · exact hs (List.mem_append_left _ slash_mem_dirs.2.2)
  · exact hs (List.mem_append_left _ slash_mem_dirs.2.2)
  · refine hk (stf_plain_prefix ?_)
    simp -index only [lit_ofList]
    decide

theorem be_target_inj (a b : BeId) (h : beTarget a = beTarget b) : a = b := by
  rcases be_cases a with ha | ha <;> rcases be_cases b with hb | hb
  · exact eq_of_nodup_map beFixed_table.1 ha hb h
  · exact absurd h.symm (be_param_ne_fixed hb ha)
  · exact absurd h (be_param_ne_fixed ha hb)
  · have slash : ∀ n e k, lit "glyphs/" ++ stringToFilename n e ≠ beTarget (.kernFragment k) :=
      fun n e k e' => stf_no_slash (by decide) (e' ▸ List.mem_append_left _ slash_mem_dirs.2.2)
    have ext : (lit ".glyf").length = (lit ".gvar").length ∧ lit ".glyf" ≠ lit ".gvar" := by
      simp -index only [lit_ofList]
      decide
    -- a is a glyf fragment (three cases for b: glyf, gvar, kerning fragment), then gvar, then kerning
    rcases ha with ⟨n1, rfl⟩ | ⟨n1, rfl⟩ | ⟨k1, rfl⟩ <;> rcases hb with ⟨n2, rfl⟩ | ⟨n2, rfl⟩ | ⟨k2, rfl⟩
    · rw [stf_inj (List.append_cancel_left h)]
    · exact absurd (stf_inj_suffix ext.1 (List.append_cancel_left h)).2 ext.2
    · exact absurd h (slash n1 _ k2)
    · exact absurd (stf_inj_suffix ext.1.symm (List.append_cancel_left h)).2 ext.2.symm
    · rw [stf_inj (List.append_cancel_left h)]
    · exact absurd h (slash n1 _ k2)
    · exact absurd h.symm (slash n2 _ k1)
    · exact absurd h.symm (slash n2 _ k1)
    · rw [decDigits_inj (List.append_cancel_left (stf_inj h))]

/-! ### FE and BE files share the build directory: the former end in ".yml", the latter never -/

theorem be_not_ends_yml (b : BeId) : ¬ lit ".yml" <:+ beTarget b := by
  -- a file with another extension of at least that length
  have other : ∀ p e : List Nat, e <:+ p → (lit ".yml").length ≤ e.length → ¬ lit ".yml" <:+ e →
      ¬ lit ".yml" <:+ p :=
    fun p e he hl hne h => hne (List.suffix_of_suffix_length_le h he hl)
  rcases be_cases b with hb | ⟨n, rfl⟩ | ⟨n, rfl⟩ | ⟨k, rfl⟩
  · exact (beFixed_table.2 _ (List.mem_map_of_mem hb)).2.1
  · exact other _ _ (List.suffix_append_of_suffix (stf_suffix n (lit ".glyf"))) (by decide) (by decide)
  · exact other _ _ (List.suffix_append_of_suffix (stf_suffix n (lit ".gvar"))) (by decide) (by decide)
  · exact other _ _ (stf_suffix _ (lit ".bin")) (by decide) (by decide)

theorem fe_be_disjoint {pr : Rat → List Nat} {a : FeId} {b : BeId} : feTarget pr a ≠ beTarget b :=
  fun h => be_not_ends_yml b (h ▸ fe_ends_yml pr a)

end Fontc.Paths
