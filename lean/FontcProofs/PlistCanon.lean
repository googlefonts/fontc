/-
  C20 — what the reader makes of dictionaries.  A dictionary is a finite map: `lookupKV` (= `List.lookup`) is
  its meaning, a key-sorted list the canonical form of a meaning (`sorted_ext`; `keyLt` is core's lexicographic
  order), and `canonE` a fold of `insertKV`, so that a key finds the value read from its last written entry
  (`lookup_canonE`).  `canon` of an already canonical value and the independence of the written key order
  follow from these.
-/
import FontcModel.Plist
import FontcProofs.PlistValue
import FontcProofs.ListFacts
namespace Fontc.Plist

theorem keyLt_iff {a b : Key} : keyLt a b = true ↔ a < b := by
  induction a generalizing b with
  | nil => cases b <;> simp [keyLt]
  | cons x a ih =>
    cases b with
    | nil => simp [keyLt]
    | cons y b =>
      rw [keyLt, List.cons_lt_cons_iff, ← ih, ← Char.toNat_inj, Char.lt_def, UInt32.lt_iff_toNat_lt]
      simp only [Bool.or_eq_true, Bool.and_eq_true, decide_eq_true_eq, beq_iff_eq]
      rfl

theorem keyLt_irrefl (a : Key) : keyLt a a = false :=
  Bool.eq_false_iff.2 fun h => List.lt_irrefl a (keyLt_iff.1 h)

theorem keyLt_trans {a b c : Key} (h1 : keyLt a b = true) (h2 : keyLt b c = true) : keyLt a c = true :=
  keyLt_iff.2 (List.lt_trans (keyLt_iff.1 h1) (keyLt_iff.1 h2))

theorem keyLt_connex {a b : Key} (hne : a ≠ b) (h : keyLt a b = false) : keyLt b a = true := by
  rcases List.le_iff_lt_or_eq.1 (List.not_lt.1 fun hlt => Bool.eq_false_iff.1 h (keyLt_iff.2 hlt)) with hlt | e
  · exact keyLt_iff.2 hlt
  · exact absurd e.symm hne

theorem keyLt_asymm {a b : Key} (h : keyLt a b = true) : keyLt b a = false :=
  Bool.eq_false_iff.2 fun hb => List.lt_asymm (keyLt_iff.1 h) (keyLt_iff.1 hb)

theorem keyLt_ne {a b : Key} (h : keyLt a b = true) : a ≠ b := by
  intro hab
  subst hab
  rw [keyLt_irrefl] at h
  cases h

theorem lookupKV_eq (k : Key) (m : List (Key × PVal)) : lookupKV k m = m.lookup k := by
  induction m with
  | nil => rfl
  | cons kv m ih =>
    rw [lookupKV, List.lookup_cons, ih]
    cases k == kv.1 <;> rfl

theorem lookup_insertKV (k : Key) (v : PVal) (m : List (Key × PVal)) (j : Key) :
    lookupKV j (insertKV k v m) = if j == k then some v else lookupKV j m := by
  fun_induction insertKV k v m
  case case1 | case2 => simp [lookupKV]
  case case3 h =>
    cases eq_of_beq h
    simp only [lookupKV]
    split <;> rfl
  case case4 k' _ _ _ h ih =>
    simp only [lookupKV, ih]
    cases hj : j == k
    · rfl
    · cases eq_of_beq hj
      rw [if_neg h]
      rfl

theorem isInsert_insertKV : IsInsert insertKV := fun k v m j => by
  rw [← lookupKV_eq, ← lookupKV_eq, lookup_insertKV]

theorem sorted_iff {m : List (Key × PVal)} :
    sortedKeys m = true ↔ m.Pairwise fun a b => keyLt a.1 b.1 = true := by
  induction m with
  | nil => simp [sortedKeys]
  | cons kv m ih =>
    cases m with
    | nil => simp [sortedKeys]
    | cons kv' m =>
      rw [sortedKeys, Bool.and_eq_true, ih, List.pairwise_cons (a := kv), List.forall_mem_cons]
      exact ⟨fun ⟨h, p⟩ => ⟨⟨h, fun b hb => keyLt_trans h ((List.pairwise_cons.1 p).1 b hb)⟩, p⟩,
        fun ⟨h, p⟩ => ⟨h.1, p⟩⟩

theorem mem_insertKV {k : Key} {v : PVal} {m : List (Key × PVal)} {kv : Key × PVal} (h : kv ∈ insertKV k v m) :
    kv = (k, v) ∨ kv ∈ m := by
  fun_induction insertKV k v m
  case case1 | case2 => simpa using h
  case case3 =>
    simp at h ⊢
    rcases h with h | h <;> simp [h]
  case case4 ih =>
    simp at h ⊢
    rcases h with h | h
    · simp [h]
    · rcases ih h with h | h <;> simp [h]

theorem sorted_insertKV (k : Key) (v : PVal) {m : List (Key × PVal)} (hm : sortedKeys m = true) :
    sortedKeys (insertKV k v m) = true := by
  rw [sorted_iff] at hm ⊢
  fun_induction insertKV k v m
  case case1 => simp
  case case2 h =>
    exact List.pairwise_cons.2
      ⟨List.forall_mem_cons.2 ⟨h, fun kv hkv => keyLt_trans h ((List.pairwise_cons.1 hm).1 kv hkv)⟩, hm⟩
  case case3 h =>
    cases eq_of_beq h
    exact List.pairwise_cons.2 (List.pairwise_cons.1 hm)
  case case4 h1 h2 ih =>
    obtain ⟨hgt, hs⟩ := List.pairwise_cons.1 hm
    refine List.pairwise_cons.2 ⟨fun kv hkv => ?_, ih hs⟩
    rcases mem_insertKV hkv with rfl | hkv
    · exact keyLt_connex (by simpa using h2) (by simpa using h1)
    · exact hgt kv hkv

theorem sorted_nodup {m : List (Key × PVal)} (h : sortedKeys m = true) : (m.map (·.1)).Nodup :=
  List.pairwise_map.2 ((sorted_iff.1 h).imp keyLt_ne)

theorem sorted_ext {m₁ m₂ : List (Key × PVal)} (h₁ : sortedKeys m₁ = true) (h₂ : sortedKeys m₂ = true)
    (h : ∀ k, lookupKV k m₁ = lookupKV k m₂) : m₁ = m₂ := by
  have n₁ := sorted_nodup h₁
  have n₂ := sorted_nodup h₂
  -- with distinct keys the members are what the lookups find
  refine eq_of_pairwise_of_mem_iff (fun hab hba => ?_) (sorted_iff.1 h₁) (sorted_iff.1 h₂) fun kv => ?_
  · rw [keyLt_asymm hab] at hba; cases hba
  · rw [← lookup_eq_some_iff_of_nodup n₁, ← lookup_eq_some_iff_of_nodup n₂, ← lookupKV_eq, ← lookupKV_eq, h]

theorem sorted_canonE (kvs : List (Key × PVal)) {m : List (Key × PVal)} (hm : sortedKeys m = true) : sortedKeys (canonE kvs m) = true := by
  induction kvs generalizing m with
  | nil => simpa [canonE] using hm
  | cons kv kvs ih =>
    obtain ⟨k, v⟩ := kv
    simp only [canonE]
    exact ih (sorted_insertKV k _ hm)

theorem canonL_eq_map (xs : List PVal) : canonL xs = xs.map canon := by
  induction xs with
  | nil => rfl
  | cons x xs ih => rw [canonL, ih]; rfl

theorem canonE_eq_foldl (kvs m : List (Key × PVal)) :
    canonE kvs m = (kvs.map fun kv => (kv.1, canon kv.2)).foldl (fun m p => insertKV p.1 p.2 m) m := by
  induction kvs generalizing m with
  | nil => rfl
  | cons kv kvs ih => rw [canonE, ih]; rfl

theorem lookup_canonE (kvs m : List (Key × PVal)) (j : Key) :
    lookupKV j (canonE kvs m) = ((kvs.map fun kv => (kv.1, canon kv.2)).reverse.lookup j).or (lookupKV j m) := by
  rw [canonE_eq_foldl, lookupKV_eq, isInsert_insertKV.lookup_foldl, lookupKV_eq j m]

theorem lookup_canonE_last (pre post : List (Key × PVal)) (k : Key) (v : PVal) (m : List (Key × PVal))
    (hlast : ∀ kv ∈ post, kv.1 ≠ k) :
    lookupKV k (canonE (pre ++ (k, v) :: post) m) = some (canon v) := by
  rw [lookup_canonE, List.map_append, List.map_cons, List.reverse_append, List.reverse_cons, List.lookup_append,
    List.lookup_append, lookup_eq_none_of_not_mem (by simpa using fun x h => hlast (k, x) h rfl)]
  simp

theorem canonE_perm {l₁ l₂ : List (Key × PVal)} (hp : l₁.Perm l₂) (hnd : (l₁.map Prod.fst).Nodup)
    (m : List (Key × PVal)) (hm : sortedKeys m = true) : canonE l₁ m = canonE l₂ m := by
  have hf : Functional (l₁.map fun kv => (kv.1, canon kv.2)) :=
    functional_of_nodup (by simpa [Function.comp_def] using hnd)
  refine sorted_ext (sorted_canonE _ hm) (sorted_canonE _ hm) fun k => ?_
  rw [lookup_canonE, lookup_canonE, lookup_congr hf (fun _ => List.mem_reverse) k,
    lookup_congr hf (fun _ => List.mem_reverse.trans (hp.map _).symm.mem_iff) k]

mutual
/-- keys are pairwise distinct in every dictionary at every depth -/
def distinctKeys : PVal → Bool
  | .dict kvs => (kvs.map Prod.fst).Nodup && distinctKeysE kvs
  | .arr xs => distinctKeysL xs
  | _ => true
def distinctKeysL : List PVal → Bool
  | [] => true
  | x :: xs => distinctKeys x && distinctKeysL xs
def distinctKeysE : List (Key × PVal) → Bool
  | [] => true
  | (_, v) :: kvs => distinctKeys v && distinctKeysE kvs
end

theorem distinctKeysE_iff (kvs : List (Key × PVal)) : distinctKeysE kvs = true ↔ ∀ kv ∈ kvs, distinctKeys kv.2 = true := by
  induction kvs with
  | nil => simp [distinctKeysE]
  | cons kv kvs ih => obtain ⟨k, v⟩ := kv; simp [distinctKeysE, ih]

theorem distinctKeysL_iff (xs : List PVal) : distinctKeysL xs = true ↔ ∀ x ∈ xs, distinctKeys x = true := by
  induction xs with
  | nil => simp [distinctKeysL]
  | cons x xs ih => simp [distinctKeysL, ih]

/-- `KeyPerm v w`: `w` is `v` with the entries of dictionaries, at any depth, reordered -/
inductive KeyPerm : PVal → PVal → Prop
  | refl (v) : KeyPerm v v
  | trans {a b c} : KeyPerm a b → KeyPerm b c → KeyPerm a c
  | reorder {kvs kws} : kvs.Perm kws → KeyPerm (.dict kvs) (.dict kws)
  | inEntry {pre post k x y} : KeyPerm x y → KeyPerm (.dict (pre ++ (k, x) :: post)) (.dict (pre ++ (k, y) :: post))
  | inItem {pre post x y} : KeyPerm x y → KeyPerm (.arr (pre ++ x :: post)) (.arr (pre ++ y :: post))

theorem canon_keyPerm {v w : PVal} (h : KeyPerm v w) (hd : distinctKeys v = true) :
    canon v = canon w ∧ distinctKeys w = true := by
  induction h with
  | refl v => exact ⟨rfl, hd⟩
  | trans _ _ ih₁ ih₂ =>
    obtain ⟨e₁, d₁⟩ := ih₁ hd
    obtain ⟨e₂, d₂⟩ := ih₂ d₁
    exact ⟨e₁.trans e₂, d₂⟩
  | @reorder kvs kws hp =>
    simp only [distinctKeys, Bool.and_eq_true, decide_eq_true_eq] at hd ⊢
    refine ⟨?_, (hp.map Prod.fst).nodup_iff.1 hd.1, ?_⟩
    · simp only [canon]; rw [canonE_perm hp hd.1 [] rfl]
    · rw [distinctKeysE_iff] at hd ⊢
      exact fun kv hkv => hd.2 kv (hp.mem_iff.2 hkv)
  | @inEntry pre post k x y _ ih =>
    simp only [distinctKeys, Bool.and_eq_true, decide_eq_true_eq, distinctKeysE_iff, List.forall_mem_append,
      List.forall_mem_cons, List.map_append, List.map_cons] at hd ⊢
    obtain ⟨hk, hpre, hx, hpost⟩ := hd
    obtain ⟨e, d⟩ := ih hx
    exact ⟨by simp only [canon, canonE_eq_foldl, List.map_append, List.map_cons, e], hk, hpre, d, hpost⟩
  | @inItem pre post x y _ ih =>
    simp only [distinctKeys, distinctKeysL_iff, List.forall_mem_append, List.forall_mem_cons] at hd ⊢
    obtain ⟨hpre, hx, hpost⟩ := hd
    obtain ⟨e, d⟩ := ih hx
    exact ⟨by simp only [canon, canonL_eq_map, List.map_append, List.map_cons, e], hpre, d, hpost⟩

theorem canon_of_canonical (v : PVal) : canonical v = true → canon v = v := by
  induction v using PVal.induct with
  | hstr s => intro _; rfl
  | hint i => intro _; rfl
  | hflt t => intro _; rfl
  | hdata b => intro _; rfl
  | harr xs ih =>
    intro h
    simp only [canonical] at h
    rw [canonicalL_iff] at h
    rw [canon, canonL_eq_map, map_eq_self fun x hx => ih x hx (h x hx)]
  | hdict kvs ih =>
    intro h
    simp only [canonical, Bool.and_eq_true] at h
    rw [canonicalE_iff] at h
    -- the values read are the values written, and a sorted list is the canonical form of its own lookups
    have hid : (kvs.map fun kv => (kv.1, canon kv.2)) = kvs :=
      map_eq_self fun kv hkv => by rw [ih kv hkv (h.2 kv hkv)]
    rw [canon]
    congr 1
    refine sorted_ext (sorted_canonE _ rfl) h.1 fun k => ?_
    rw [lookup_canonE, hid, lookup_congr (functional_of_nodup (sorted_nodup h.1)) (fun _ => List.mem_reverse) k,
      lookupKV_eq k kvs]
    exact Option.or_none

end Fontc.Plist
