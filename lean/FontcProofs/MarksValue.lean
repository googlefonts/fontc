/-
  C10, anchor values: what `resolve_variable_metric` emits for an anchor coordinate, evaluated as OpenType
  evaluates it (default + Σ scalar·delta), equals the variation model's `interpolate` of the rounded deltas —
  so what C07 proves of `Model.new` (`Model.new_reproduces_at`, `Model.new_default_at`) holds of the emitted anchor.
-/
import FontcModel.Marks
import FontcProofs.Rounding
import FontcProofs.VarModelAlg
import FontcProofs.VarModelSort
import FontcProofs.VarModelTri

namespace Fontc.Marks
open Fontc Fontc.VarModel

theorem tentFactor_of_inactive {t : Tent} (h : t.hasNonZero = false) (v : Rat) : tentFactor t v = 1 := by
  have h3 : t.min = 0 ∧ t.peak = 0 ∧ t.max = 0 := by
    simp only [Tent.hasNonZero, Bool.not_eq_false', Bool.and_eq_true, beq_iff_eq] at h
    exact ⟨h.1.1, h.1.2, h.2⟩
  -- the first two tests of `tentFactor` return 1, and the third one holds
  unfold tentFactor
  by_cases h1 : (!t.validate) = true
  · rw [if_pos h1]
  · by_cases h2 : v = t.peak
    · rw [if_neg h1, if_pos h2]
    · rw [if_neg h1, if_neg h2, if_pos h3]

theorem scalarAt_of_default {r : Region} (h : isDefaultRegion r = true) (loc : Loc) : scalarAt r loc = 1 := by
  induction r generalizing loc with
  | nil => cases loc <;> simp [scalarAt]
  | cons t ts ih =>
    simp only [isDefaultRegion, List.all_cons, Bool.and_eq_true, Bool.not_eq_true'] at h
    have hts : isDefaultRegion ts = true := by simpa [isDefaultRegion] using h.2
    cases loc with
    | nil => simp [scalarAt, tentFactor_of_inactive h.1, ih hts, Rat.mul_one]
    | cons v vs => simp [scalarAt, tentFactor_of_inactive h.1, ih hts, Rat.mul_one]

/-- the `raw` of `metricOf`: the regions with their deltas, where a delta is defined -/
def rawOf (infl : List Region) (ds : List (Option Rat)) : List (Region × Rat) :=
  (infl.zip ds).filterMap fun (r, d) => d.map fun d => (r, d)

theorem metricOf_eq (infl : List Region) (ds : List (Option Rat)) (dflt : Loc) :
    metricOf infl ds dflt =
      { default := otRound (ratSum ((rawOf infl ds).filterMap fun (r, d) =>
          let s := scalarAt r dflt
          if s ≠ 0 then some (d * s) else none)),
        deltas := ((rawOf infl ds).filter fun (r, _) => !isDefaultRegion r).map fun (r, d) => (r, otRound d) } := rfl

theorem rawOf_cons_some (r : Region) (I : List Region) (d : Rat) (ds : List (Option Rat)) :
    rawOf (r :: I) (some d :: ds) = (r, d) :: rawOf I ds := by
  simp [rawOf]

theorem mem_rawOf {I : List Region} {ds : List (Option Rat)} {r : Region} {d : Rat} (h : (r, d) ∈ rawOf I ds) :
    r ∈ I := by
  obtain ⟨⟨r', d'⟩, hz, hd⟩ := List.mem_filterMap.mp h
  cases d' with
  | none => cases hd
  | some d' => cases hd; exact (List.of_mem_zip hz).1

theorem ratSum_cons (x : Rat) (xs : List Rat) : ratSum (x :: xs) = x + ratSum xs := by
  unfold ratSum
  simp only [List.foldl_cons]
  rw [foldl_add_eq]; grind

theorem ratSum_nil : ratSum [] = 0 := rfl

theorem default_part_nil {I : List Region} {ds : List (Option Rat)} {dflt : Loc}
    (hI : ∀ r ∈ I, scalarAt r dflt = 0) :
    ((rawOf I ds).filterMap fun (r, d) =>
      let s := scalarAt r dflt
      if s ≠ 0 then some (d * s) else none) = [] := by
  rw [List.filterMap_eq_nil_iff]
  rintro ⟨r, d⟩ hp
  exact if_neg fun h => h (hI r (mem_rawOf hp))

theorem delta_part_all {I : List Region} {ds : List (Option Rat)} {dflt : Loc}
    (hI : ∀ r ∈ I, scalarAt r dflt = 0) :
    ((rawOf I ds).filter fun (r, _) => !isDefaultRegion r) = rawOf I ds := by
  rw [List.filter_eq_self]
  rintro ⟨r, d⟩ hp
  cases hdef : isDefaultRegion r with
  | false => simp [hdef]
  | true =>
    have h1 := scalarAt_of_default hdef dflt
    rw [hI r (mem_rawOf hp)] at h1
    exact absurd h1 (by decide)

theorem metricOf_cons {r0 : Region} {I : List Region} {d0 : Rat} {ds : List (Option Rat)} {dflt : Loc}
    (h0 : isDefaultRegion r0 = true) (hI : ∀ r ∈ I, scalarAt r dflt = 0) :
    metricOf (r0 :: I) (some d0 :: ds) dflt =
      { default := otRound d0, deltas := (rawOf I ds).map fun (r, d) => (r, otRound d) } := by
  have h1 : (1 : Rat) ≠ 0 := by decide
  -- of the regions that count at the default location only `r0` is left, of the non-default regions all of `I`
  rw [metricOf_eq, rawOf_cons_some, List.filterMap_cons, List.filter_cons, default_part_nil hI,
    delta_part_all hI]
  simp only [scalarAt_of_default h0 dflt, h0, if_pos h1, Bool.not_true, Bool.false_eq_true, if_false, Rat.mul_one,
    ratSum_cons, ratSum_nil, Rat.add_zero]

theorem delta_sum_eq_dot {I : List Region} {ds : List (Option Rat)} {loc : Loc}
    (hint : ∀ d ∈ ds, ∃ k : Int, d = some (k : Rat)) :
    ratSum (((rawOf I ds).map fun (r, d) => (r, otRound d)).map fun (r, d) => scalarAt r loc * ((d : Int) : Rat))
      = dot I ds loc := by
  induction I generalizing ds with
  | nil => simp [rawOf, ratSum]
  | cons r I ih =>
    cases ds with
    | nil => simp [rawOf, ratSum]
    | cons d ds =>
      obtain ⟨k, hk⟩ := hint d List.mem_cons_self
      subst hk
      rw [rawOf_cons_some, List.map_cons, List.map_cons, ratSum_cons, dot_cons,
        ih (fun d hd => hint d (List.mem_cons_of_mem _ hd))]
      simp [term, otRound_intCast]

/-- `hint`: the deltas are integers already, so that `metricOf` rounding them changes nothing. -/
theorem metricOf_eval {infl : List Region} {ds : List (Option Rat)} {dflt loc : Loc} {r0 : Region} {I : List Region}
    (hinfl : infl = r0 :: I) (h0 : isDefaultRegion r0 = true)
    (hI : ∀ r ∈ I, scalarAt r dflt = 0)
    (hint : ∀ d ∈ ds, ∃ k : Int, d = some (k : Rat)) :
    (metricOf infl ds dflt).eval loc = dot infl ds loc := by
  subst hinfl
  cases ds with
  | nil =>
    have : otRound 0 = 0 := otRound_intCast 0
    simp [metricOf, Metric.eval, ratSum, dot, this, Rat.add_zero]
  | cons d0 ds =>
    obtain ⟨k0, rfl⟩ := hint d0 List.mem_cons_self
    rw [metricOf_cons h0 hI]
    simp only [Metric.eval]
    rw [delta_sum_eq_dot fun d hd => hint d (List.mem_cons_of_mem _ hd), dot_cons, term,
      scalarAt_of_default h0 loc, otRound_intCast, Rat.one_mul]

theorem deltas_integral {infl : List Region} {locs : List Loc} {vals : Values}
    (hlen : vals.length = locs.length) (hsome : ∀ v ∈ vals, v.isSome) :
    ∀ d ∈ deltasAux Rounding.tiesEven.apply infl (locs.zip vals) [], ∃ k : Int, d = some (k : Rat) := by
  intro d hd
  obtain ⟨j, hj, rfl⟩ := List.getElem_of_mem hd
  have hjl : j < locs.length := by rw [deltas_length hlen] at hj; exact hj
  have hjv : j < vals.length := by omega
  have hs := hsome vals[j] (List.getElem_mem hjv)
  obtain ⟨v, hv⟩ := Option.isSome_iff_exists.mp hs
  have := deltas_getElem?_some Rounding.tiesEven.apply infl vals v
    (List.getElem?_eq_getElem hjl) (by rw [List.getElem?_eq_getElem hjv, hv])
  rw [List.getElem?_eq_getElem hj] at this
  have e := Option.some.inj this
  exact ⟨roundTiesEven _, by rw [e]; rfl⟩

theorem regionFor_zero_default (locs : List Loc) (n : Nat) :
    isDefaultRegion (regionFor locs (List.replicate n 0)) = true := by
  simp only [isDefaultRegion, regionFor, List.all_map, List.all_eq_true]
  intro p hp
  have hv : p.1 = 0 := (List.mem_replicate.mp (List.fst_mem_of_mem_zipIdx hp)).2
  obtain ⟨v, i⟩ := p
  simp only at hv
  subst hv
  simp [Tent.new, Tent.hasNonZero]

theorem influence_default_first {n : Nat} {locs : List Loc}
    (hlen : ∀ l ∈ locs, l.length = n) (hnd : locs.Pairwise (· ≠ ·)) (hz : List.replicate n 0 ∈ locs) :
    ∃ r0 I, (Model.new n locs).influence = r0 :: I ∧ isDefaultRegion r0 = true ∧
      ∀ r ∈ I, scalarAt r (List.replicate n 0) = 0 := by
  have htri := Model.triangular n locs
  have hloc0 := Model.new_locations_zero hlen hnd hz
  -- the first region is the one built for the first location, untouched: nothing precedes it
  have hhead : (Model.new n locs).influence[0]? = some (regionFor (sortLocs locs) (List.replicate n 0)) := by
    rw [Model.new_locations n locs hlen hnd] at hloc0
    rw [Model.new_influence n locs hlen hnd]
    exact Geom.masterInfluence_at hloc0
  obtain ⟨I, hI⟩ := List.head?_eq_some_iff.mp (List.head?_eq_getElem?.trans hhead)
  refine ⟨_, I, hI, regionFor_zero_default _ n, ?_⟩
  intro r hr
  obtain ⟨j, hj⟩ := List.getElem?_of_mem hr
  exact htri.2.2 0 (j + 1) r (List.replicate n 0) (by omega) (by rw [hI]; exact hj) hloc0

theorem masterValues_length (M : Model) (vals : List (Loc × Rat)) :
    (masterValues M vals).length = M.locations.length := by simp [masterValues]

theorem masterValues_getElem? {M : Model} {vals : List (Loc × Rat)}
    (hnd : (vals.map (fun p : Loc × Rat => p.1)).Pairwise (· ≠ ·)) {m : Nat} {loc : Loc} {v : Rat}
    (hl : M.locations[m]? = some loc) (hv : (loc, v) ∈ vals) :
    (masterValues M vals)[m]? = some (some ((otRound v : Int) : Rat)) := by
  rw [masterValues, List.getElem?_map, hl, Option.map_some, find?_key_of_mem hnd hv (by simp)]
  rfl

theorem resolveMetric_eval (n : Nat) (vals : List (Loc × Rat))
    (hlen : ∀ p ∈ vals, p.1.length = n) (hnd : (vals.map (fun p : Loc × Rat => p.1)).Pairwise (· ≠ ·))
    (hz : List.replicate n 0 ∈ vals.map (fun p : Loc × Rat => p.1)) (loc : Loc) :
    (resolveMetric n vals).eval loc
      = interpolate (Model.new n (vals.map (fun p : Loc × Rat => p.1))).influence
          ((Model.new n (vals.map (fun p : Loc × Rat => p.1))).deltas Rounding.tiesEven.apply
            (masterValues (Model.new n (vals.map (fun p : Loc × Rat => p.1))) vals)) loc := by
  have hlen' : ∀ l ∈ vals.map (fun p : Loc × Rat => p.1), l.length = n := List.forall_mem_map.mpr hlen
  obtain ⟨r0, I, hI, h0, hrest⟩ := influence_default_first hlen' hnd hz
  rw [interpolate_eq_dot]
  refine metricOf_eval hI h0 hrest (deltas_integral (masterValues_length _ _) fun v hv => ?_)
  -- every model location has a value
  obtain ⟨l, hl, rfl⟩ := List.mem_map.mp hv
  obtain ⟨p, hp, rfl⟩ := List.mem_map.mp ((mem_sortLocs _ l).mp (Model.new_locations n _ hlen' hnd ▸ hl))
  rw [Option.isSome_map, List.find?_isSome]
  exact ⟨p, hp, beq_self_eq_true _⟩

/-- `f` picks one coordinate of an anchor from a position. -/
theorem resolveCoord_at {n : Nat} {p : Positions} (hlen : ∀ q ∈ p, q.1.length = n)
    (hnd : (p.map (·.1)).Pairwise (· ≠ ·)) (hz : List.replicate n 0 ∈ p.map (·.1))
    (f : Rat × Rat → Rat) {loc : Loc} {q : Rat × Rat} (hq : (loc, q) ∈ p) :
    ratAbs ((resolveMetric n (p.map fun r => (r.1, f r.2))).eval loc - ((otRound (f q) : Int) : Rat)) ≤ 1/2 ∧
    (loc = List.replicate n 0 →
      (resolveMetric n (p.map fun r => (r.1, f r.2))).eval loc = ((otRound (f q) : Int) : Rat)) := by
  have hk : (p.map fun r => (r.1, f r.2)).map (fun r : Loc × Rat => r.1) = p.map (·.1) := by
    rw [List.map_map]; rfl
  have hlen' : ∀ r ∈ p.map (fun r => (r.1, f r.2)), r.1.length = n := List.forall_mem_map.mpr hlen
  have hlocs : ∀ l ∈ (p.map fun r => (r.1, f r.2)).map (fun r : Loc × Rat => r.1), l.length = n :=
    List.forall_mem_map.mpr hlen'
  have hnd' := hk ▸ hnd
  have hv : (loc, f q) ∈ p.map fun r => (r.1, f r.2) := List.mem_map.mpr ⟨_, hq, rfl⟩
  rw [resolveMetric_eval n _ hlen' hnd' (hk ▸ hz) loc]
  constructor
  · exact Model.new_reproduces_at .tiesEven hlocs hnd' (masterValues_length _ _) (List.mem_map.mpr ⟨_, hv, rfl⟩)
      fun m hm => masterValues_getElem? hnd' hm hv
  · rintro rfl
    exact (Model.new_default_at hlocs hnd' (hk ▸ hz) _ (masterValues_length _ _)
      (masterValues_getElem? hnd' (Model.new_locations_zero hlocs hnd' (hk ▸ hz)) hv)).trans
      (Rounding.apply_intCast .tiesEven _)

end Fontc.Marks
