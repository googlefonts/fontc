/-
  The store with an on-disk copy (FontcModel/Persist.lean) refines the store without one when paths are injective
  (`run_refines`, by the invariant `Inv`), and for any paths when no `get` comes before its `set` (`AllHit`,
  `run_same_of_allHit`); `step_off` is the one step both share.
-/
import FontcModel.Persist

namespace Fontc.Persist

variable {Id V Path Bytes : Type}

/-- the same configuration without `--emit-ir` -/
def Cfg.off (c : Cfg Id V Path Bytes) : Cfg Id V Path Bytes := { c with active := false }

/-- The build directory is the image of memory: the file of an id holds what memory has for it, and every file is
    the file of some id. -/
structure Inv (c : Cfg Id V Path Bytes) (s : Store Id V Path Bytes) : Prop where
  file : ∀ id, s.disk (c.path id) = (s.mem id).map c.enc
  ofId : ∀ p b, s.disk p = some b → ∃ id, p = c.path id

theorem inv_empty {c : Cfg Id V Path Bytes} : Inv c (empty : Store Id V Path Bytes) :=
  ⟨fun _ => rfl, fun _ _ h => nomatch h⟩

theorem Inv.owner {c : Cfg Id V Path Bytes} {s : Store Id V Path Bytes} (hI : Inv c s) {p : Path} {b : Bytes}
    (h : s.disk p = some b) : ∃ id v, p = c.path id ∧ s.mem id = some v := by
  obtain ⟨id, rfl⟩ := hI.ofId p b h
  rw [hI.file id] at h
  cases hm : s.mem id with
  | none => rw [hm] at h; cases h
  | some v => exact ⟨id, v, rfl, hm⟩

variable [DecidableEq Id] [DecidableEq V] [DecidableEq Path]

theorem upd_same {K W : Type} [DecidableEq K] (f : K → Option W) (k : K) (w : W) : upd f k w k = some w := by
  simp [upd]

theorem upd_other {K W : Type} [DecidableEq K] {f : K → Option W} {k x : K} {w : W} (h : x ≠ k) :
    upd f k w x = f x := by
  simp [upd, h]

omit [DecidableEq V] in
theorem inv_write {c : Cfg Id V Path Bytes} (hinj : ∀ a b, c.path a = c.path b → a = b)
    (hact : c.active = true) {s : Store Id V Path Bytes} (hI : Inv c s) {id : Id} {v : V} :
    Inv c (write c s id v) := by
  refine ⟨fun id' => ?_, fun p b h => ?_⟩
  · simp only [write, hact, if_true]
    by_cases e : id' = id
    · rw [e, upd_same, upd_same]
      rfl
    · rw [upd_other e, upd_other fun hh => e (hinj _ _ hh), hI.file]
  · simp only [write, hact, if_true] at h
    by_cases e : p = c.path id
    · exact ⟨id, e⟩
    · rw [upd_other e] at h
      exact hI.ofId p b h

theorem inv_step {c : Cfg Id V Path Bytes} (hinj : ∀ a b, c.path a = c.path b → a = b)
    (hact : c.active = true) {s : Store Id V Path Bytes} (hI : Inv c s) (op : Op Id V) :
    Inv c (step c s op).1 := by
  cases op with
  | set id v =>
    simp only [step]
    split
    · exact hI
    · exact inv_write hinj hact hI
  | setUnconditionally id v => exact inv_write hinj hact hI
  | tryGet id =>
    simp only [step]
    split <;> exact hI
  | get id =>
    simp only [step]
    cases hm : s.mem id with
    | some v => exact hI
    | none =>
      -- nothing in memory, so no file either: the `get` changes nothing
      simp only [hact, if_true, hI.file, hm, Option.map_none]
      exact hI

/-- `hd`: no `get` finds in the directory what memory does not have -/
theorem step_off (c : Cfg Id V Path Bytes) {s s' : Store Id V Path Bytes} (hm : s'.mem = s.mem) (op : Op Id V)
    (hd : ∀ id, op = .get id → s.mem id = none → s.disk (c.path id) = none) :
    (step c s op).2 = (step c.off s' op).2 ∧ (step c.off s' op).1.mem = (step c s op).1.mem := by
  cases op with
  | set id v =>
    simp only [step, hm]
    split
    · exact ⟨rfl, hm⟩
    · exact ⟨rfl, by simp [write, hm]⟩
  | setUnconditionally id v => exact ⟨rfl, by simp [step, write, hm]⟩
  | tryGet id =>
    simp only [step, hm]
    cases s.mem id <;> exact ⟨rfl, hm⟩
  | get id =>
    simp only [step, hm]
    cases hq : s.mem id with
    | some v => exact ⟨rfl, hm⟩
    | none =>
      simp only [Cfg.off]
      cases c.active with
      | false => exact ⟨rfl, hm⟩
      | true =>
        simp only [if_true]
        rw [hd id rfl hq]
        exact ⟨rfl, hm⟩

theorem run_refines {c : Cfg Id V Path Bytes} (hinj : ∀ a b, c.path a = c.path b → a = b)
    (hact : c.active = true) (ops : List (Op Id V)) :
    ∀ {s s' : Store Id V Path Bytes}, Inv c s → s'.mem = s.mem →
      (run c s ops).2 = (run c.off s' ops).2 ∧ (run c.off s' ops).1.mem = (run c s ops).1.mem ∧
      Inv c (run c s ops).1 := by
  induction ops with
  | nil => intro s s' hI hm; exact ⟨rfl, hm, hI⟩
  | cons op rest ih =>
    intro s s' hI hm
    obtain ⟨hr, hm'⟩ := step_off c hm op fun id _ hq => by rw [hI.file, hq]; rfl
    have hI' := inv_step hinj hact hI op
    obtain ⟨h1, h2, h3⟩ := ih hI' hm'
    simp only [run]
    exact ⟨by rw [hr, h1], h2, h3⟩

/-! ### what survives a path collision: answers, as long as nothing is read before it is written -/

/-- every `get` of the list finds its value in memory (what the job graph guarantees, C02) -/
def AllHit (c : Cfg Id V Path Bytes) : Store Id V Path Bytes → List (Op Id V) → Prop
  | _, [] => True
  | s, op :: rest =>
    (match op with
     | .get id => s.mem id ≠ none
     | _ => True) ∧ AllHit c (step c s op).1 rest

theorem run_same_of_allHit {c : Cfg Id V Path Bytes} {ops : List (Op Id V)} :
    ∀ {s s' : Store Id V Path Bytes}, s'.mem = s.mem → AllHit c.off s ops →
      (run c s' ops).2 = (run c.off s ops).2 := by
  induction ops with
  | nil => intro s s' _ _; rfl
  | cons op rest ih =>
    intro s s' hm hh
    obtain ⟨h1, h2⟩ := hh
    obtain ⟨hr, hm'⟩ := step_off c hm.symm op fun id e hq => by
      subst e
      exact absurd (hm ▸ hq) h1
    simp only [run]
    rw [hr, ih hm'.symm h2]

end Fontc.Persist
