/-
  Soundness of the checker's table (FontcModel/SchedCheck.lean).  Each rule is read in a state in which the table holds
  (section `sound`); a fact the rules justify is then true at the moment its job is launched (`justified_sound`), because
  `can_run` held there (SchedSafety) and the state holds only what the script declares (`Scr`).  `checkTable_sound` is the
  induction along the trace: a launch uses the table only at the launches before it, which is why the table may support
  its facts circularly.
-/
import FontcProofs.SchedScript
namespace Fontc.Sched

theorem happened_mono {s s' : State} (m : Mono s s') {ev : Ev} (h : happened s ev) : happened s' ev := by
  cases ev with
  | del p => exact m.delivered p h
  | fin k =>
    rcases h with h | h
    · exact Or.inl (m.finished k h)
    · exact Or.inr (m.skipped k h)

/- The rules of the checker (FontcModel/SchedCheck.lean), each read in a state `s` in which the table holds: where the rule's
   comment says "X ⇒ `ev`", the lemma says that if the rule accepts and X is part of the history of `s`, then `ev` has happened. -/
section sound
variable {sc : Script} {t : Table} {s : State}
variable (w : WF s) (hh : Hist s) (hs : Scr sc s) (ht : TableHolds t s)
include hs ht

theorem hasAll_sound {ev : Ev} {o : Id} (h : hasAll (t.contains ·) sc ev o = true) (hl : ∃ a, (o, a) ∈ s.launched) :
    happened s ev := by
  obtain ⟨a, ha⟩ := hl
  have hv := (hs.launched_acc _ ha).version
  simp only [hasAll, List.all_eq_true] at h
  have := h a hv
  simp only [List.contains_iff_mem] at this
  exact ht _ this ha

include hh

theorem afterFin_sound {ev : Ev} {o : Id} (h : afterFin (t.contains ·) sc ev o = true) (hf : o ∈ s.finished) :
    happened s ev := by
  simp only [afterFin, Bool.or_eq_true, decide_eq_true_eq] at h
  rcases h with rfl | h
  · exact Or.inl hf
  · exact hasAll_sound hs ht h (hh.fin_launched o hf)

theorem afterDel_sound {ev : Ev} {o : Id} (h : afterDel (t.contains ·) sc ev o = true) (hd : o ∈ s.delivered) :
    happened s ev := by
  simp only [afterDel, Bool.or_eq_true, decide_eq_true_eq] at h
  rcases h with rfl | h
  · exact hd
  · exact afterFin_sound hh hs ht h (hh.delivered_fin o hd)

theorem afterSkip_sound {ev : Ev} {o : Id} (h : afterSkip (t.contains ·) sc ev o = true) (hk : o ∈ s.skipped) :
    happened s ev := by
  simp only [afterSkip, Bool.or_eq_true, decide_eq_true_eq, List.all_eq_true] at h
  rcases h with rfl | h
  · exact Or.inr hk
  · obtain ⟨q, hq, hqs⟩ := hs.skipped_origin o hk
    exact afterDel_sound hh hs ht (h q hqs) hq

theorem over_sound {ev : Ev} {x : Id} (h : overImplies (t.contains ·) sc ev x = true) (hx : x ∈ s.success) :
    happened s ev := by
  simp only [overImplies, List.all_eq_true, Bool.and_eq_true] at h
  obtain ⟨o, hown, ho⟩ := hs.success_owner hh hx
  rcases ho with ho | ho
  · exact afterDel_sound hh hs ht (h o hown).1 ho
  · exact afterSkip_sound hh hs ht (h o hown).2 ho

include w in
theorem fin_sound {ev : Ev} {y : Id} (h : finImplies (t.contains ·) sc ev y = true) (hy : y ∈ s.inserted)
    (hdone : ∀ e ∈ s.pending, e.id = y → e.owner ∈ s.inflight) : happened s ev := by
  simp only [finImplies, List.all_eq_true, Bool.and_eq_true] at h
  rcases w.inserted_cases y hy with hp | hsucc
  · obtain ⟨e, he, rfl⟩ := isPending_iff.1 hp
    have hin := hdone e he rfl
    exact afterFin_sound hh hs ht (h _ (hs.owner_static e he)).1 (hh.inflight_fin _ hin)
  · obtain ⟨o, hown, ho⟩ := hs.success_owner hh hsucc
    rcases ho with ho | ho
    · exact afterFin_sound hh hs ht (h o hown).1 (hh.delivered_fin o ho)
    · exact afterSkip_sound hh hs ht (h o hown).2 ho

end sound

theorem insertedBefore_sound {sc : Script} {s : State} (r : ReachInit sc s) {e : Entry} (he : e ∈ s.pending)
    (hreal : e.kind ≠ .alsoComplete) {x : Id} (h : insertedBefore sc x e.id e.reads = true) : x ∈ s.inserted := by
  have hs := r.scr
  simp only [insertedBefore, Bool.or_eq_true, Bool.and_eq_true, Bool.not_eq_true', List.all_eq_true,
    List.contains_iff_mem] at h
  rcases h with (h | ⟨hni, hall⟩) | ⟨hni, hall⟩
  · exact r.init_inserted x h
  · obtain ⟨q, hq, hqi⟩ := (hs.entry_acc e he hreal).resolve_left (Bool.eq_false_iff.1 hni)
    exact r.added_inserted q hq x (hall q hqi)
  · obtain ⟨q, hq, hqc⟩ := (hs.entry_job e he hreal).resolve_left (Bool.eq_false_iff.1 hni)
    exact r.added_inserted q hq x (hall q hqc)

/-- a justified fact about `(e.id, e.reads)` is true at the moment `e` is launched -/
theorem justified_sound {sc : Script} {t : Table} {s : State} (r : ReachInit sc s) (w : WF s) (hh : Hist s)
    (ht : TableHolds t s) {e : Entry} (he : e ∈ s.pending) (hreal : e.kind ≠ .alsoComplete) (hc : s.canRun e = true)
    {ev : Ev} (hj : justified (t.contains ·) sc ⟨ev, e.id, e.reads⟩ = true) : happened s ev := by
  have hs := r.scr
  simp only [justified, Bool.or_eq_true, Bool.and_eq_true, Bool.not_eq_true', List.all_eq_true, decide_eq_true_eq] at hj
  rcases hj with ((hu | ⟨hni, hall⟩) | ⟨hni, hall⟩) | hdep
  · simp [State.canRun, hu] at hc
  · obtain ⟨q, hq, hqc⟩ := (hs.entry_job e he hreal).resolve_left (Bool.eq_false_iff.1 hni)
    exact afterDel_sound hh hs ht (hall q hqc) hq
  · obtain ⟨q, hq, hqi⟩ := (hs.entry_acc e he hreal).resolve_left (Bool.eq_false_iff.1 hni)
    exact afterDel_sound hh hs ht (hall q hqi) hq
  · cases hr : e.reads with
    | none => simp [hr] at hdep
    | unknown => simp [hr] at hdep
    | all =>
      simp only [hr, List.any_eq_true, Bool.and_eq_true, decide_eq_true_eq] at hdep
      obtain ⟨x, hx, hne, hov⟩ := hdep
      rcases all_dep_ok w hc hr x (r.init_inserted x hx) with h | h
      · exact absurd h hne
      · exact over_sound hh hs ht hov h
    | set ds =>
      simp only [hr, List.any_eq_true] at hdep
      obtain ⟨d, hd, hjd⟩ := hdep
      cases d with
      | specific x =>
        simp only [depJustifies, Bool.and_eq_true] at hjd
        have hins : x ∈ s.inserted := insertedBefore_sound r he hreal (by rw [hr]; exact hjd.1)
        rcases specific_dep_ok w hc hr hd with h | h
        · exact over_sound hh hs ht hjd.2 h
        · exact absurd hins h
      | variant dd =>
        simp only [depJustifies, List.any_eq_true, Bool.and_eq_true, decide_eq_true_eq] at hjd
        obtain ⟨y, _, ⟨hyd, hyb⟩, hyf⟩ := hjd
        have hins : y ∈ s.inserted := insertedBefore_sound r he hreal (by rw [hr]; exact hyb)
        have hdone := variant_dep_ok w hc hr hd
        exact fin_sound w hh hs ht hyf hins (fun e' he' hid => hdone e' he' (by rw [hid]; exact hyd))

theorem checkTable_sound {sc : Script} {t : Table} (hc : checkTable sc t = true) {s : State} (r : ReachInit sc s)
    (hn : s.inserted.Nodup) : TableHolds t s := by
  induction r with
  | init h =>
    intro f _ hl
    rw [(insertAll_inserts h).launched] at hl
    simp [State.empty] at hl
  | finish id r h ih =>
    have m := mono_finish h
    intro f hf hl
    obtain ⟨e, cs, rfl, _⟩ := finish_spec h
    exact happened_mono m (ih (m.nodup hn) f hf hl)
  | deliver id r h ih =>
    have m := mono_deliver h
    intro f hf hl
    rw [(deliver_history h).2.2] at hl
    exact happened_mono m (ih (m.nodup hn) f hf hl)
  | launch id r h ih =>
    have m := mono_launch h
    have hn0 := m.nodup hn
    have ih0 := ih hn0
    obtain ⟨e, he, hid, hkind, hrun, hcan, hl⟩ := launch_canRun h
    intro f hf hlf
    rw [hl] at hlf
    simp only [List.mem_cons] at hlf
    rcases hlf with heq | hlf
    · -- the launch just made: the table justifies `f` from facts about launches made before, and those hold (`ih0`);
      -- this is why the table may support its facts circularly
      have hjust : justified (t.contains ·) sc f = true := by
        simp only [checkTable, List.all_eq_true] at hc
        exact hc f hf
      have hf' : f = ⟨f.ev, e.id, e.reads⟩ := by
        cases f
        simp only [Prod.mk.injEq] at heq
        simp [heq.1, heq.2, hid]
      rw [hf'] at hjust
      exact happened_mono m (justified_sound r (r.inv hn0).wf (r.inv hn0).hist ih0 he hkind hcan hjust)
    · exact happened_mono m (ih0 f hf hlf)

end Fontc.Sched
