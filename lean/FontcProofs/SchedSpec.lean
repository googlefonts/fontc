/-
  The vocabulary of the C02 statements (FontcProps/C02.lean) that is not part of the model itself: which states are
  reachable, what the counters count, when an event of a `Fact` has happened, and what a blocked job waits for.
  Definitions only; the lemmas about them are in the other `Sched*.lean` files.
-/
import FontcModel.Sched
import FontcModel.SchedCheck

namespace Fontc.Sched

/-- states the scheduler can be in: any sequence of admitted events from the empty workload -/
inductive Reach (sc : Script) : State → Prop where
  | empty : Reach sc State.empty
  | step {s s' : State} (e : Event) : Reach sc s → step sc s e = some s' → Reach sc s'

/-- states reachable from the workload that `Workload::new` builds by launch / finish / deliver events -/
inductive ReachInit (sc : Script) : State → Prop where
  | init {s : State} : initState sc = some s → ReachInit sc s
  | launch {s s' : State} (id : Id) : ReachInit sc s → s.launch id = some s' → ReachInit sc s'
  | finish {s s' : State} (id : Id) : ReachInit sc s → s.finish id = some s' → ReachInit sc s'
  | deliver {s s' : State} (id : Id) : ReachInit sc s → s.deliver sc id = some s' → ReachInit sc s'

/-- jobs (non-placeholder entries) whose worker has not finished -/
def State.active (s : State) : List Entry :=
  s.pending.filter fun p => p.kind ≠ .alsoComplete ∧ p.id ∉ s.inflight

/-- the multiset of discriminants still counted: one slot per id (own or also-completes) of every active job -/
def State.slots (s : State) : List String := s.active.flatMap fun p => s.counterDiscs p.id

/-- the event of a `Fact` (FontcModel/SchedCheck.lean) lies in the past of `s`; a job that was skipped counts as over -/
def happened (s : State) : Ev → Prop
  | .del p => p ∈ s.delivered
  | .fin k => k ∈ s.finished ∨ k ∈ s.skipped

/-- every fact of the table is true in `s`: if `s` records a launch of the fact's job under the fact's access, its event has
    happened in `s` (read in the state right after that launch, the event came first) -/
def TableHolds (t : Table) (s : State) : Prop :=
  ∀ f ∈ t, (f.job, f.acc) ∈ s.launched → happened s f.ev

/-- `e` cannot be launched because of `p`: `p` is a pending job (not a placeholder) that `e`'s read access waits for -/
def WaitsFor (s : State) (e p : Entry) : Prop :=
  match e.reads with
  | .set ds =>
    (∃ x, Dep.specific x ∈ ds ∧ ∃ y ∈ s.pending, y.id = x ∧ y.owner = p.id) ∨
    (∃ d, Dep.variant d ∈ ds ∧ d ∈ s.counterDiscs p.id ∧ p.id ∉ s.inflight)
  | .all => ∃ y ∈ s.pending, y.id ≠ e.id ∧ y.owner = p.id
  | _ => False

end Fontc.Sched
