/-
  C18: the name-id allocation of `StaticMetadata::new` as a sequence of `register` requests, the state and the table it
  ends in written out (`allocState_closed`, `alloc_eq`); fvar's / STAT's lookups in a table and the allocation's own reuse
  test (`smallestMatch`), both of which ask an ascending sort for its head only: the minimum (`head?_sortAsc`).
-/
import FontcProofs.NamesAssoc

namespace Fontc.Names

theorem le_maxId {t : Table} {p : NameKey × Str} (h : p ∈ t) : p.1.id ≤ maxId t :=
  (foldl_select_map selects_max_nat (fun p : NameKey × Str => p.1.id) rfl).2.1 p h

theorem maxId_ge (t : Table) : 255 ≤ maxId t := (foldl_select_map selects_max_nat (fun p : NameKey × Str => p.1.id) rfl).1

/-- the strings one instance asks to register (static_metadata.rs:436-463) -/
def reqOf (order : List NameKey) (names : Table) (ni : Inst) : List Str :=
  (if reuseSubfamily order names ni then [] else [ni.name]) ++ ni.ps.toList

/-- every `register_if_new` call, in program order -/
def requests (order : List NameKey) (x : Input) : List Str :=
  x.labels ++ (effInsts x).flatMap (reqOf order x.names)

theorem allocState_eq (order : List NameKey) (x : Input) :
    allocState order x = (requests order x).foldl register ⟨initReusable order x.names, maxId x.names⟩ := by
  have h : regInst order x.names = fun st ni => (reqOf order x.names ni).foldl register st :=
    funext fun st => funext fun ni => by
      unfold regInst reqOf
      cases hps : ni.ps <;> by_cases hr : reuseSubfamily order x.names ni = true <;> simp [hr]
  simp only [allocState, requests, List.foldl_append, List.foldl_flatMap, h]

theorem flatMap_reqOf_length (order : List NameKey) (names : Table) (l : List Inst) :
    (l.flatMap (reqOf order names)).length ≤ 2 * l.length := by
  induction l with
  | nil => simp
  | cons ni t ih =>
    have : (reqOf order names ni).length ≤ 2 := by
      unfold reqOf
      cases ni.ps <;> split <;> simp
    rw [List.flatMap_cons, List.length_append, List.length_cons]; omega

theorem effInsts_sublist (x : Input) : (effInsts x).Sublist x.insts := by
  unfold effInsts; split
  · exact List.nil_sublist _
  · exact List.Sublist.refl _

theorem requests_length (order : List NameKey) (x : Input) :
    (requests order x).length ≤ x.labels.length + 2 * x.insts.length := by
  have h1 := flatMap_reqOf_length order x.names (effInsts x)
  have h2 := (effInsts_sublist x).length_le
  simp only [requests, List.length_append]; omega

theorem mem_requests {order : List NameKey} {x : Input} {s : Str} : s ∈ requests order x ↔
    s ∈ x.labels ∨ ∃ ni ∈ effInsts x, (reuseSubfamily order x.names ni = false ∧ ni.name = s) ∨ ni.ps = some s := by
  simp only [requests, reqOf, List.mem_append, List.mem_flatMap, Option.mem_toList]
  refine or_congr_right (exists_congr fun ni => and_congr_right fun _ => or_congr_left ?_)
  cases reuseSubfamily order x.names ni <;> simp [eq_comm]

theorem register_eq (st : St) (n : Str) : register st n =
    if (alookup n st.reusable).isSome then st else ⟨st.reusable ++ [(n, NameKey.new (st.gen + 1) n)], st.gen + 1⟩ := by
  unfold register
  cases h : alookup n st.reusable <;> simp [ainsert_of_none, h]

/-- the pairs of the `filter(..).map(..)` at static_metadata.rs:416-420, in iteration order -/
def initPairs (order : List NameKey) (names : Table) : List (Str × NameKey) :=
  order.filterMap fun k => (alookup k names).bind fun v => if 255 < k.id then some (v, k) else none

theorem mem_initPairs {order : List NameKey} {names : Table} {s : Str} {k : NameKey} :
    (s, k) ∈ initPairs order names ↔ k ∈ order ∧ alookup k names = some s ∧ 255 < k.id := by
  simp only [initPairs, List.mem_filterMap, Option.bind_eq_some_iff]
  constructor
  · rintro ⟨k', hk', v, hv, h⟩
    split at h
    · cases h; exact ⟨hk', hv, ‹_›⟩
    · cases h
  · rintro ⟨hk, hv, hid⟩
    exact ⟨k, hk, s, hv, by simp [hid]⟩

/-- the `collect()` inserts these pairs into an empty map, one after the other -/
theorem initReusable_eq (order : List NameKey) (names : Table) :
    initReusable order names = (initPairs order names).foldl (fun r p => ainsert p.1 p.2 r) [] := by
  rw [initPairs, List.foldl_filterMap]
  unfold initReusable
  congr; funext r k
  cases alookup k names with
  | none => rfl
  | some v => by_cases h : 255 < k.id <;> simp [h]

theorem alookup_of_mem_initReusable {order : List NameKey} {names : Table} {p : Str × NameKey}
    (hp : p ∈ initReusable order names) : alookup p.2 names = some p.1 ∧ 255 < p.2.id := by
  rw [initReusable_eq] at hp
  rcases mem_or_mem_of_mem_foldl_ainsert hp with h | h
  · exact (mem_initPairs.mp h).2
  · cases h

theorem akeys_initReusable_nodup (order : List NameKey) (names : Table) : (akeys (initReusable order names)).Nodup := by
  rw [initReusable_eq]; exact akeys_foldl_ainsert_nodup _ List.nodup_nil

theorem isSome_initReusable {order : List NameKey} {names : Table} {s : Str} :
    (alookup s (initReusable order names)).isSome = true ↔ ∃ k ∈ order, alookup k names = some s ∧ 255 < k.id := by
  rw [initReusable_eq, alookup_foldl_ainsert, alookup_nil, Option.or_none, alookup_isSome_iff]
  simp only [List.mem_reverse, mem_initPairs]

/-- the entries `register` makes for the new strings `l`, in order: ids count up from `g + 1` -/
def freshFrom (g : Nat) (l : List Str) : List (Str × NameKey) :=
  (l.zipIdx (g + 1)).map fun p => (p.1, NameKey.new p.2 p.1)

theorem freshFrom_nil (g : Nat) : freshFrom g [] = [] := rfl

theorem freshFrom_cons (g : Nat) (s : Str) (l : List Str) :
    freshFrom g (s :: l) = (s, NameKey.new (g + 1) s) :: freshFrom (g + 1) l := rfl

theorem mem_freshFrom {g : Nat} {l : List Str} {s : Str} {k : NameKey} :
    (s, k) ∈ freshFrom g l ↔ ∃ i, l[i]? = some s ∧ k = NameKey.new (g + 1 + i) s := by
  simp only [freshFrom, List.mem_map, Prod.mk.injEq, Prod.exists, List.mem_zipIdx_iff_le_and_getElem?_sub]
  constructor
  · rintro ⟨a, j, ⟨hle, hj⟩, rfl, rfl⟩
    exact ⟨j - (g + 1), hj, by rw [Nat.add_sub_cancel' hle]⟩
  · rintro ⟨i, hi, rfl⟩
    exact ⟨s, g + 1 + i, ⟨Nat.le_add_right _ _, by rw [Nat.add_sub_cancel_left]; exact hi⟩, rfl, rfl⟩

theorem foldl_register (reqs : List Str) (st : St) :
    reqs.foldl register st =
      ⟨st.reusable ++ freshFrom st.gen (reqs.filter fun s => (alookup s st.reusable).isNone).eraseDups,
        st.gen + (reqs.filter fun s => (alookup s st.reusable).isNone).eraseDups.length⟩ := by
  induction reqs generalizing st with
  | nil => simp [freshFrom_nil]
  | cons n t ih =>
    rw [List.foldl_cons, ih, register_eq]
    cases hn : alookup n st.reusable with
    | some k => simp [hn]
    | none =>
      -- the new state knows `n` and what the old one knew
      have hf : (t.filter fun s => (alookup s (st.reusable ++ [(n, NameKey.new (st.gen + 1) n)])).isNone) =
          (t.filter fun s => (alookup s st.reusable).isNone).filter fun s => !s == n := by
        rw [List.filter_filter]
        refine List.filter_congr fun s _ => ?_
        rw [alookup_append, alookup_cons, alookup_nil, Option.isNone_or, Bool.and_comm]
        by_cases e : n = s
        · simp [e]
        · simp [e, Ne.symm e]
      simp only [Option.isSome_none, Bool.false_eq_true, if_false, hf, List.filter_cons, hn, Option.isNone_none,
        if_true, List.eraseDups_cons, freshFrom_cons, List.length_cons, List.append_assoc, List.singleton_append]
      rw [Nat.add_right_comm, Nat.add_assoc]

/-- the strings that get a new id, in the order in which they get it -/
def freshStrs (order : List NameKey) (x : Input) : List Str :=
  ((requests order x).filter fun s => (alookup s (initReusable order x.names)).isNone).eraseDups

theorem mem_freshStrs {order : List NameKey} {x : Input} {s : Str} :
    s ∈ freshStrs order x ↔ s ∈ requests order x ∧ ¬ ∃ k ∈ order, alookup k x.names = some s ∧ 255 < k.id := by
  rw [freshStrs, List.mem_eraseDups, List.mem_filter, ← isSome_initReusable]
  simp

theorem freshStrs_nodup (order : List NameKey) (x : Input) : (freshStrs order x).Nodup := nodup_eraseDups _

theorem allocState_closed (order : List NameKey) (x : Input) :
    allocState order x = ⟨initReusable order x.names ++ freshFrom (maxId x.names) (freshStrs order x),
      maxId x.names + (freshStrs order x).length⟩ := by
  rw [allocState_eq, foldl_register]; rfl

theorem extend_nil (t : Table) : extend t [] = t := rfl

theorem extend_cons (t : Table) (p : Str × NameKey) (r : List (Str × NameKey)) :
    extend t (p :: r) = extend (ainsert p.2 p.1 t) r := rfl

theorem extend_append (t : Table) (r₁ r₂ : List (Str × NameKey)) : extend t (r₁ ++ r₂) = extend (extend t r₁) r₂ := by
  simp [extend, List.foldl_append]

theorem extend_eq_foldl (t : Table) (r : List (Str × NameKey)) :
    extend t r = (r.map Prod.swap).foldl (fun t p => ainsert p.1 p.2 t) t := by
  rw [List.foldl_map]; rfl

theorem alookup_extend (t : Table) (r : List (Str × NameKey)) (k : NameKey) :
    alookup k (extend t r) = (alookup k (r.map Prod.swap).reverse).or (alookup k t) := by
  rw [extend_eq_foldl, alookup_foldl_ainsert]

theorem extend_noop {t : Table} {r : List (Str × NameKey)} (h : ∀ p ∈ r, alookup p.2 t = some p.1) : extend t r = t := by
  induction r with
  | nil => rfl
  | cons q r ih =>
    rw [extend_cons, ainsert_same (h q List.mem_cons_self)]
    exact ih (fun p hp => h p (List.mem_cons_of_mem _ hp))

theorem extend_freshFrom {l : List Str} {t : Table} {g : Nat} (hg : ∀ p ∈ t, p.1.id ≤ g) :
    extend t (freshFrom g l) = t ++ (freshFrom g l).map Prod.swap := by
  induction l generalizing t g with
  | nil => simp [freshFrom_nil, extend_nil]
  | cons s l ih =>
    have hnone : alookup (NameKey.new (g + 1) s) t = none :=
      alookup_eq_none_iff.mpr fun v hv => Nat.not_succ_le_self g (hg _ hv)
    rw [freshFrom_cons, extend_cons, ainsert_of_none hnone, ih]
    · simp
    · intro p hp
      rcases List.mem_append.mp hp with hp | hp
      · exact Nat.le_succ_of_le (hg p hp)
      · rw [List.mem_singleton.mp hp]; exact Nat.le_refl _

theorem alloc_eq (order : List NameKey) (x : Input) :
    alloc order x = x.names ++ (freshFrom (maxId x.names) (freshStrs order x)).map Prod.swap := by
  have hinit : extend x.names (initReusable order x.names) = x.names :=
    extend_noop fun _ hp => (alookup_of_mem_initReusable hp).1
  rw [alloc, allocState_closed, extend_append, hinit, extend_freshFrom fun _ => le_maxId]

theorem mem_alloc {order : List NameKey} {x : Input} {k : NameKey} {s : Str} :
    (k, s) ∈ alloc order x ↔
      (k, s) ∈ x.names ∨ ∃ i, (freshStrs order x)[i]? = some s ∧ k = NameKey.new (maxId x.names + 1 + i) s := by
  rw [alloc_eq, List.mem_append, ← mem_freshFrom, mem_map_swap]

/-- the new records have font-specific ids -/
theorem lt_new_id (t : Table) (i : Nat) : 255 < maxId t + 1 + i := by
  have := maxId_ge t
  omega

theorem mem_idsOf {t : Table} {s : Str} {id : Nat} : id ∈ idsOf t s ↔ ∃ k, (k, s) ∈ t ∧ k.id = id := by
  simp only [idsOf, List.mem_map, List.mem_filter, decide_eq_true_eq]
  constructor
  · rintro ⟨p, ⟨hp, hs⟩, hid⟩
    exact ⟨p.1, by rw [← hs]; exact hp, hid⟩
  · rintro ⟨k, hk, hid⟩
    exact ⟨(k, s), ⟨hk, rfl⟩, hid⟩

theorem sortAsc_cons (a : Nat) (l : List Nat) : sortAsc (a :: l) = insertAsc a (sortAsc l) := rfl

theorem sortAsc_spec : InsertionSort (fun a b : Nat => decide (a ≤ b)) insertAsc sortAsc :=
  ⟨fun _ => rfl, fun _ _ _ => by simp only [insertAsc, decide_eq_true_eq], rfl, fun _ _ => rfl⟩

theorem head?_insertAsc (a : Nat) (l : List Nat) : (insertAsc a l).head? = some (l.head?.elim a (min a)) := by
  fun_cases insertAsc a l with
  | case1 => rfl
  | case2 b t h => simp [Nat.min_eq_left h]
  | case3 b t h => simp [Nat.min_eq_right (Nat.le_of_not_le h)]

/-- the ascending sort is only ever asked for its head: the minimum -/
theorem head?_sortAsc (l : List Nat) : (sortAsc l).head? = l.min? := by
  induction l with
  | nil => rfl
  | cons a t ih => rw [sortAsc_cons, head?_insertAsc, ih, List.min?_cons]

theorem head?_sortAsc_eq_some_iff {l : List Nat} {m : Nat} :
    (sortAsc l).head? = some m ↔ m ∈ l ∧ ∀ x ∈ l, m ≤ x := by
  rw [head?_sortAsc]; exact List.min?_eq_some_iff

theorem mem_reverseIds {t : Table} {s : Str} {id : Nat} : id ∈ reverseIds t s ↔ ∃ k, (k, s) ∈ t ∧ k.id = id := by
  simp [reverseIds, sortAsc_spec.mem_sort, mem_idsOf]

theorem reusableNameId_eq (t : Table) (s : Str) (allow : Bool) : reusableNameId t s allow =
    ((reverseIds t s).head?.filter fun id => allow && isSub id).or ((reverseIds t s).find? fun id => 256 ≤ id) := by
  unfold reusableNameId; split <;> simp [*]

theorem reusableNameId_some {t : Table} {s : Str} {allow : Bool} {id : Nat} (h : reusableNameId t s allow = some id) :
    (∃ k, (k, s) ∈ t ∧ k.id = id) ∧ (256 ≤ id ∨ (allow = true ∧ isSub id = true)) := by
  rw [reusableNameId_eq, Option.or_eq_some_iff] at h
  rcases h with h | ⟨_, h⟩
  · obtain ⟨hh, hp⟩ := Option.filter_eq_some_iff.mp h
    exact ⟨mem_reverseIds.mp (List.mem_of_mem_head? hh), Or.inr (by simpa using hp)⟩
  · exact ⟨mem_reverseIds.mp (List.mem_of_find?_eq_some h), Or.inl (by simpa using List.find?_some h)⟩

theorem reusableNameId_of_mem {t : Table} {s : Str} {allow : Bool} {k : NameKey} (hk : (k, s) ∈ t)
    (hp : 256 ≤ k.id) : ∃ id k', reusableNameId t s allow = some id ∧ (k', s) ∈ t ∧ k'.id = id := by
  have hs : (reusableNameId t s allow).isSome := by
    rw [reusableNameId_eq, Option.isSome_or, Bool.or_eq_true, List.find?_isSome]
    exact Or.inr ⟨k.id, mem_reverseIds.mpr ⟨k, hk, rfl⟩, by simpa using hp⟩
  obtain ⟨id, h⟩ := Option.isSome_iff_exists.mp hs
  obtain ⟨⟨k', hk', e⟩, _⟩ := reusableNameId_some h
  exact ⟨id, k', h, hk', e⟩

theorem reusableNameId_of_head_sub {t : Table} {s : Str} {m : Nat} (hh : (reverseIds t s).head? = some m)
    (hs : isSub m = true) : reusableNameId t s true = some m := by
  simp [reusableNameId_eq, hh, Option.filter, hs]

theorem statAxisId_eq (t : Table) (l : Str) : statAxisId t l = reusableNameId t l false := by
  rw [reusableNameId_eq]
  cases (reverseIds t l).head? <;> simp [statAxisId, Option.filter]

/-- the ids among which `smallestMatch` takes the smallest (and `firstMatch`, the code before the fix, the first) -/
theorem mem_matchIds {order : List NameKey} {names : Table} {s : Str} {m : Nat} :
    m ∈ (order.filterMap fun k => if alookup k names = some s then some k.id else none) ↔
      ∃ k ∈ order, alookup k names = some s ∧ k.id = m := by
  simp only [List.mem_filterMap]
  constructor
  · rintro ⟨k, hk, h⟩
    split at h
    · next hs => exact ⟨k, hk, hs, by simpa using h⟩
    · cases h
  · rintro ⟨k, hk, hs, e⟩
    exact ⟨k, hk, by simp [hs, e]⟩

theorem smallestMatch_eq_some_iff {order : List NameKey} {names : Table} {s : Str} {m : Nat} :
    smallestMatch order names s = some m ↔
      (∃ k ∈ order, alookup k names = some s ∧ k.id = m) ∧ ∀ k ∈ order, alookup k names = some s → m ≤ k.id := by
  rw [smallestMatch, head?_sortAsc_eq_some_iff, mem_matchIds]
  refine and_congr_right fun _ => ⟨fun h k hk hs => h k.id (mem_matchIds.mpr ⟨k, hk, hs, rfl⟩), fun h id hid => ?_⟩
  obtain ⟨k, hk, hs, rfl⟩ := mem_matchIds.mp hid
  exact h k hk hs

/-- the order of the iteration matters only through its set of members -/
theorem smallestMatch_congr {names : Table} {o₁ o₂ : List NameKey} (hm : ∀ k, k ∈ o₁ ↔ k ∈ o₂) (s : Str) :
    smallestMatch o₁ names s = smallestMatch o₂ names s :=
  Option.ext fun m => by simp only [smallestMatch_eq_some_iff, hm]

theorem reuseSubfamily_iff {order : List NameKey} {names : Table} {ni : Inst} : reuseSubfamily order names ni = true ↔
    ni.atDefault = true ∧ ∃ m, smallestMatch order names ni.name = some m ∧ isSub m = true := by
  unfold reuseSubfamily
  cases smallestMatch order names ni.name <;> simp

theorem reuseSubfamily_congr {names : Table} {o₁ o₂ : List NameKey} (hm : ∀ k, k ∈ o₁ ↔ k ∈ o₂) (ni : Inst) :
    reuseSubfamily o₁ names ni = reuseSubfamily o₂ names ni := by
  unfold reuseSubfamily; rw [smallestMatch_congr hm]

end Fontc.Names
