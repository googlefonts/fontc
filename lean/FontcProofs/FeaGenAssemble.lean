/-
  C11: from the top-level invariant (`TopInvG`) to `shape = interp`.
-/
import FontcProofs.FeaGenTop
import FontcProofs.FeaRunSem

namespace Fontc.FeaCompile
open Cmp

/-- the id of the lookup with index `n` in the table (`isPos`: GPOS) -/
def mkId (isPos : Bool) (n : Nat) : LookupId := if isPos then .gpos n else .gsub n

/-- the index of a lookup in its table (`mkId isPos` read back, `idx_mkId`) -/
def Cmp.LookupId.idx : LookupId → Nat
  | .gsub n => n
  | .gpos n => n
  | .empty => 0

theorem mem_lookupIdxs {isPos : Bool} {ls : List LookupId} {a : Nat} :
    a ∈ lookupIdxs isPos ls ↔ mkId isPos a ∈ ls := by
  unfold lookupIdxs
  rw [mem_sortDedup, List.mem_filterMap]
  constructor
  · rintro ⟨id, hid, h⟩
    cases id <;> cases isPos <;> simp_all [mkId]
  · intro h
    refine ⟨_, h, ?_⟩
    cases isPos <;> simp [mkId]

theorem mkId_inj {b b' : Bool} {n n' : Nat} (h : mkId b n = mkId b' n') : b = b' ∧ n = n' := by
  cases b <;> cases b' <;> simp_all [mkId]

theorem idx_mkId {b : Bool} {n : Nat} : (mkId b n).idx = n := by cases b <;> rfl

theorem Src.Entry.active_iff {e : Src.Entry} {script lang : Tag} {feats : List Tag} :
    e.active script lang feats = true ↔ ∃ tag, feats.contains tag = true ∧ (tag, script, lang) ∈ e.regs := by
  simp only [Src.Entry.active, List.any_eq_true, Bool.and_eq_true, beq_iff_eq]
  constructor
  · rintro ⟨⟨f, s, l⟩, hm, ⟨hf, rfl⟩, rfl⟩; exact ⟨f, hf, hm⟩
  · rintro ⟨tag, hf, hm⟩; exact ⟨(tag, script, lang), hm, ⟨hf, rfl⟩, rfl⟩

section
variable {fx : Fixes} {U : List (List Glyph)} {dls : List Sys} {es : List Src.Entry} {s : St}
  {ids : List LookupId} {used : List String}

theorem TopInvG.ent_of_zip (hinv : TopInvG fx U dls es s ids used) {e : Src.Entry} {id : LookupId}
    (hm : (e, id) ∈ es.zip ids) :
    ∃ ls, CompiledRun fx s.attachIds s.filterIds e.lookup.flag e.lookup.rules id ls ∧ Placed s.gsub s.gpos id ls :=
  hinv.ents e.lookup id (mem_entPairs_of_zip hm)

theorem TopInvG.id_eq_mkId (hinv : TopInvG fx U dls es s ids used) {e : Src.Entry} {id : LookupId}
    (hm : (e, id) ∈ es.zip ids) : id = mkId e.lookup.isPos id.idx := by
  obtain ⟨ls, hc, hp⟩ := hinv.ent_of_zip hm
  obtain ⟨hne, hk, hg, _⟩ := hc
  rw [show e.lookup.isPos = (headKind e.lookup.rules).isPos from any_of_homogeneous Kind.isPos hne hk, ← hg]
  cases id with
  | gsub n => simp [mkId, Cmp.LookupId.isGpos, Cmp.LookupId.idx]
  | gpos n => simp [mkId, Cmp.LookupId.isGpos, Cmp.LookupId.idx]
  | empty => exact absurd hp (by simp [Placed])

theorem TopInvG.isPos_of_mkId (hinv : TopInvG fx U dls es s ids used) {e : Src.Entry} {isPos : Bool} {a : Nat}
    (hm : (e, mkId isPos a) ∈ es.zip ids) : e.lookup.isPos = isPos := by
  have hid := hinv.id_eq_mkId hm
  rw [idx_mkId] at hid
  exact (mkId_inj hid).1.symm

/-- `Src.registersAny` on a list of entries (`Src.registersAny p` is, by definition, `regsAny (Src.entries p)`): a lookup
    of the table (`isPos`: GPOS) is registered for the language system, so the table has a record for it -/
def regsAny (es : List Src.Entry) (isPos : Bool) (script lang : Tag) : Bool :=
  es.any fun e => e.lookup.isPos == isPos && e.regs.any fun r => r.2.1 == script && r.2.2 == lang

theorem regsAny_iff {es : List Src.Entry} {isPos : Bool} {script lang : Tag} :
    regsAny es isPos script lang = true ↔ ∃ e ∈ es, e.lookup.isPos = isPos ∧ ∃ tag, (tag, script, lang) ∈ e.regs := by
  simp only [regsAny, List.any_eq_true, Bool.and_eq_true, beq_iff_eq]
  constructor
  · rintro ⟨e, he, hp, ⟨tag, sc, lg⟩, hr, rfl, rfl⟩; exact ⟨e, he, hp, tag, hr⟩
  · rintro ⟨e, he, hp, tag, hr⟩; exact ⟨e, he, hp, (tag, script, lang), hr, rfl, rfl⟩

/-- The language system is requested with a language for which the table (`isPos`: GPOS) has a
    record, or there is no record for the script's default language system either (otherwise a client
    falls back to the default language system — `assumptions` in `checks/C11.json`). -/
def LangOkFor (es : List Src.Entry) (isPos : Bool) (script lang : Tag) : Prop :=
  lang = "dflt" ∨ regsAny es isPos script lang = true ∨ regsAny es isPos script "dflt" = false

theorem TopInvG.mem_features (hinv : TopInvG fx U dls es s ids used) {tag lang script : Tag} {id : LookupId} :
    (∃ l, ((tag, lang, script), l) ∈ s.features ∧ id ∈ l) ↔ ∃ e, (e, id) ∈ es.zip ids ∧ (tag, script, lang) ∈ e.regs := by
  rw [← hinv.feats]
  constructor
  · rintro ⟨l, hm, hid⟩
    rw [(lookup_eq_some_iff_of_nodup hinv.featKeys).mpr hm]
    exact hid
  · intro hid
    cases hq : s.features.lookup (tag, lang, script) with
    | none => rw [hq] at hid; simp at hid
    | some l => exact ⟨l, (lookup_eq_some_iff_of_nodup hinv.featKeys).mp hq, by rwa [hq] at hid⟩

theorem TopInvG.mem_recordedFor (hinv : TopInvG fx U dls es s ids used) {isPos : Bool} {script lang : Tag} {feats : List Tag}
    {a : Nat} :
    (∃ x ∈ recordedFor isPos s.features script lang, a ∈ if feats.contains x.1.1 then lookupIdxs isPos x.2 else []) ↔
      ∃ e, (e, mkId isPos a) ∈ es.zip ids ∧ e.active script lang feats = true := by
  constructor
  · rintro ⟨⟨⟨tag, lg, sc⟩, l⟩, hx, ha⟩
    simp only [recordedFor, List.mem_filter, Bool.and_eq_true, beq_iff_eq] at hx
    obtain ⟨hm, ⟨rfl, rfl⟩, _⟩ := hx
    split at ha
    · rename_i hf
      obtain ⟨e, hz, hk⟩ := hinv.mem_features.mp ⟨l, hm, mem_lookupIdxs.mp ha⟩
      exact ⟨e, hz, Src.Entry.active_iff.mpr ⟨tag, hf, hk⟩⟩
    · simp at ha
  · rintro ⟨e, hz, hact⟩
    obtain ⟨tag, hf, hc⟩ := Src.Entry.active_iff.mp hact
    obtain ⟨l, hml, hmem⟩ := hinv.mem_features.mpr ⟨e, hz, hc⟩
    have ha := mem_lookupIdxs.mpr hmem
    refine ⟨((tag, lang, script), l), ?_, by rw [if_pos hf]; exact ha⟩
    simp only [recordedFor, List.mem_filter, hml, beq_self_eq_true, Bool.true_and, true_and, Bool.not_eq_true',
      List.isEmpty_eq_false_iff]
    exact List.ne_nil_of_mem ha

theorem mem_active_of_topInvG (hinv : TopInvG fx U dls es s ids used) {isPos : Bool}
    {lookups : List OT.Lookup} {script lang : Tag} (hlang : LangOkFor es isPos script lang) {feats : List Tag} {a : Nat} :
    a ∈ OT.activeLookups (buildTable lookups isPos s.features) script lang feats ↔
      ∃ e, (e, mkId isPos a) ∈ es.zip ids ∧ e.active script lang feats = true := by
  rw [activeLookups_buildTable, mem_sortDedup, List.mem_flatMap]
  split
  · rename_i hemp
    -- nothing recorded for the language: the table answers with the script's default language system
    have hnone : ∀ feats a, ¬ ∃ e, (e, mkId isPos a) ∈ es.zip ids ∧ e.active script lang feats = true := fun feats a h => by
      obtain ⟨x, hx, _⟩ := hinv.mem_recordedFor.mpr h
      rw [List.isEmpty_iff.mp hemp] at hx
      cases hx
    rcases hlang with rfl | h | h
    · exact hinv.mem_recordedFor
    · obtain ⟨e, he, hpos, tag, hk⟩ := regsAny_iff.mp h
      obtain ⟨id, hz⟩ := exists_zip_of_mem hinv.len he
      have hid := hinv.id_eq_mkId hz
      rw [hpos] at hid
      exact absurd ⟨e, hid ▸ hz, Src.Entry.active_iff.mpr ⟨tag, by simp, hk⟩⟩
        (hnone [tag] id.idx)
    · rw [hinv.mem_recordedFor]
      refine iff_of_false ?_ (hnone feats a)
      rintro ⟨e, hz, hact⟩
      obtain ⟨tag, _, hc⟩ := Src.Entry.active_iff.mp hact
      exact Bool.eq_false_iff.mp h (regsAny_iff.mpr ⟨e, (List.of_mem_zip hz).1, hinv.isPos_of_mkId hz, tag, hc⟩)
  · exact hinv.mem_recordedFor

/-- the entries active for the request, of one table, each with its index in the table's lookup list -/
def sel (es : List Src.Entry) (ids : List LookupId) (script lang : Tag) (feats : List Tag) (isPos : Bool) :
    List (Src.Entry × Nat) :=
  ((es.zip ids).filter fun x => x.1.active script lang feats && (x.1.lookup.isPos == isPos)).map fun x => (x.1, x.2.idx)

theorem TopInvG.mem_sel (hinv : TopInvG fx U dls es s ids used) {script lang : Tag} {feats : List Tag} {isPos : Bool}
    {e : Src.Entry} {a : Nat} :
    (e, a) ∈ sel es ids script lang feats isPos ↔ (e, mkId isPos a) ∈ es.zip ids ∧ e.active script lang feats = true := by
  simp only [sel, List.mem_map, List.mem_filter, Bool.and_eq_true, beq_iff_eq, Prod.mk.injEq]
  constructor
  · rintro ⟨⟨e', id⟩, ⟨hm, hact, hpos⟩, rfl, rfl⟩
    have hid := hinv.id_eq_mkId hm
    simp only at hpos
    rw [hpos] at hid
    exact ⟨hid ▸ hm, hact⟩
  · rintro ⟨hm, hact⟩
    exact ⟨(e, mkId isPos a), ⟨hm, hact, hinv.isPos_of_mkId hm⟩, rfl, idx_mkId⟩

theorem sel_sorted (hinv : TopInvG fx U dls es s ids used)
    {script lang : Tag} {feats : List Tag} {isPos : Bool} :
    ((sel es ids script lang feats isPos).map (·.2)).Pairwise (· < ·) := by
  -- the ids of the selected entries: a sublist of `ids`, all of the one table
  have hsub : (((es.zip ids).filter fun x => x.1.active script lang feats && (x.1.lookup.isPos == isPos)).map
      (·.2)).Sublist ids := by
    have h1 := List.Sublist.map (Prod.snd (α := Src.Entry) (β := LookupId))
      (List.filter_sublist (l := es.zip ids) (p := fun x => x.1.active script lang feats && (x.1.lookup.isPos == isPos)))
    rwa [List.map_snd_zip (Nat.le_of_eq hinv.len.symm)] at h1
  have hpw := hinv.ordered.sublist hsub
  rw [sel, List.map_map, List.pairwise_map]
  rw [List.pairwise_map] at hpw
  refine hpw.imp_of_mem fun {x y} hx hy h => ?_
  have hall : ∀ x ∈ (es.zip ids).filter fun x => x.1.active script lang feats && (x.1.lookup.isPos == isPos),
      x.2 = mkId isPos x.2.idx := fun x hx => by
    obtain ⟨hz, hc⟩ := List.mem_filter.mp hx
    simp only [Bool.and_eq_true, beq_iff_eq] at hc
    exact hc.2 ▸ hinv.id_eq_mkId hz
  rw [hall x hx, hall y hy] at h
  cases isPos <;> simpa [mkId, idLt, idx_mkId] using h

theorem activeLookups_of_topInvG (hinv : TopInvG fx U dls es s ids used) {isPos : Bool} {lookups : List OT.Lookup}
    {script lang : Tag} (hlang : LangOkFor es isPos script lang) {feats : List Tag} :
    OT.activeLookups (buildTable lookups isPos s.features) script lang feats
      = (sel es ids script lang feats isPos).map (·.2) := by
  -- both sides are strictly ascending, so it is enough that they have the same members
  apply eq_of_pairwise_of_mem_iff Nat.lt_asymm activeLookups_sorted (sel_sorted hinv)
  intro a
  rw [mem_active_of_topInvG hinv hlang]
  constructor
  · rintro ⟨e, h⟩; exact List.mem_map.mpr ⟨(e, a), hinv.mem_sel.mpr h, rfl⟩
  · intro h
    obtain ⟨⟨e, _⟩, hx, rfl⟩ := List.mem_map.mp h
    exact ⟨e, hinv.mem_sel.mp hx⟩

theorem sel_entry (hinv : TopInvG fx U dls es s ids used)
    {script lang : Tag} {feats : List Tag} {isPos : Bool} {x : Src.Entry × Nat}
    (hx : x ∈ sel es ids script lang feats isPos) :
    x.1 ∈ es ∧ ∃ ls, CompiledRun fx s.attachIds s.filterIds x.1.lookup.flag x.1.lookup.rules (mkId isPos x.2) ls ∧
      Placed s.gsub s.gpos (mkId isPos x.2) ls :=
  have hz := (hinv.mem_sel.mp hx).1
  ⟨(List.of_mem_zip hz).1, hinv.ent_of_zip hz⟩

theorem sel_entries {es : List Src.Entry} {ids : List LookupId} (hlen : es.length = ids.length) {script lang : Tag}
    {feats : List Tag} {isPos : Bool} :
    (sel es ids script lang feats isPos).map (·.1) =
      (es.filter (·.active script lang feats)).filter (·.lookup.isPos == isPos) := by
  rw [sel, List.map_map]
  have : ((fun x : Src.Entry × Nat => x.1) ∘ fun x : Src.Entry × LookupId => (x.1, x.2.idx)) = (·.1) := rfl
  rw [this, zip_filter_map_fst hlen (fun e => e.active script lang feats && (e.lookup.isPos == isPos)),
    List.filter_filter]
  apply List.filter_congr
  intro e _
  rw [Bool.and_comm]

end

theorem correct_of_topInvG {fx : Fixes} {p : Program} {U : List (List Glyph)} {dls : List Sys} {s : St}
    {ids : List LookupId} {used : List String} (hinv : TopInvG fx U dls (Src.entries p) s ids used)
    (hents : ∀ e ∈ Src.entries p, GsubRunOk e.lookup.rules ∨ GposRunOk e.lookup.rules)
    (hgdef : (p.gdef.map (·.1)).Nodup)
    (hU1 : ∀ c ∈ U, c.Nodup) (hU2 : ∀ c ∈ U, ∀ c' ∈ U, c ≠ c' → ∀ g ∈ c, g ∉ c')
    {script lang : Tag} (hlang : ∀ isPos, LangOkFor (Src.entries p) isPos script lang)
    {feats : List Tag} {alt : Nat} {str : List Glyph} :
    shape ⟨buildTable s.gsub false s.features, buildTable s.gpos true s.features, buildGdef p s⟩ script lang feats alt str
      = interp p script lang feats alt str := by
  have hatt : (s.attachIds.flatMap id).Nodup := nodup_flatMap_of_disjoint hU1 hU2 hinv.idsInv.1 hinv.attachU
  apply shape_eq_interp_of
    (sel (Src.entries p) ids script lang feats false) (sel (Src.entries p) ids script lang feats true)
  · rw [sel_entries hinv.len]
    exact List.filter_congr fun e _ => by cases e.lookup.isPos <;> rfl
  · rw [sel_entries hinv.len]
    exact List.filter_congr fun e _ => by cases e.lookup.isPos <;> rfl
  · exact activeLookups_of_topInvG hinv (hlang false)
  · exact activeLookups_of_topInvG hinv (hlang true)
  · intro x hx
    obtain ⟨hmem, ls, hcomp, hpl⟩ := sel_entry hinv hx
    exact run_applyGsub_correct
      ⟨buildTable s.gsub false s.features, buildTable s.gpos true s.features, buildGdef p s⟩ hcomp hpl rfl (hents x.1 hmem) hgdef hatt
      alt (Src.envOf (Src.entries p)) x.1.lookup.name
  · intro x hx
    obtain ⟨hmem, ls, hcomp, hpl⟩ := sel_entry hinv hx
    exact run_applyGpos_correct
      ⟨buildTable s.gsub false s.features, buildTable s.gpos true s.features, buildGdef p s⟩ hcomp hpl rfl (hents x.1 hmem) hgdef hatt
      x.1.lookup.name

end Fontc.FeaCompile
