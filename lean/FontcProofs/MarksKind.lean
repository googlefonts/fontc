/-
  C10, anchor names: the model of `AnchorKind::new` is total and coincides with a declarative description of the
  naming convention (`NameSpec`).
-/
import FontcModel.Marks

namespace Fontc.Marks
open Fontc

/-- `s` is an index literal with value `k`: an optional `+`, at least one ASCII digit, value below 2^64. -/
def IsIndex (s : List Char) (k : Nat) : Prop :=
  ∃ ds : List Char, (s = ds ∨ s = '+' :: ds) ∧ ds ≠ [] ∧ (∀ c ∈ ds, c.isDigit = true) ∧
    k = digitsVal ds ∧ k ≤ usizeMax

/-- `s` is an index literal, of whatever value: what `parseUsize` accepts (`parseUsize_isSome`). -/
def IsNumber (s : List Char) : Prop := ∃ k, IsIndex s k

/-- The name is none of the reserved shapes: not `entry`, not `exit`, no `caret_` or `vcaret_` prefix, no leading underscore. -/
def Plain (n : Name) : Prop :=
  n ≠ sEntry ∧ n ≠ sExit ∧ (∀ s, n ≠ sCaret ++ s) ∧ (∀ s, n ≠ sVCaret ++ s) ∧ (∀ s, n ≠ '_' :: s)

/-- The anchor naming convention fontc implements (after ufo2ft's markFeatureWriter):

  * `entry`, `exit`: cursive attachment;
  * `caret_N` / `vcaret_N`: ligature caret number N ≥ 1 (`caret_0` is an error; anything else after the
    underscore counts as caret 1);
  * `_N`: marker for ligature component N ≥ 1 (`_0` is an error);
  * `_`: error; `_name_N`: error (a numbered mark anchor);
  * `_name`: mark anchor of group `name`;
  * `name_N` (not starting with an underscore): anchor of group `name` on ligature component N ≥ 1
    (`name_0` is an error), split at the *last* underscore;
  * anything else: base anchor whose group is the whole name. -/
inductive NameSpec : Name → Except BadAnchor Kind → Prop where
  | entry : NameSpec sEntry (.ok .cursiveEntry)
  | exit : NameSpec sExit (.ok .cursiveExit)
  | caret (s : List Char) (k : Nat) : IsIndex s k → 0 < k → NameSpec (sCaret ++ s) (.ok (.caret k))
  | caretZero (s : List Char) : IsIndex s 0 → NameSpec (sCaret ++ s) (.error .zeroIndex)
  | caretOther (s : List Char) : ¬ IsNumber s → NameSpec (sCaret ++ s) (.ok (.caret 1))
  | vcaret (s : List Char) (k : Nat) : IsIndex s k → 0 < k → NameSpec (sVCaret ++ s) (.ok (.vcaret k))
  | vcaretZero (s : List Char) : IsIndex s 0 → NameSpec (sVCaret ++ s) (.error .zeroIndex)
  | vcaretOther (s : List Char) : ¬ IsNumber s → NameSpec (sVCaret ++ s) (.ok (.vcaret 1))
  | component (s : List Char) (k : Nat) : IsIndex s k → 0 < k → NameSpec ('_' :: s) (.ok (.componentMarker k))
  | componentZero (s : List Char) : IsIndex s 0 → NameSpec ('_' :: s) (.error .zeroIndex)
  | nilMark : NameSpec ['_'] (.error .nilMarkGroup)
  | numberedMark (g t : List Char) : IsNumber t → ¬ IsNumber (g ++ '_' :: t) →
      NameSpec ('_' :: (g ++ '_' :: t)) (.error .numberedMarkAnchor)
  | mark (s : List Char) : s ≠ [] → ¬ IsNumber s → (∀ g t, s = g ++ '_' :: t → ¬ IsNumber t) →
      NameSpec ('_' :: s) (.ok (.mark s))
  | ligature (g t : List Char) (k : Nat) : Plain (g ++ '_' :: t) → IsIndex t k → 0 < k →
      NameSpec (g ++ '_' :: t) (.ok (.ligature g k))
  | ligatureZero (g t : List Char) : Plain (g ++ '_' :: t) → IsIndex t 0 →
      NameSpec (g ++ '_' :: t) (.error .zeroIndex)
  | base (n : Name) : Plain n → (∀ g t, n = g ++ '_' :: t → ¬ IsNumber t) → NameSpec n (.ok (.base n))

theorem stripPrefix_eq_some (p s r : List Char) : stripPrefix p s = some r ↔ s = p ++ r := by
  induction p generalizing s with
  | nil => simp [stripPrefix, eq_comm]
  | cons a p ih =>
    cases s with
    | nil => simp [stripPrefix]
    | cons c cs =>
      simp only [stripPrefix, List.cons_append, List.cons.injEq]
      by_cases h : a = c
      · subst h; simp [ih]
      · simp [h]; intro h'; exact absurd h'.symm h

theorem stripPrefix_eq_none (p s : List Char) : stripPrefix p s = none ↔ ∀ r, s ≠ p ++ r := by
  simp only [Option.eq_none_iff_forall_ne_some, ne_eq, stripPrefix_eq_some]

theorem rsplitOnce_eq_none (c : Char) (s : List Char) :
    rsplitOnce c s = none ↔ c ∉ s := by
  induction s with
  | nil => simp [rsplitOnce]
  | cons x xs ih =>
    simp only [rsplitOnce]
    cases hr : rsplitOnce c xs with
    | some p =>
      simp only [List.mem_cons, not_or, reduceCtorEq, false_iff, not_and]
      exact fun _ hc => by rw [ih.mpr hc] at hr; cases hr
    | none =>
      have := ih.mp hr
      by_cases hx : x = c
      · simp [hx]
      · simp [hx, this]; exact fun h => hx h.symm

theorem rsplitOnce_append {c : Char} (h : List Char) {t : List Char} (hc : c ∉ t) : rsplitOnce c (h ++ c :: t) = some (h, t) := by
  induction h with
  | nil => simp [rsplitOnce, (rsplitOnce_eq_none c t).mpr hc]
  | cons y ys ih => simp [rsplitOnce, ih]

theorem rsplitOnce_eq_some (c : Char) (s h t : List Char) :
    rsplitOnce c s = some (h, t) ↔ s = h ++ c :: t ∧ c ∉ t := by
  refine ⟨?_, fun ⟨hs, hc⟩ => hs ▸ rsplitOnce_append h hc⟩
  induction s generalizing h t with
  | nil => simp [rsplitOnce]
  | cons x xs ih =>
    intro hr
    unfold rsplitOnce at hr
    cases hxs : rsplitOnce c xs with
    | some p =>
      obtain ⟨h', t'⟩ := p
      rw [hxs] at hr
      cases hr
      obtain ⟨rfl, hc⟩ := ih h' t hxs
      exact ⟨rfl, hc⟩
    | none =>
      rw [hxs] at hr
      by_cases hx : x = c
      · rw [if_pos hx] at hr
        cases hr
        exact ⟨by rw [hx]; rfl, (rsplitOnce_eq_none c xs).mp hxs⟩
      · rw [if_neg hx] at hr; cases hr

theorem isDigit_ne {c : Char} (d : Char) (h : c.isDigit = true) (hd : d.isDigit = false) : c ≠ d := by
  intro hc
  rw [hc, hd] at h
  cases h

theorem unsignedBody_cases (s : List Char) :
    (unsignedBody s = s ∧ ∀ r, s ≠ '+' :: r) ∨ s = '+' :: unsignedBody s := by
  cases s with
  | nil => left; simp [unsignedBody]
  | cons c r =>
    by_cases h : c = '+'
    · right; simp [unsignedBody, h]
    · left; simp [unsignedBody, h]

theorem unsignedBody_of_digits {ds : List Char} (hd : ∀ c ∈ ds, c.isDigit = true) : unsignedBody ds = ds := by
  cases ds with
  | nil => rfl
  | cons c r =>
    have : c ≠ '+' := isDigit_ne '+' (hd c List.mem_cons_self) rfl
    simp [unsignedBody, this]

theorem parseUsize_eq_some (s : List Char) (k : Nat) : parseUsize s = some k ↔ IsIndex s k := by
  unfold parseUsize IsIndex
  constructor
  · intro h
    simp only at h
    split at h
    · cases h
    · rename_i hne
      split at h
      · cases h
      · rename_i hall
        split at h
        · rename_i hle
          simp only [Option.some.injEq] at h
          refine ⟨unsignedBody s, ?_, ?_, ?_, h.symm, by rw [← h]; exact hle⟩
          · rcases unsignedBody_cases s with h' | h'
            · left; exact h'.1.symm
            · right; exact h'
          · intro he
            rw [he] at hne
            simp at hne
          · simpa using hall
        · cases h
  · rintro ⟨ds, hs, hne, hd, hk, hle⟩
    have hbody : unsignedBody s = ds := by
      rcases hs with rfl | rfl
      · exact unsignedBody_of_digits hd
      · simp [unsignedBody]
    simp only [hbody]
    have h1 : ds.isEmpty = false := by cases ds <;> simp_all
    have h2 : ds.all Char.isDigit = true := by simpa using hd
    simp [h1, h2, ← hk, hle]

theorem parseUsize_eq_none (s : List Char) : parseUsize s = none ↔ ¬ IsNumber s := by
  simp only [Option.eq_none_iff_forall_ne_some, ne_eq, parseUsize_eq_some, IsNumber, not_exists]

theorem parseUsize_isSome (s : List Char) : (parseUsize s).isSome = true ↔ IsNumber s := by
  rw [Option.isSome_iff_exists]
  exact exists_congr fun k => parseUsize_eq_some s k

theorem parseUsize_of_pos {s : List Char} {k : Nat} (h : IsIndex s k) (hk : 0 < k) :
    ∃ i, parseUsize s = some (i + 1) ∧ k = i + 1 := by
  have := (parseUsize_eq_some s k).mpr h
  cases k with
  | zero => omega
  | succ i => exact ⟨i, this, rfl⟩

theorem IsIndex.no_underscore {s : List Char} {k : Nat} (h : IsIndex s k) : '_' ∉ s := by
  obtain ⟨ds, hs, _, hd, _, _⟩ := h
  intro hm
  rcases hs with rfl | rfl
  · exact isDigit_ne '_' (hd _ hm) rfl rfl
  · rcases List.mem_cons.mp hm with h | h
    · revert h; decide
    · exact isDigit_ne '_' (hd _ h) rfl rfl

theorem IsIndex.unique {s : List Char} {k k' : Nat} (h : IsIndex s k) (h' : IsIndex s k') : k = k' := by
  have a := (parseUsize_eq_some s k).mpr h
  have b := (parseUsize_eq_some s k').mpr h'
  rw [a] at b; exact Option.some.inj b

theorem rsplitOnce_number_tail (g : List Char) {t : List Char} (ht : IsNumber t) :
    rsplitOnce '_' (g ++ '_' :: t) = some (g, t) := by
  obtain ⟨k, hk⟩ := ht
  exact rsplitOnce_append g hk.no_underscore

theorem caretSuffix_caret (s : List Char) : caretSuffix (sCaret ++ s) = some (s, false) := by
  have := (stripPrefix_eq_some sCaret (sCaret ++ s) s).mpr rfl
  simp [caretSuffix, this]

theorem caretSuffix_vcaret (s : List Char) : caretSuffix (sVCaret ++ s) = some (s, true) := by
  have h1 : stripPrefix sCaret (sVCaret ++ s) = none := by simp [stripPrefix, sCaret, sVCaret]
  have h2 := (stripPrefix_eq_some sVCaret (sVCaret ++ s) s).mpr rfl
  simp [caretSuffix, h1, h2]

theorem caretSuffix_eq_none (n : List Char) :
    caretSuffix n = none ↔ (∀ s, n ≠ sCaret ++ s) ∧ (∀ s, n ≠ sVCaret ++ s) := by
  constructor
  · intro h
    refine ⟨fun s hs => ?_, fun s hs => ?_⟩
    · rw [hs, caretSuffix_caret] at h; cases h
    · rw [hs, caretSuffix_vcaret] at h; cases h
  · rintro ⟨h1, h2⟩
    have a := (stripPrefix_eq_none sCaret n).mpr h1
    have b := (stripPrefix_eq_none sVCaret n).mpr h2
    simp [caretSuffix, a, b]

theorem sEntry_not_caret : caretSuffix sEntry = none := by decide
theorem sExit_not_caret : caretSuffix sExit = none := by decide

theorem anchorKind_entry : anchorKind sEntry = .ok .cursiveEntry := if_pos rfl

theorem anchorKind_exit : anchorKind sExit = .ok .cursiveExit := (if_neg (by decide)).trans (if_pos rfl)

theorem anchorKind_of_caretSuffix {n s : List Char} {v : Bool} (h : caretSuffix n = some (s, v)) :
    anchorKind n =
      match parseUsize s with
      | some 0 => .error .zeroIndex
      | some (i + 1) => .ok (if v then .vcaret (i + 1) else .caret (i + 1))
      | none => .ok (if v then .vcaret 1 else .caret 1) := by
  have h1 : n ≠ sEntry := fun e => by rw [e, sEntry_not_caret] at h; cases h
  have h2 : n ≠ sExit := fun e => by rw [e, sExit_not_caret] at h; cases h
  unfold anchorKind
  rw [if_neg h1, if_neg h2, h]
  rfl

theorem anchorKind_underscore (s : List Char) :
    anchorKind ('_' :: s) =
      match parseUsize s with
      | some 0 => .error .zeroIndex
      | some (i + 1) => .ok (.componentMarker (i + 1))
      | none =>
        if s.isEmpty then .error .nilMarkGroup
        else
          match rsplitOnce '_' s with
          | some (_, t) => if (parseUsize t).isSome then .error .numberedMarkAnchor else .ok (.mark s)
          | none => .ok (.mark s) := by
  have h1 : ('_' :: s) ≠ sEntry := by simp [sEntry]
  have h2 : ('_' :: s) ≠ sExit := by simp [sExit]
  have h3 : caretSuffix ('_' :: s) = none := by simp [caretSuffix, stripPrefix, sCaret, sVCaret]
  unfold anchorKind
  rw [if_neg h1, if_neg h2, h3]
  rfl

theorem anchorKind_of_plain {n : Name} (h : Plain n) :
    anchorKind n =
      match rsplitOnce '_' n with
      | some (g, t) =>
        match parseUsize t with
        | some 0 => .error .zeroIndex
        | some (i + 1) => .ok (.ligature g (i + 1))
        | none => .ok (.base n)
      | none => .ok (.base n) := by
  unfold anchorKind
  rw [if_neg h.1, if_neg h.2.1, (caretSuffix_eq_none n).mpr ⟨h.2.2.1, h.2.2.2.1⟩]
  simp only []
  split
  · rename_i s; exact absurd rfl (h.2.2.2.2 s)
  · rfl

theorem anchorKind_complete {n : Name} {r : Except BadAnchor Kind} (h : NameSpec n r) : anchorKind n = r := by
  -- the name of each rule falls into one of the three arms of the parser (`anchorKind_of_caretSuffix`, `anchorKind_underscore`,
  -- `anchorKind_of_plain`), and what the rule says of the suffix decides the `match` there
  cases h with
  | entry => exact anchorKind_entry
  | exit => exact anchorKind_exit
  | caret s k hi hk =>
    obtain ⟨i, hp, rfl⟩ := parseUsize_of_pos hi hk
    rw [anchorKind_of_caretSuffix (caretSuffix_caret s), hp]; rfl
  | caretZero s hi => rw [anchorKind_of_caretSuffix (caretSuffix_caret s), (parseUsize_eq_some s 0).mpr hi]
  | caretOther s hn => rw [anchorKind_of_caretSuffix (caretSuffix_caret s), (parseUsize_eq_none s).mpr hn]; rfl
  | vcaret s k hi hk =>
    obtain ⟨i, hp, rfl⟩ := parseUsize_of_pos hi hk
    rw [anchorKind_of_caretSuffix (caretSuffix_vcaret s), hp]; rfl
  | vcaretZero s hi => rw [anchorKind_of_caretSuffix (caretSuffix_vcaret s), (parseUsize_eq_some s 0).mpr hi]
  | vcaretOther s hn => rw [anchorKind_of_caretSuffix (caretSuffix_vcaret s), (parseUsize_eq_none s).mpr hn]; rfl
  | component s k hi hk =>
    obtain ⟨i, hp, rfl⟩ := parseUsize_of_pos hi hk
    rw [anchorKind_underscore, hp]
  | componentZero s hi => rw [anchorKind_underscore, (parseUsize_eq_some s 0).mpr hi]
  | nilMark => rw [anchorKind_underscore]; rfl
  | numberedMark g t ht hn =>
    rw [anchorKind_underscore, (parseUsize_eq_none _).mpr hn]
    have hne : (g ++ '_' :: t).isEmpty = false := by cases g <;> rfl
    simp only [hne, rsplitOnce_number_tail g ht, if_pos ((parseUsize_isSome t).mpr ht)]
    rfl
  | mark s hne hn hsplit =>
    rw [anchorKind_underscore, (parseUsize_eq_none _).mpr hn]
    have hne' : s.isEmpty = false := by cases s <;> simp_all
    simp only [hne']
    cases hr : rsplitOnce '_' s with
    | none => rfl
    | some p =>
      obtain ⟨g, t⟩ := p
      have hnt := hsplit g t ((rsplitOnce_eq_some '_' s g t).mp hr).1
      simp only [if_neg (mt (parseUsize_isSome t).mp hnt)]
      rfl
  | ligature g t k hp hi hk =>
    obtain ⟨i, hpp, rfl⟩ := parseUsize_of_pos hi hk
    rw [anchorKind_of_plain hp, rsplitOnce_number_tail g ⟨_, hi⟩]
    simp only [hpp]
  | ligatureZero g t hp hi =>
    rw [anchorKind_of_plain hp, rsplitOnce_number_tail g ⟨_, hi⟩]
    simp only [(parseUsize_eq_some t 0).mpr hi]
  | base n hp hsplit =>
    rw [anchorKind_of_plain hp]
    cases hr : rsplitOnce '_' n with
    | none => rfl
    | some p =>
      obtain ⟨g, t⟩ := p
      simp only [(parseUsize_eq_none t).mpr (hsplit g t ((rsplitOnce_eq_some '_' n g t).mp hr).1)]

theorem index_cases (s : List Char) : (∃ k, IsIndex s k ∧ 0 < k) ∨ IsIndex s 0 ∨ ¬ IsNumber s := by
  by_cases h : IsNumber s
  · obtain ⟨k, hk⟩ := h
    cases k with
    | zero => exact Or.inr (Or.inl hk)
    | succ k => exact Or.inl ⟨_, hk, Nat.succ_pos k⟩
  · exact Or.inr (Or.inr h)

/-- By the shape of the name alone: the parser is not looked at. -/
theorem NameSpec.total (n : Name) : ∃ r, NameSpec n r := by
  by_cases he : n = sEntry
  · exact he ▸ ⟨_, .entry⟩
  by_cases hx : n = sExit
  · exact hx ▸ ⟨_, .exit⟩
  by_cases hc : ∃ s, n = sCaret ++ s
  · obtain ⟨s, rfl⟩ := hc
    rcases index_cases s with ⟨k, hk, hp⟩ | h0 | hn
    · exact ⟨_, .caret s k hk hp⟩
    · exact ⟨_, .caretZero s h0⟩
    · exact ⟨_, .caretOther s hn⟩
  by_cases hv : ∃ s, n = sVCaret ++ s
  · obtain ⟨s, rfl⟩ := hv
    rcases index_cases s with ⟨k, hk, hp⟩ | h0 | hn
    · exact ⟨_, .vcaret s k hk hp⟩
    · exact ⟨_, .vcaretZero s h0⟩
    · exact ⟨_, .vcaretOther s hn⟩
  by_cases hu : ∃ s, n = '_' :: s
  · obtain ⟨s, rfl⟩ := hu
    rcases index_cases s with ⟨k, hk, hp⟩ | h0 | hn
    · exact ⟨_, .component s k hk hp⟩
    · exact ⟨_, .componentZero s h0⟩
    · by_cases hs : s = []
      · exact hs ▸ ⟨_, .nilMark⟩
      by_cases ht : ∃ g t, s = g ++ '_' :: t ∧ IsNumber t
      · obtain ⟨g, t, rfl, ht⟩ := ht
        exact ⟨_, .numberedMark g t ht hn⟩
      · exact ⟨_, .mark s hs hn fun g t hgt hnt => ht ⟨g, t, hgt, hnt⟩⟩
  have hplain : Plain n := ⟨he, hx, fun s h => hc ⟨s, h⟩, fun s h => hv ⟨s, h⟩, fun s h => hu ⟨s, h⟩⟩
  by_cases ht : ∃ g t, n = g ++ '_' :: t ∧ IsNumber t
  · obtain ⟨g, t, rfl, k, hk⟩ := ht
    cases k with
    | zero => exact ⟨_, .ligatureZero g t hplain hk⟩
    | succ k => exact ⟨_, .ligature g t _ hplain hk (Nat.succ_pos k)⟩
  · exact ⟨_, .base n hplain fun g t hgt hnt => ht ⟨g, t, hgt, hnt⟩⟩

theorem anchorKind_spec (n : Name) : NameSpec n (anchorKind n) := by
  obtain ⟨r, hr⟩ := NameSpec.total n
  rw [anchorKind_complete hr]
  exact hr

end Fontc.Marks
