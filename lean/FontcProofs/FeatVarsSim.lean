/-
  A rank representation that computes on its ranks what `natOps` computes on their values gives the same output of
  `overlayCore` (`overlayCore_eq_nat`): the box maps of the two runs correspond entry by entry (`Sim`).
-/
import FontcProofs.FeatVarsFinal

namespace Fontc.FeatVars

/-- `ops` computes on the ranks in `Inv` what `natOps` computes on their values `v`, for `N` rules.  The comparison
    need agree with that of `natOps` only on non-zero ranks, the only ones that survive the filter after the sort; on
    all ranks it has to be a total preorder. -/
structure RefinesNat {ρ : Type} (ops : RankOps ρ) (N : Nat) (Inv : ρ → Prop) (v : ρ → Nat) : Prop where
  zero : Inv ops.zero ∧ v ops.zero = 0
  single : ∀ i, i < N → Inv (ops.single i) ∧ v (ops.single i) = 1 <<< i
  or : ∀ a b, Inv a → Inv b → Inv (ops.or a b) ∧ v (ops.or a b) = v a ||| v b
  orAssign : ∀ a b, Inv a → Inv b → Inv (ops.orAssign a b) ∧ v (ops.orAssign a b) = v a ||| v b
  shift : ∀ a, Inv a → Inv (ops.shift a) ∧ v (ops.shift a) = v a / 2
  isZero : ∀ a, Inv a → ops.isZero a = (v a == 0)
  firstBit : ∀ a, Inv a → ops.firstBit a = (v a).testBit 0
  bound : ∀ a, Inv a → v a < 2 ^ ops.bound a
  le_trans : ∀ a b c, ops.le a b = true → ops.le b c = true → ops.le a c = true
  le_total : ∀ a b, ops.le a b = true ∨ ops.le b a = true
  le_eq : ∀ a b, Inv a → Inv b → v a ≠ 0 → v b ≠ 0 → ops.le a b = natOps.le (v a) (v b)

theorem natOps_le_trans {a b c : Nat} (hab : natOps.le a b = true) (hbc : natOps.le b c = true) :
    natOps.le a c = true :=
  decide_eq_true (Nat.le_trans (of_decide_eq_true hbc) (of_decide_eq_true hab))

theorem natOps_le_total (a b : Nat) : natOps.le a b = true ∨ natOps.le b a = true :=
  (Nat.le_total (popcount b) (popcount a)).imp decide_eq_true decide_eq_true

/-- `m'` is the map `m` with each rank replaced by its value, and the ranks of `m` are in `Inv` -/
def Sim {ρ : Type} (Inv : ρ → Prop) (v : ρ → Nat) (m : BoxMap ρ) (m' : BoxMap Nat) : Prop :=
  (∀ e ∈ m, Inv e.2) ∧ m.map (fun e => (e.1, v e.2)) = m'

section
variable {ρ : Type} {ops : RankOps ρ} {Inv : ρ → Prop} {v : ρ → Nat}

section
variable {N : Nat} (h : RefinesNat ops N Inv v)
include h

theorem sim_initMap (n : Nat) : Sim Inv v (initMap ops n) (initMap natOps n) :=
  ⟨fun e he => by rw [List.mem_singleton.1 he]; exact h.zero.1, by rw [initMap, List.map_singleton, h.zero.2]; rfl⟩

theorem sim_adds (adds : List (NBox × ρ)) (hadds : ∀ x ∈ adds, Inv x.2) :
    ∀ m m', Sim Inv v m m' →
      Sim Inv v (adds.foldl (fun a x => boxmapAdd ops a x.1 x.2) m)
        ((adds.map fun e => (e.1, v e.2)).foldl (fun a x => boxmapAdd natOps a x.1 x.2) m') := by
  induction adds with
  | nil => exact fun _ _ hm => hm
  | cons x adds ih =>
    intro m m' ⟨hinv, hm⟩
    have hx := hadds x List.mem_cons_self
    refine ih (fun y hy => hadds y (List.mem_cons_of_mem _ hy)) _ _ ⟨fun e he => ?_, ?_⟩
    · rcases of_mem_imUpsert he with he | ⟨_, he | ⟨old, ho, he⟩⟩
      · exact hinv e he
      · rw [he]; exact (h.orAssign _ _ h.zero.1 hx).1
      · rw [he]; exact (h.orAssign _ _ (hinv _ ho) hx).1
    · rw [← hm]
      exact imUpsert_map (by rw [(h.orAssign _ _ h.zero.1 hx).2, h.zero.2]; rfl)
        fun e he => (h.orAssign _ _ (hinv e he) hx).2

theorem sim_stepRule {m : BoxMap ρ} {m' : BoxMap Nat} (hm : Sim Inv v m m') (n : Nat) {i : Nat} (hi : i < N) (reg : Region) :
    Sim Inv v (stepRule ops n m i reg) (stepRule natOps n m' i reg) := by
  have hstep : ∀ e ∈ m, ∀ c, (∀ x ∈ stepAdds ops (ops.single i) e.1 e.2 c, Inv x.2) ∧
      (stepAdds ops (ops.single i) e.1 e.2 c).map (fun e => (e.1, v e.2)) =
        stepAdds natOps (natOps.single i) e.1 (v e.2) c := by
    intro e he c
    have hor := h.or e.2 _ (hm.1 e he) (h.single i hi).1
    constructor
    · intro x hx
      rcases mem_stepAdds.1 hx with ⟨_, hx⟩ | ⟨_, hx⟩ <;> rw [hx]
      · exact hor.1
      · exact hm.1 e he
    · rw [(h.single i hi).2] at hor
      unfold stepAdds
      rcases overlayOnto c e.1 with ⟨_ | i, _ | r⟩ <;> simp [hor.2] <;> rfl
  rw [stepRule_eq_adds, stepRule_eq_adds]
  have := sim_adds h (ruleAdds ops m i reg) (fun x hx => by
    obtain ⟨e, he, c, _, hx⟩ := mem_ruleAdds.1 hx
    exact (hstep e he c).1 x hx) _ _ (sim_initMap h n)
  have hmap : (ruleAdds ops m i reg).map (fun e => (e.1, v e.2)) = ruleAdds natOps m' i reg := by
    rw [← hm.2]
    simp only [ruleAdds, List.map_flatMap, List.flatMap_map]
    exact flatMap_congr fun e he => flatMap_congr fun c _ => (hstep e he c).2
  rwa [hmap] at this

theorem sim_overlayLoop (n : Nat) (rs : List Region) :
    ∀ (i : Nat) (m : BoxMap ρ) (m' : BoxMap Nat), i + rs.length ≤ N → Sim Inv v m m' →
      Sim Inv v (overlayLoop ops n rs i m) (overlayLoop natOps n rs i m') := by
  induction rs with
  | nil => exact fun _ _ _ _ hm => hm
  | cons r rs ih =>
    intro i m m' hi hm
    simp only [List.length_cons] at hi
    exact ih (i + 1) _ _ (by omega) (sim_stepRule h hm n (by omega) r)

theorem sim_extract {subs : List Subs} :
    ∀ (f f' : Nat) (r : ρ) (i : Nat), Inv r → v r < 2 ^ f → v r < 2 ^ f' →
      extract ops subs f r i = extract natOps subs f' (v r) i := by
  have hzero : ∀ f r i, Inv r → v r = 0 → extract ops subs f r i = some [] := fun f r i hr hz => by
    have : ops.isZero r = true := by rw [h.isZero r hr, hz]; rfl
    cases f <;> rw [extract, if_pos this]
  intro f
  induction f with
  | zero =>
    intro f' r i hr hf _
    have hz : v r = 0 := Nat.lt_one_iff.1 hf
    rw [hzero 0 r i hr hz, hz, extract_nat_zero]
  | succ f ih =>
    intro f' r i hr hf hf'
    by_cases hz : v r = 0
    · rw [hzero _ r i hr hz, hz, extract_nat_zero]
    · cases f' with
      | zero => exact absurd (Nat.lt_one_iff.1 hf') hz
      | succ f' =>
        have hs := h.shift r hr
        rw [Nat.pow_succ] at hf hf'
        rw [extract_nat_succ hz, ← hs.2,
          ← ih f' _ (i + 1) hs.1 (by rw [hs.2]; omega) (by rw [hs.2]; omega), extract,
          if_neg (by rw [h.isZero r hr, beq_false_of_ne hz]; exact Bool.false_ne_true), h.firstBit r hr]
        rfl
end

theorem overlayCore_eq_nat {n : Nat} {cs : List Rule} (h : RefinesNat ops cs.length Inv v) :
    overlayCore ops n cs = overlayCore natOps n cs := by
  obtain ⟨hinv, hmap⟩ := sim_overlayLoop h n (cs.map (·.1)) 0 _ _ (by simp) (sim_initMap h n)
  unfold overlayCore
  simp only []
  generalize overlayLoop ops n (cs.map (·.1)) 0 (initMap ops n) = m at hinv hmap
  rw [← hmap]
  have hnz : ∀ e ∈ m, (!ops.isZero e.2) = !natOps.isZero (v e.2) := fun e he => by rw [h.isZero _ (hinv e he)]; rfl
  -- both sorts are stable and by a total preorder, so the zero ranks may be dropped first; on the other ranks the
  -- two comparisons agree
  have hsort : ((sortedBoxes ops m).filter fun e => !ops.isZero e.2).map (fun e => (e.1, v e.2)) =
      (sortedBoxes natOps (m.map fun e => (e.1, v e.2))).filter fun e => !natOps.isZero e.2 := by
    unfold sortedBoxes
    have hfilt : (insSort (fun a b : NBox × ρ => ops.le a.2 b.2) m).filter (fun e => !ops.isZero e.2) =
        (insSort (fun a b : NBox × ρ => ops.le a.2 b.2) m).filter
          ((fun e : NBox × Nat => !natOps.isZero e.2) ∘ fun e => (e.1, v e.2)) :=
      List.filter_congr fun e he => hnz e (mem_insSort.1 he)
    rw [hfilt, ← List.filter_map, ← List.filterMap_eq_filter,
      List.filterMap_map,
      (insSort_spec fun a b : NBox × ρ => ops.le a.2 b.2).filterMap_sort
        (insSort_spec fun a b : NBox × Nat => natOps.le a.2 b.2)
        (fun {a b c} => h.le_trans a.2 b.2 c.2) (fun a b => h.le_total a.2 b.2) _ ?_,
      (insSort_spec fun a b : NBox × Nat => natOps.le a.2 b.2).filterMap_sort
        (insSort_spec fun a b : NBox × Nat => natOps.le a.2 b.2)
        (fun {a b c} => natOps_le_trans) (fun a b => natOps_le_total a.2 b.2) _ ?_,
      List.filterMap_map]
    · intro x _ x' hx y _ y' hy
      rw [(Option.guard_eq_some_iff.1 hx).1, (Option.guard_eq_some_iff.1 hy).1]
    · intro a ha a' hga b hb b' hgb
      obtain ⟨rfl, hza⟩ := Option.guard_eq_some_iff.1 hga
      obtain ⟨rfl, hzb⟩ := Option.guard_eq_some_iff.1 hgb
      exact (h.le_eq _ _ (hinv a ha) (hinv b hb) (by simpa [natOps] using hza) (by simpa [natOps] using hzb)).symm
  rw [← hsort, List.mapM_map]
  refine mapM_option_congr fun e he => ?_
  have hie := hinv e (mem_insSort.1 (List.mem_filter.1 he).1)
  show (extract ops _ (ops.bound e.2) e.2 0).map _ = (extract natOps _ (v e.2) (v e.2) 0).map _
  rw [sim_extract h _ (v e.2) _ _ hie (h.bound _ hie) Nat.lt_two_pow_self]

theorem overlayFeatureVariations_eq_nat {n : Nat} {rules : List Rule}
    (h : RefinesNat ops (mergedRules rules).length Inv v) :
    overlayFeatureVariations ops n rules = overlayFeatureVariations natOps n rules :=
  overlayCore_eq_nat h
end

end Fontc.FeatVars
