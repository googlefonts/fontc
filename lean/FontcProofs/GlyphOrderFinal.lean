/-
  `resolve` (the queue that creates derived glyphs), `ensureNotdef`, and what a successful run of `finalOrder`
  looks like (`FinalShape`), read against the source.
-/
import FontcProofs.GlyphOrderBasic
import FontcProofs.GlyphOrderNames
import FontcProofs.GlyphOrderTable

namespace Fontc.GlyphOrder

/-- Order and table while the queue runs, against the table `T0` and the order `init` it started from. -/
structure Shape (T0 : Table) (init order : List String) (table : Table) : Prop where
  nodup : order.Nodup
  order_eq : ∃ derived, order = init ++ derived ∧ ∀ x ∈ derived, ∃ b k, b ∈ init ∧ x = suffixed b k
  get_meta : ∀ n ∈ order, (table.get n).map Glyph.meta =
    if n ∈ init then (T0.get n).map Glyph.meta else some (n, true, [])

theorem Shape.set {T0 init order table} (h : Shape T0 init order table) {g : Glyph} (hg : g.name ∈ init)
    (hm : (T0.get g.name).map Glyph.meta = some g.meta) : Shape T0 init order (table.set g) :=
  ⟨h.nodup, h.order_eq, fun n hn => by
    rw [Table.get_set]
    split
    · rename_i e; subst e; rw [if_pos hg, hm]; rfl
    · exact h.get_meta n hn⟩

theorem Shape.push {T0 init order table} (h : Shape T0 init order table) {b : String} (hb : b ∈ init) {k : Nat}
    {g : Glyph} (hx : g.name ∉ order) (hname : g.name = suffixed b k) (hm : g.meta = (g.name, true, [])) :
    Shape T0 init (order ++ [g.name]) (table.set g) := by
  obtain ⟨derived, hord, hform⟩ := h.order_eq
  refine ⟨nodup_snoc h.nodup hx, ⟨derived ++ [g.name], by rw [hord, List.append_assoc], ?_⟩, fun n hn => ?_⟩
  · intro x hx
    rcases List.mem_append.mp hx with hx | hx
    · exact hform x hx
    · exact ⟨b, k, hb, List.mem_singleton.mp hx ▸ hname⟩
  · rw [Table.get_set]
    split
    · rename_i e; subst e
      rw [if_neg fun hi => hx (hord ▸ List.mem_append_left _ hi)]
      exact congrArg some hm
    · rename_i e
      exact h.get_meta n ((List.mem_append.mp hn).resolve_right fun hs => e (List.mem_singleton.mp hs).symm)

/-- `apply_fix` for a glyph of the initial order: contours only (a rewrite), or contours moved to a made glyph. -/
theorem Shape.applyFix {T0 init} {st : RState} (h : Shape T0 init st.order st.table) (op : Op) {g : Glyph}
    (hg : g.name ∈ init) (he : g.exported = true) (hm : (T0.get g.name).map Glyph.meta = some g.meta) :
    Shape T0 init (applyFix st op g).order (applyFix st op g).table := by
  cases op with
  | convertToContour => exact h.set (g := { g with components := [], hasContours := true }) hg hm
  | moveContoursToComponent =>
    have hfresh : nameForDerivative g.name st.order ∉ st.order := nameForDerivative_not_mem _ _
    show Shape T0 init (ixInsert st.order _) ((st.table.set _).set _)
    rw [ixInsert_of_not_mem hfresh]
    exact (h.push (g := { g with name := nameForDerivative g.name st.order, components := [], codepoints := [] })
      hg hfresh rfl (by simp [Glyph.meta, he])).set (g := { g with hasContours := false, components := _ }) hg hm

/-- The invariant of the queue `resolve` (`T0`, `init`: table and order when it starts). -/
structure RInv (T0 : Table) (init : List String) (st : RState) : Prop extends Shape T0 init st.order st.table where
  todo_ok : ∀ x ∈ st.todo, x.2.name ∈ init ∧ x.2.exported = true ∧ (T0.get x.2.name).map Glyph.meta = some x.2.meta

theorem RInv.defer {T0 init} {st : RState} {op g rest} (he : st.todo = (op, g) :: rest)
    (h : RInv T0 init st) : RInv T0 init { st with todo := rest ++ [(op, g)] } :=
  ⟨h.toShape, fun x hx => h.todo_ok x (he ▸ (List.perm_append_singleton (op, g) rest).mem_iff.mp hx)⟩

theorem RInv.apply {T0 init} {st : RState} {op g rest}
    (he : st.todo = (op, g) :: rest) (h : RInv T0 init st) :
    RInv T0 init { applyFix { st with todo := rest } op g with
      pending := (applyFix { st with todo := rest } op g).pending.filter (· ≠ g.name) } := by
  obtain ⟨hg, hexp, hm⟩ := h.todo_ok (op, g) (he ▸ List.mem_cons_self)
  refine ⟨h.toShape.applyFix (st := { st with todo := rest }) op hg hexp hm, fun x hx => ?_⟩
  have hx' : x ∈ rest := by cases op <;> exact hx
  exact h.todo_ok x (he ▸ List.mem_cons_of_mem _ hx')

theorem RInv.of_resolve {T0 init d fuel} {st st' : RState} (hI : RInv T0 init st)
    (h : resolve d fuel st = some st') : RInv T0 init st' := by
  fun_induction resolve d fuel st with
  | case1 st he => exact Option.some.inj h ▸ hI
  | case2 st he => cases h
  | case3 fuel st he => exact Option.some.inj h ▸ hI
  | case4 fuel st op g rest he _ ih => exact ih (hI.defer he) h
  | case5 fuel st op g rest he _ _ ih => exact ih (hI.apply he) h

theorem todoOf_ok (preferSimple : Bool) {kept : List String} {t : Table}
    (hexp : ∀ n ∈ kept, t.isExport n = true) :
    ∀ x ∈ todoOf preferSimple kept t,
      x.2.name ∈ kept ∧ x.2.exported = true ∧ (t.get x.2.name).map Glyph.meta = some x.2.meta := by
  intro x hx
  unfold todoOf at hx
  obtain ⟨n, hn, hsome⟩ := List.mem_filterMap.mp hx
  -- a queued glyph is the table's glyph under a name of `kept`, whatever the operation
  obtain ⟨g, hg, he⟩ := Table.isExport_iff.mp (hexp n hn)
  simp only [hg] at hsome
  have hx2 : x.2 = g := by
    split at hsome
    · injection hsome with e; rw [← e]
    · split at hsome
      · injection hsome with e; rw [← e]
      · simp at hsome
  rw [hx2, Table.get_name hg]
  exact ⟨hn, he, by rw [hg]; rfl⟩

theorem ensureNotdef_order (f : Final) : (ensureNotdef f).order = notdef :: f.order.erase notdef := by
  unfold ensureNotdef
  split <;> simp [setGlyphId0_eq]

theorem ensureNotdef_meta (f : Final) (n : String) :
    ((ensureNotdef f).table.get n).map Glyph.meta =
      if notdef ∉ f.order ∧ n = notdef then some (notdef, true, []) else (f.table.get n).map Glyph.meta := by
  unfold ensureNotdef
  cases hi : ixIndexOf notdef f.order with
  | some i => rw [if_neg fun h => h.1 (List.mem_of_getElem? (ixIndexOf_get hi))]
  | none =>
    have hmem := ixIndexOf_eq_none.mp hi
    simp only [Table.get_set]
    by_cases e : notdef = n
    · subst e; simp [hmem, Glyph.meta]
    · have e' : ¬ (notdef ∉ f.order ∧ n = notdef) := fun c => e c.2.symm
      simp [e, e']

theorem mem_kept {s : Source} {n : String} (hnames : (s.glyphs.map (·.name)).Nodup) :
    n ∈ s.kept ↔ n ∈ s.prelim ∧ ∃ g ∈ s.glyphs, g.name = n ∧ g.exported = true := by
  unfold Source.kept Source.table
  rw [List.mem_filter]
  constructor
  · rintro ⟨hp, hexp⟩
    obtain ⟨g, hg, he⟩ := Table.isExport_iff.mp hexp
    exact ⟨hp, g, Table.mem_of_get_ofList hg, Table.get_name hg, he⟩
  · rintro ⟨hp, g, hg, rfl, hexp⟩
    exact ⟨hp, Table.isExport_iff.mpr ⟨g, Table.get_ofList_of_mem hnames hg, hexp⟩⟩

/-- Everything the theorems of C06 need to know about a successful run of `finalOrder`; `derived` are the glyphs made
    by splitting, in the order they were made. -/
structure FinalShape (s : Source) (f : Final) (derived : List String) : Prop where
  order_eq : f.order = notdef :: (s.kept.erase notdef ++ derived)
  nodup : (s.kept ++ derived).Nodup
  derived_form : ∀ x ∈ derived, x ≠ notdef ∧ ∃ b k, b ∈ s.kept ∧ x = suffixed b k
  kept_meta : ∀ n ∈ s.kept, (f.table.get n).map Glyph.meta = (s.table.get n).map Glyph.meta
  made_meta : ∀ n ∈ f.order, n ∉ s.kept → (f.table.get n).map Glyph.meta = some (n, true, [])

/-- The stages of a successful `finalOrder`: `t1` is the table after `pruneMissing` and `flattenAll`, `st` the state
    the queue ended in. -/
theorem finalOrder_run {s : Source} {f : Final} (h : finalOrder s = some f) :
    ∃ (t1 : Table) (d fuel : Nat) (st : RState),
      SameMeta s.table t1 ∧ (∀ n ∈ s.prelim, (t1.get n).isSome = true) ∧ s.kept = s.prelim.filter t1.isExport ∧
      resolve d fuel ⟨decomposeDangling s.kept t1, s.kept, (todoOf s.preferSimple s.kept t1).map (·.2.name),
        todoOf s.preferSimple s.kept t1⟩ = some st ∧
      ensureNotdef { order := st.order, table := st.table } = f := by
  unfold finalOrder at h
  simp only at h
  generalize ht0 : pruneMissing (s.glyphs.map (·.name)) (Table.ofList s.glyphs) = t0 at h
  generalize ht1 : flattenAll (depthSorted (s.glyphs.map (·.name)) t0) t0 = t1 at h
  have hsm1 : SameMeta s.table t1 := by
    rw [← ht1, ← ht0]
    exact (pruneMissing_sameMeta _ _).trans (flattenAll_sameMeta _ _)
  cases hk : keptOrder s.prelim t1 with
  | none => simp [hk] at h
  | some kept =>
    simp only [hk] at h
    obtain ⟨hkept, hknown⟩ := keptOrder_eq hk
    have hkept' : kept = s.kept :=
      hkept.trans (List.filter_congr fun n _ => (hsm1.isExport n).symm)
    subst hkept'
    split at h
    · cases h
    · rename_i st hres
      exact ⟨t1, _, _, st, hsm1, hknown, hkept, hres, Option.some.inj h⟩

/-- a name of the preliminary order without a glyph makes `context.get_glyph` panic: `keptOrder` is `none` -/
theorem finalOrder_prelim_known {s : Source} {f : Final} (h : finalOrder s = some f) {n : String}
    (hn : n ∈ s.prelim) : ∃ g ∈ s.glyphs, g.name = n := by
  obtain ⟨t1, _, _, _, hsm1, hknown, _⟩ := finalOrder_run h
  have hsome := (hsm1.isSome n).trans (hknown n hn)
  obtain ⟨g, hg⟩ := Option.isSome_iff_exists.mp hsome
  exact ⟨g, Table.mem_of_get_ofList hg, Table.get_name hg⟩

theorem finalOrder_shape {s : Source} {f : Final} (hnd : s.prelim.Nodup) (h : finalOrder s = some f) :
    ∃ derived, FinalShape s f derived := by
  -- `RInv` holds when the queue starts (`h0`), hence when it ends (`hinv`); `ensureNotdef` then only moves or makes `.notdef`
  obtain ⟨t1, d, fuel, st, hsm1, _, hkept, hres, h⟩ := finalOrder_run h
  generalize hQ : todoOf s.preferSimple s.kept t1 = Q at hres
  generalize hT0 : decomposeDangling s.kept t1 = T0 at hres
  have hsm2 : SameMeta s.table T0 := by
    rw [← hT0]; exact hsm1.trans (decomposeDangling_sameMeta _ _)
  have hexp : ∀ n ∈ s.kept, t1.isExport n = true := fun n hn => (List.mem_filter.mp (hkept ▸ hn)).2
  have h0 : RInv T0 s.kept ⟨T0, s.kept, Q.map (·.2.name), Q⟩ := by
    refine ⟨⟨hkept ▸ hnd.sublist List.filter_sublist, ⟨[], by simp, by simp⟩, fun n hn => (if_pos hn).symm⟩,
      fun x hx => ?_⟩
    obtain ⟨a, b, c⟩ := todoOf_ok s.preferSimple hexp x (hQ ▸ hx)
    exact ⟨a, b, (hT0 ▸ decomposeDangling_sameMeta s.kept t1 x.2.name).symm.trans c⟩
  have hinv := h0.of_resolve hres
  obtain ⟨derived, hord, hform⟩ := hinv.order_eq
  have hnd2 : (s.kept ++ derived).Nodup := hord ▸ hinv.nodup
  have hnotdef : notdef ∉ derived := fun hx => by
    obtain ⟨b, k, _, e⟩ := hform _ hx
    exact suffixed_ne_notdef b k e.symm
  have horder : f.order = notdef :: (s.kept.erase notdef ++ derived) := by
    rw [← h, ensureNotdef_order]
    show notdef :: st.order.erase notdef = _
    rw [hord]
    by_cases hk : notdef ∈ s.kept
    · rw [List.erase_append_left _ hk]
    · rw [List.erase_append_right _ hk, List.erase_of_not_mem hk, List.erase_of_not_mem hnotdef]
  refine ⟨derived, horder, hnd2, ?_, ?_, ?_⟩
  · exact fun x hx => ⟨fun e => hnotdef (e ▸ hx), hform x hx⟩
  · intro n hn
    have hmem : n ∈ st.order := hord ▸ List.mem_append_left _ hn
    rw [← h, ensureNotdef_meta, if_neg fun c => c.1 (c.2 ▸ hmem), hinv.get_meta n hmem, if_pos hn]
    exact (hsm2 n).symm
  · intro n hn hnk
    rw [← h, ensureNotdef_meta]
    split
    · rename_i c; rw [c.2]
    · rename_i c
      -- `n` is not a synthesised `.notdef`: it comes from the queue's order, hence is derived
      have hmem : n ∈ st.order := by
        rw [horder] at hn
        rcases List.mem_cons.mp hn with e | e
        · exact Decidable.not_not.mp fun hno => c ⟨e ▸ hno, e⟩
        · rw [hord]
          exact (List.mem_append.mp e).imp List.mem_of_mem_erase id |> List.mem_append.mpr
      rw [hinv.get_meta n hmem, if_neg hnk]

theorem FinalShape.mem_order {s : Source} {f : Final} {derived : List String} (hs : FinalShape s f derived)
    (n : String) : n ∈ f.order ↔ n = notdef ∨ n ∈ s.kept ∨ n ∈ derived := by
  rw [hs.order_eq, List.mem_cons, List.mem_append]
  by_cases hn : n = notdef
  · simp [hn]
  · rw [List.mem_erase_of_ne hn]

theorem FinalShape.made_form {s : Source} {f : Final} {derived : List String} (hs : FinalShape s f derived)
    {n : String} (hn : n ∈ f.order) (hk : n ∉ s.kept) : n = notdef ∨ ∃ b k, b ∈ s.kept ∧ n = suffixed b k :=
  ((hs.mem_order n).mp hn).imp_right fun h => (hs.derived_form n (h.resolve_left hk)).2

theorem FinalShape.order_nodup {s : Source} {f : Final} {derived : List String} (hs : FinalShape s f derived) :
    f.order.Nodup := by
  have hnd := List.nodup_append.mp hs.nodup
  rw [hs.order_eq, List.nodup_cons, List.mem_append, not_or]
  refine ⟨⟨fun h => ((List.Nodup.mem_erase_iff hnd.1).mp h).1 rfl, fun h => (hs.derived_form _ h).1 rfl⟩, ?_⟩
  exact List.nodup_append.mpr ⟨hnd.1.sublist List.erase_sublist, hnd.2.1,
    fun a ha b hb => hnd.2.2 a (List.mem_of_mem_erase ha) b hb⟩

end Fontc.GlyphOrder
