/-
  Triangularity of the variation model (fontdrasil/src/variations.rs: regions_for, master_influence,
  scalar_at) — the central lemma behind C03/C04/C07/C09/C10.

  For ANY list of locations `locs` and `infl := masterInfluence (regionsFor locs)`:
    T1 `masterInfluence_length`        infl.length = locs.length
    T2 `masterInfluence_self_scalar`   scalarAt infl[j] locs[j] = 1
    T4 `masterInfluence_tentOrd`       every tent is sign-correct (`TentOrd`), hence valid; C07-well-formed for
                                       coordinates in [-1,1] (`masterInfluence_wellFormed`)
    T5 `scalarAt_bounds`               0 ≤ scalarAt r p ≤ 1 (true of any list of tents, at any location)
  and for locations with (H1) a common axis count, (H2) pairwise distinct entries and (H3) non-decreasing rank
  (number of non-zero coordinates):
    T3 `masterInfluence_triangular`    i < j → scalarAt infl[j] locs[i] = 0

  A region remembers its location in its peaks (`peaks`): `regionFor` puts every coordinate at a peak and no cut moves a
  peak.  A step, on any region and against ANY previous region, leaves the region cut down (`Keeps`, a preorder), and
  afterwards the previous region, if it has the same length and active axes and another location, fails the overlap test;
  by `Keeps` it still fails it at the end of the loop.  Nothing is asked of the previous regions, so neither loop needs an
  invariant of its accumulator (the outer loop is `accMap` of ListFacts).  T2 and T4 are read off `Keeps` of the region
  `regionFor` builds.  T3: an earlier location either lacks one of the region's axes, where a sign-correct active tent is
  0, or has the same support by the ranks (`support_eq`); then the regions do not overlap, which for sign-correct tents
  means scalar 0.
-/
import FontcModel.VarModel
import FontcProofs.ListFacts

namespace Fontc.VarModel.Geom
open Fontc Fontc.VarModel

theorem neg_div_neg (a b : Rat) : (-a) / (-b) = a / b := by
  rw [Rat.div_def, Rat.div_def, Lean.Grind.Field.inv_neg, Rat.neg_mul, Rat.mul_neg, Rat.neg_neg]

theorem ramp_bounds {a b : Rat} (h : (0 < a ∧ a < b) ∨ (b < a ∧ a < 0)) : 0 < a / b ∧ a / b < 1 := by
  have pos : ∀ {a b : Rat}, 0 < a → a < b → 0 < a / b ∧ a / b < 1 := fun {a b} ha hb =>
    have hb0 : 0 < b := by grind
    ⟨(Rat.lt_div_iff hb0).2 (by rwa [Rat.zero_mul]), (Rat.div_lt_iff hb0).2 (by rwa [Rat.one_mul])⟩
  rcases h with h | h
  · exact pos h.1 h.2
  · rw [← neg_div_neg]
    exact pos (by grind) (Rat.neg_lt_neg h.1)

theorem unit_mul {a b : Rat} (ha : 0 ≤ a ∧ a ≤ 1) (hb : 0 ≤ b ∧ b ≤ 1) : 0 ≤ a * b ∧ a * b ≤ 1 := by
  have h1 := Rat.mul_nonneg ha.1 hb.1
  have h2 := Rat.mul_nonneg (a := 1 - a) (b := b) (by grind) hb.1
  grind

theorem validate_iff (t : Tent) : t.validate = true ↔
    (t.min ≤ t.peak ∧ t.peak ≤ t.max ∧ ¬ (t.min < 0 ∧ 0 < t.max)) := by
  simp only [Tent.validate, Bool.or_eq_true, Bool.and_eq_true, decide_eq_true_eq]
  grind

theorem tentFactor_peak (t : Tent) : tentFactor t t.peak = 1 := by
  simp [tentFactor]

theorem tentFactor_cases (t : Tent) (v : Rat) :
    tentFactor t v = 1 ∨ tentFactor t v = 0 ∨
    (t.min < v ∧ v < t.peak ∧ tentFactor t v = (v - t.min) / (t.peak - t.min)) ∨
    (t.peak < v ∧ v < t.max ∧ tentFactor t v = (v - t.max) / (t.peak - t.max)) := by
  unfold tentFactor
  by_cases h1 : (!t.validate) = true
  · exact .inl (if_pos h1)
  rw [if_neg h1]
  by_cases h2 : v = t.peak
  · exact .inl (if_pos h2)
  rw [if_neg h2]
  by_cases h3 : t.min = 0 ∧ t.peak = 0 ∧ t.max = 0
  · exact .inl (if_pos h3)
  rw [if_neg h3]
  by_cases h4 : v ≤ t.min ∨ t.max ≤ v
  · exact .inr (.inl (if_pos h4))
  rw [if_neg h4]
  have ⟨h5, h6⟩ := not_or.1 h4
  by_cases h7 : v < t.peak
  · exact .inr (.inr (.inl ⟨Rat.not_le.1 h5, h7, if_pos h7⟩))
  · exact .inr (.inr (.inr ⟨Rat.lt_of_le_of_ne (Rat.not_lt.1 h7) (Ne.symm h2), Rat.not_le.1 h6, if_neg h7⟩))

/-- For every tent whatsoever: an invalid tent has factor 1. -/
theorem tentFactor_bounds (t : Tent) (v : Rat) :
    0 ≤ tentFactor t v ∧ tentFactor t v ≤ 1 := by
  rcases tentFactor_cases t v with h | h | ⟨h1, h2, h⟩ | ⟨h1, h2, h⟩ <;> rw [h]
  · decide
  · decide
  · have := ramp_bounds (a := v - t.min) (b := t.peak - t.min) (by grind)
    exact ⟨Rat.le_of_lt this.1, Rat.le_of_lt this.2⟩
  · have := ramp_bounds (a := v - t.max) (b := t.peak - t.max) (by grind)
    exact ⟨Rat.le_of_lt this.1, Rat.le_of_lt this.2⟩

theorem scalarAt_bounds (r : Region) (p : Loc) : 0 ≤ scalarAt r p ∧ scalarAt r p ≤ 1 := by
  fun_induction scalarAt r p with
  | case1 => decide
  | case2 t ts ih => exact unit_mul (tentFactor_bounds t 0) ih
  | case3 t ts v vs ih => exact unit_mul (tentFactor_bounds t v) ih

theorem scalarAt_eq_zero {r : Region} {l : Loc}
    (h : ∃ (a : Nat) (t : Tent) (v : Rat), r[a]? = some t ∧ l[a]? = some v ∧ tentFactor t v = 0) : scalarAt r l = 0 := by
  fun_induction scalarAt r l with
  | case1 => simp at h
  | case2 t ts ih => simp at h
  | case3 t ts v vs ih =>
    obtain ⟨a, t', v', h1, h2, h3⟩ := h
    cases a with
    | zero =>
      simp at h1 h2
      subst h1 h2
      simp [h3, Rat.zero_mul]
    | succ a =>
      simp at h1 h2
      rw [ih ⟨a, t', v', h1, h2, h3⟩, Rat.mul_zero]

/-- The peaks of a region, axis by axis: the location the region was built for (`peaks_regionFor`), where it is 1
    (`scalarAt_peaks`). -/
def peaks (r : Region) : Loc := r.map (·.peak)

theorem getElem?_peaks (r : Region) (a : Nat) : (peaks r)[a]? = r[a]?.map (·.peak) :=
  List.getElem?_map ..

theorem scalarAt_peaks (r : Region) : scalarAt r (peaks r) = 1 := by
  induction r with
  | nil => rfl
  | cons t ts ih => simp only [peaks, List.map_cons, scalarAt, tentFactor_peak, Rat.one_mul]; exact ih

theorem applyCuts_getElem? (r : Region) (cuts : List (Nat × Tent)) (a : Nat) :
    (applyCuts r cuts)[a]? = r[a]?.map (fun t =>
      match cuts.find? (fun c => c.1 == a) with
      | some c => c.2
      | none => t) := by
  simp [applyCuts, List.getElem?_map, List.getElem?_zipIdx]
  cases r[a]? <;> simp
  rfl

/-- A sign-correct tent: all zero if its peak is 0; otherwise the support lies on the peak's side of 0 and the peak is not
    its end nearer 0 (it may be the far end).  What `regionFor` builds (`regionFor_tentOrd`) and every cut keeps (`Shr`);
    it implies `Tent.validate`. -/
def TentOrd (t : Tent) : Prop :=
  (t.peak = 0 → t.min = 0 ∧ t.max = 0) ∧
  (0 < t.peak → 0 ≤ t.min ∧ t.min < t.peak ∧ t.peak ≤ t.max) ∧
  (t.peak < 0 → t.min ≤ t.peak ∧ t.peak < t.max ∧ t.max ≤ 0)

theorem TentOrd.validate {t : Tent} (h : TentOrd t) : t.validate = true := by
  rw [validate_iff]; unfold TentOrd at h; grind

theorem TentOrd.hasNonZero {t : Tent} (h : TentOrd t) : t.hasNonZero = true ↔ t.peak ≠ 0 := by
  unfold TentOrd at h
  simp [Tent.hasNonZero]
  grind

theorem tentFactor_eq_zero {t : Tent} {v : Rat} (ho : TentOrd t) (h1 : v ≠ t.peak)
    (h2 : t.peak ≠ 0) (h3 : v ≤ t.min ∨ t.max ≤ v) : tentFactor t v = 0 := by
  unfold tentFactor
  simp [ho.validate, h1, h2, h3]

/-- A sign-correct tent never has 0 inside its open support. -/
theorem tentFactor_at_zero {t : Tent} (ho : TentOrd t) (h : t.peak ≠ 0) : tentFactor t 0 = 0 :=
  tentFactor_eq_zero ho h.symm h (by unfold TentOrd at ho; grind)

theorem colMax_spec (locs : List Loc) (i : Nat) :
    0 ≤ colMax locs i ∧ (∀ l ∈ locs, l.getD i 0 ≤ colMax locs i) ∧
    (colMax locs i = 0 ∨ ∃ l ∈ locs, l.getD i 0 = colMax locs i) :=
  foldl_select_map selects_max_rat (fun l : Loc => l.getD i 0) rfl

theorem colMin_spec (locs : List Loc) (i : Nat) :
    colMin locs i ≤ 0 ∧ (∀ l ∈ locs, colMin locs i ≤ l.getD i 0) ∧
    (colMin locs i = 0 ∨ ∃ l ∈ locs, l.getD i 0 = colMin locs i) :=
  foldl_select_map selects_min_rat (fun l : Loc => l.getD i 0) rfl

theorem length_regionFor (locs : List Loc) (l : Loc) : (regionFor locs l).length = l.length := by
  simp [regionFor]

theorem regionFor_getElem? (locs : List Loc) (l : Loc) (a : Nat) :
    (regionFor locs l)[a]? = l[a]?.map (fun v =>
      if v = 0 then Tent.new 0 0 0 else Tent.new (colMin locs a) v (colMax locs a)) := by
  simp [regionFor, List.getElem?_map, List.getElem?_zipIdx]
  cases l[a]? <;> simp

theorem Tent.new_peak (mn pk mx : Rat) : (Tent.new mn pk mx).peak = pk := by
  unfold Tent.new; split <;> rfl

theorem peaks_regionFor (locs : List Loc) (l : Loc) : peaks (regionFor locs l) = l := by
  apply List.ext_getElem?
  intro a
  rw [getElem?_peaks, regionFor_getElem?]
  cases l[a]? with
  | none => rfl
  | some v => simp only [Option.map_some]; split <;> rw [Tent.new_peak] <;> simp [*]

theorem tentOrd_new {mn pk mx : Rat} (h1 : mn ≤ pk) (h2 : pk ≤ mx) (h0 : pk = 0 → mn = 0) :
    TentOrd (Tent.new mn pk mx) := by
  unfold Tent.new TentOrd
  split <;> grind

theorem regionFor_tentOrd {locs : List Loc} {l : Loc} (hl : l ∈ locs) (t : Tent) (ht : t ∈ regionFor locs l) :
    TentOrd t := by
  obtain ⟨a, h1⟩ := List.getElem?_of_mem ht
  rw [regionFor_getElem?] at h1
  obtain ⟨v, h2, rfl⟩ := Option.map_eq_some_iff.1 h1
  have hv : l.getD a 0 = v := by simp [List.getD, h2]
  split
  · exact tentOrd_new Rat.le_refl Rat.le_refl (fun _ => rfl)
  · exact tentOrd_new (hv ▸ (colMin_spec locs a).2.1 l hl) (hv ▸ (colMax_spec locs a).2.1 l hl) (fun h => absurd h ‹_›)

/-- The ends of the tents `regionFor` builds are 0 or coordinates of the locations. -/
theorem regionFor_ends {P : Rat → Prop} (h0 : P 0) {locs : List Loc} (hb : ∀ l ∈ locs, ∀ x ∈ l, P x)
    {l : Loc} {t : Tent} (ht : t ∈ regionFor locs l) : P t.min ∧ P t.max := by
  have hcol : ∀ a x, (x = 0 ∨ ∃ l ∈ locs, l.getD a 0 = x) → P x := by
    rintro a x (rfl | ⟨l', hl', rfl⟩)
    · exact h0
    · cases h : l'[a]? with
      | none => simpa [List.getD, h] using h0
      | some y => simpa [List.getD, h] using hb l' hl' y (List.mem_of_getElem? h)
  obtain ⟨a, h1⟩ := List.getElem?_of_mem ht
  rw [regionFor_getElem?] at h1
  obtain ⟨v, -, rfl⟩ := Option.map_eq_some_iff.1 h1
  have new_ends : ∀ mn pk mx : Rat, P mn → P mx → P (Tent.new mn pk mx).min ∧ P (Tent.new mn pk mx).max :=
    fun mn pk mx h1 h2 => by
      unfold Tent.new; split
      · exact ⟨h0, h2⟩
      · exact ⟨h1, h0⟩
  split
  · exact new_ends 0 0 0 h0 h0
  · exact new_ends _ _ _ (hcol a _ (colMin_spec locs a).2.2) (hcol a _ (colMax_spec locs a).2.2)

/-- The tent `t` cut at the peak of `p`: that peak becomes the end of `t` on its side. -/
def cutTent (t p : Tent) : Tent :=
  if p.peak < t.peak then { t with min := p.peak } else { t with max := p.peak }
/-- The distance of the peak of `p` from the peak of `t`, as a fraction of the side of `t` it lies on: what the search maximises. -/
def cutRatio (t p : Tent) : Rat :=
  if p.peak < t.peak then (p.peak - t.peak) / (t.min - t.peak)
  else (p.peak - t.peak) / (t.max - t.peak)
/-- The axis is a candidate for a cut: `t` is active and the two peaks differ (the two tests `cutAxis` starts with). -/
def Cand (t p : Tent) : Prop := t.hasNonZero = true ∧ p.peak ≠ t.peak

/-- One axis of the best-ratio search (variations.rs:897-926), with the ratio and the cut tent under their names. -/
theorem cutAxis_eq (st : Cuts) (i : Nat) (t p : Tent) : cutAxis st i t p =
    if !t.hasNonZero then st else if p.peak = t.peak then st else
      let st' := if st.best < cutRatio t p then { best := cutRatio t p, cuts := [] } else st
      if cutRatio t p = st'.best then { st' with cuts := st'.cuts ++ [(i, cutTent t p)] } else st' := by
  unfold cutAxis cutRatio cutTent
  by_cases h : p.peak < t.peak <;> simp only [h, if_true, if_false]

theorem cutAxis_cases (st : Cuts) (i : Nat) (t p : Tent) :
    (cutAxis st i t p = st ∧ (Cand t p → cutRatio t p < st.best)) ∨
    (Cand t p ∧ ∃ cs, (cs = [] ∨ cs = st.cuts) ∧ (cutAxis st i t p).cuts = cs ++ [(i, cutTent t p)]) := by
  rw [cutAxis_eq]
  by_cases hc : Cand t p
  · rw [if_neg (by simpa using hc.1), if_neg hc.2]
    by_cases h1 : st.best < cutRatio t p
    · simp only [h1, if_true]; exact .inr ⟨hc, [], .inl rfl, rfl⟩
    · simp only [h1, if_false]
      by_cases h2 : cutRatio t p = st.best
      · rw [if_pos h2]; exact .inr ⟨hc, st.cuts, .inr rfl, rfl⟩
      · rw [if_neg h2]; exact .inl ⟨rfl, fun _ => Rat.lt_of_le_of_ne (Rat.not_lt.1 h1) h2⟩
  · refine .inl ⟨?_, fun h => absurd h hc⟩
    unfold Cand at hc
    by_cases h1 : t.hasNonZero = true
    · rw [if_neg (by simpa using h1), if_pos (Classical.not_not.1 fun h => hc ⟨h1, h⟩)]
    · rw [if_pos (by simpa using h1)]

/-- Invariant of the search: there are cuts, or no ratio above -1 has been met yet. -/
def CutsOrInitial (st : Cuts) : Prop := st.cuts ≠ [] ∨ st.best ≤ -1

theorem cutAxis_spec {st : Cuts} {i : Nat} {t p : Tent} (hJ : CutsOrInitial st) :
    (∀ c ∈ (cutAxis st i t p).cuts, c ∈ st.cuts ∨ (Cand t p ∧ c = (i, cutTent t p))) ∧
    CutsOrInitial (cutAxis st i t p) ∧
    (st.cuts ≠ [] ∨ (Cand t p ∧ -1 < cutRatio t p) → (cutAxis st i t p).cuts ≠ []) := by
  rcases cutAxis_cases st i t p with ⟨e, hlt⟩ | ⟨hc, cs, hcs, e⟩
  · rw [e]
    refine ⟨fun c h => .inl h, hJ, fun h => h.elim id fun ⟨hc, hr⟩ => hJ.elim id fun hb => ?_⟩
    have := hlt hc
    grind
  · have hne : (cutAxis st i t p).cuts ≠ [] := by rw [e]; simp
    refine ⟨fun c h => ?_, .inl hne, fun _ => hne⟩
    rw [e, List.mem_append, List.mem_singleton] at h
    rcases h with h | h
    · rcases hcs with rfl | rfl
      · cases h
      · exact .inl h
    · exact .inr ⟨hc, h⟩

/-- Every cut is the cut tent of a candidate axis, and a candidate with ratio above -1 leaves a cut. -/
theorem cutAll_spec {st : Cuts} {i : Nat} {ts ps : Region} (hJ : CutsOrInitial st) :
    (∀ c ∈ (cutAll st i ts ps).cuts, c ∈ st.cuts ∨
      ∃ (k : Nat) (t p : Tent), ts[k]? = some t ∧ ps[k]? = some p ∧ Cand t p ∧ c = (i + k, cutTent t p)) ∧
    (st.cuts ≠ [] ∨
      (∃ (k : Nat) (t p : Tent), ts[k]? = some t ∧ ps[k]? = some p ∧ Cand t p ∧ -1 < cutRatio t p) →
      (cutAll st i ts ps).cuts ≠ []) := by
  fun_induction cutAll st i ts ps with
  | case1 => exact ⟨fun c h => .inl h, by simp⟩
  | case2 => exact ⟨fun c h => .inl h, by simp⟩
  | case3 st i t ts p ps ih =>
    obtain ⟨a1, hJ', a3⟩ := cutAxis_spec (i := i) (t := t) (p := p) hJ
    obtain ⟨i1, i2⟩ := ih hJ'
    refine ⟨fun c h => ?_, fun h => i2 ?_⟩
    · rcases i1 c h with h' | ⟨k, t', p', h1, h2, h3, h4⟩
      · rcases a1 c h' with h'' | ⟨h5, h6⟩
        · exact .inl h''
        · exact .inr ⟨0, t, p, by simp, by simp, h5, by simpa using h6⟩
      · exact .inr ⟨k + 1, t', p', by simpa using h1, by simpa using h2, h3, by rw [h4]; congr 1; omega⟩
    · rcases h with h | ⟨k, t', p', h1, h2, h3, h4⟩
      · exact .inl (a3 (.inl h))
      · cases k with
        | zero =>
          simp at h1 h2; subst h1 h2
          exact .inl (a3 (.inr ⟨h3, h4⟩))
        | succ k => exact .inr ⟨k, t', p', by simpa using h1, by simpa using h2, h3, h4⟩

/-- The cutting branch of `influenceStep`. -/
def cutStep (r p : Region) : Region := applyCuts r (cutAll ⟨-1, []⟩ 0 r p).cuts

theorem cutAll_find {r p : Region} {a : Nat} {d : Nat × Tent}
    (hd : (cutAll ⟨-1, []⟩ 0 r p).cuts.find? (fun c => c.1 == a) = some d) :
    ∃ (t q : Tent), r[a]? = some t ∧ p[a]? = some q ∧ Cand t q ∧ d.2 = cutTent t q := by
  have hidx := List.find?_some hd
  simp only [beq_iff_eq] at hidx
  rcases (cutAll_spec (.inr Rat.le_refl)).1 d (List.mem_of_find?_eq_some hd) with h | ⟨k, t, q, g1, g2, g3, g4⟩
  · simp at h
  · subst g4
    simp only [Nat.zero_add] at hidx
    exact ⟨t, q, hidx ▸ g1, hidx ▸ g2, g3, rfl⟩

theorem cutStep_get {r p : Region} {a : Nat} {t t' : Tent}
    (h1 : r[a]? = some t) (h2 : (cutStep r p)[a]? = some t') :
    t' = t ∨ ∃ q, p[a]? = some q ∧ Cand t q ∧ t' = cutTent t q := by
  rw [cutStep, applyCuts_getElem?, h1] at h2
  simp only [Option.map_some, Option.some.injEq] at h2
  split at h2
  · rename_i c hc
    obtain ⟨t2, q, g1, g2, g3, g4⟩ := cutAll_find hc
    rw [h1] at g1; cases g1
    exact .inr ⟨q, g2, g3, h2 ▸ g4⟩
  · exact .inl h2.symm

theorem cutStep_exists {r p : Region}
    (h : ∃ (k : Nat) (t q : Tent), r[k]? = some t ∧ p[k]? = some q ∧ Cand t q ∧ -1 < cutRatio t q) :
    ∃ (a : Nat) (t q : Tent), r[a]? = some t ∧ p[a]? = some q ∧ Cand t q ∧
      (cutStep r p)[a]? = some (cutTent t q) := by
  have hne := (cutAll_spec (st := ⟨-1, []⟩) (i := 0) (ts := r) (ps := p) (.inr Rat.le_refl)).2 (.inr h)
  -- take any cut `c`; `applyCuts` finds some cut for the axis of `c`
  obtain ⟨c, hc⟩ := List.exists_mem_of_ne_nil _ hne
  obtain ⟨d, hd⟩ := Option.isSome_iff_exists.1
    (List.find?_isSome (p := fun d => d.1 == c.1) |>.2 ⟨c, hc, beq_self_eq_true c.1⟩)
  obtain ⟨t, q, g1, g2, g3, g4⟩ := cutAll_find hd
  exact ⟨c.1, t, q, g1, g2, g3, by rw [cutStep, applyCuts_getElem?, g1, Option.map_some, hd, ← g4]⟩

/-- The overlap test of `master_influence` on one axis: the coordinate of `q` is the peak of `t` or strictly inside its support. -/
def Meets (t q : Tent) : Prop := q.peak = t.peak ∨ (t.min < q.peak ∧ q.peak < t.max)

/-- What a cut does to a tent. -/
def Shr (t t' : Tent) : Prop := t'.peak = t.peak ∧ t.min ≤ t'.min ∧ t'.max ≤ t.max ∧ (TentOrd t → TentOrd t')

theorem Shr.refl (t : Tent) : Shr t t := ⟨rfl, Rat.le_refl, Rat.le_refl, id⟩

theorem Shr.trans {t t' t'' : Tent} (h1 : Shr t t') (h2 : Shr t' t'') : Shr t t'' :=
  ⟨h2.1.trans h1.1, Rat.le_trans h1.2.1 h2.2.1, Rat.le_trans h2.2.2.1 h1.2.2.1, h2.2.2.2 ∘ h1.2.2.2⟩

theorem Shr.meets {t t' q : Tent} (s : Shr t t') (h : Meets t' q) : Meets t q := by
  unfold Shr Meets at *; grind

theorem overlaps_iff {r p : Region} : overlaps r p = true ↔
    ∀ (a : Nat) (t q : Tent), r[a]? = some t → p[a]? = some q → Meets t q := by
  fun_induction overlaps r p with
  | case1 => simp
  | case2 => simp
  | case3 t ts p ps ih =>
    simp only [Bool.and_eq_true, decide_eq_true_eq, ih]
    constructor
    · rintro ⟨h0, hs⟩ a t' q h1 h2
      cases a with
      | zero =>
        simp at h1 h2
        subst h1 h2
        exact h0
      | succ a => exact hs a t' q (by simpa using h1) (by simpa using h2)
    · intro h
      exact ⟨h 0 t p (by simp) (by simp),
        fun a t' q h1 h2 => h (a + 1) t' q (by simpa using h1) (by simpa using h2)⟩

/-- `r'` is `r` cut down.  A preorder; every step of `master_influence` is in it, whatever the previous region. -/
structure Keeps (r r' : Region) : Prop where
  length : r'.length = r.length
  peaks : peaks r' = peaks r
  shr : ∀ t' ∈ r', ∃ t ∈ r, Shr t t'
  apart : ∀ p, overlaps r p = false → overlaps r' p = false

theorem Keeps.refl (r : Region) : Keeps r r := ⟨rfl, rfl, fun t h => ⟨t, h, .refl t⟩, fun _ => id⟩

theorem Keeps.trans {r r' r'' : Region} (h1 : Keeps r r') (h2 : Keeps r' r'') : Keeps r r'' :=
  ⟨h2.1.trans h1.1, h2.2.trans h1.2,
   fun t'' h => have ⟨t', h', s'⟩ := h2.3 t'' h; have ⟨t, h0, s⟩ := h1.3 t' h'; ⟨t, h0, s.trans s'⟩,
   fun p h => h2.4 p (h1.4 p h)⟩

theorem Keeps.tentOrd {r r' : Region} (h : Keeps r r') (hr : ∀ t ∈ r, TentOrd t) : ∀ t ∈ r', TentOrd t :=
  fun t' ht' => have ⟨t, ht, s⟩ := h.shr t' ht'; s.2.2.2 (hr t ht)

theorem getElem?_some_of_length_eq {α β} {l : List α} {l' : List β} (h : l.length = l'.length)
    {a : Nat} {x : α} (hx : l[a]? = some x) : ∃ y, l'[a]? = some y := by
  have := (List.getElem?_eq_some_iff.1 hx).1
  exact ⟨l'[a]'(h ▸ this), List.getElem?_eq_getElem _⟩

theorem keeps_of_shr {r r' : Region} (hlen : r'.length = r.length)
    (h : ∀ (a : Nat) (t t' : Tent), r[a]? = some t → r'[a]? = some t' → Shr t t') : Keeps r r' := by
  have hget : ∀ {a : Nat} {t : Tent}, r[a]? = some t → ∃ t', r'[a]? = some t' ∧ Shr t t' := fun {a t} ha =>
    have ⟨t', ha'⟩ := getElem?_some_of_length_eq hlen.symm ha
    ⟨t', ha', h a t t' ha ha'⟩
  refine ⟨hlen, List.ext_getElem? fun a => ?_, fun t' ht' => ?_, fun p hp => Bool.eq_false_iff.2 fun hp' => ?_⟩
  · rw [getElem?_peaks, getElem?_peaks]
    cases h1 : r[a]? with
    | none => rw [List.getElem?_eq_none (hlen ▸ List.getElem?_eq_none_iff.1 h1)]
    | some t =>
      obtain ⟨t', h2, s⟩ := hget h1
      rw [h2, Option.map_some, Option.map_some, s.1]
  · obtain ⟨a, ha'⟩ := List.getElem?_of_mem ht'
    obtain ⟨t, ha⟩ := getElem?_some_of_length_eq hlen ha'
    exact ⟨t, List.mem_of_getElem? ha, h a t t' ha ha'⟩
  · refine Bool.eq_false_iff.1 hp (overlaps_iff.2 fun a t q h1 h2 => ?_)
    obtain ⟨t', hb, s⟩ := hget h1
    exact s.meets (overlaps_iff.1 hp' a t' q hb h2)

theorem activeAxes_get {r p : Region} (h : activeAxes r = activeAxes p) {a : Nat} {t q : Tent}
    (h1 : r[a]? = some t) (h2 : p[a]? = some q) : t.hasNonZero = q.hasNonZero := by
  have := congrArg (·[a]?) h
  simpa [activeAxes, List.getElem?_map, h1, h2] using this

theorem cutRatio_pos {t q : Tent} (hne : q.peak ≠ t.peak) (h : t.min < q.peak ∧ q.peak < t.max) :
    0 < cutRatio t q := by
  unfold cutRatio
  split
  · have := ramp_bounds (a := q.peak - t.peak) (b := t.min - t.peak) (by grind)
    grind
  · have := ramp_bounds (a := q.peak - t.peak) (b := t.max - t.peak) (by grind)
    grind

theorem cutTent_spec {t q : Tent} (hc : Cand t q) (h : Meets t q) :
    Shr t (cutTent t q) ∧ ¬ Meets (cutTent t q) q := by
  have hne := hc.2
  have h0 : TentOrd t → t.peak ≠ 0 := fun ht => ht.hasNonZero.1 hc.1
  -- the new end is `q.peak`, which lay strictly inside the old support, on the peak's side of 0 if that was sign-correct;
  -- being an end now, it is no longer strictly inside
  unfold Shr TentOrd Meets cutTent at *
  split <;> grind

/-- An inactive tent is all zero: two tents with different peaks are not both inactive. -/
theorem hasNonZero_of_peak_ne {t q : Tent} (e : t.hasNonZero = q.hasNonZero) (hne : q.peak ≠ t.peak) :
    t.hasNonZero = true := by
  apply Classical.byContradiction
  intro h
  have h1 := Bool.eq_false_iff.2 h
  have h2 := e ▸ h1
  simp only [Tent.hasNonZero, Bool.not_eq_false', Bool.and_eq_true, beq_iff_eq] at h1 h2
  exact hne (h2.1.2.trans h1.1.2.symm)

theorem exists_peak_ne {r p : Region} (hlen : r.length = p.length) (hne : peaks p ≠ peaks r) :
    ∃ (k : Nat) (t q : Tent), r[k]? = some t ∧ p[k]? = some q ∧ q.peak ≠ t.peak := by
  apply Classical.byContradiction
  intro hcon
  apply hne
  apply List.ext_getElem (by simp [peaks, hlen])
  intro k h1 h2
  simp only [peaks, List.length_map] at h1 h2
  simp only [peaks, List.getElem_map]
  apply Classical.byContradiction
  intro hx
  exact hcon ⟨k, r[k], p[k], List.getElem?_eq_getElem h2, List.getElem?_eq_getElem h1, hx⟩

theorem influenceStep_cases (r p : Region) :
    influenceStep r p = r ∧ (activeAxes r = activeAxes p → overlaps r p = false) ∨
    influenceStep r p = cutStep r p ∧ overlaps r p = true := by
  unfold influenceStep cutStep
  by_cases hA : activeAxes r = activeAxes p
  · by_cases hO : overlaps r p = true
    · exact .inr ⟨by simp [hA, hO], hO⟩
    · exact .inl ⟨by simp [hA, hO], fun _ => by simpa using hO⟩
  · exact .inl ⟨by simp [hA], fun h => absurd h hA⟩

theorem influenceStep_keeps (r p : Region) : Keeps r (influenceStep r p) := by
  rcases influenceStep_cases r p with ⟨e, -⟩ | ⟨e, hO⟩ <;> rw [e]
  · exact .refl r
  · refine keeps_of_shr (by simp [cutStep, applyCuts]) fun a t t' h1 h2 => ?_
    rcases cutStep_get h1 h2 with rfl | ⟨q, hq, hc, rfl⟩
    · exact .refl _
    · exact (cutTent_spec hc (overlaps_iff.1 hO a t q h1 hq)).1

/-- What a step of `master_influence` is for. -/
theorem influenceStep_apart {r p : Region} (hlen : r.length = p.length) (hA : activeAxes r = activeAxes p)
    (hne : peaks p ≠ peaks r) : overlaps (influenceStep r p) p = false := by
  rcases influenceStep_cases r p with ⟨e, h⟩ | ⟨e, hO⟩ <;> rw [e]
  · exact h hA
  · -- an axis where the two locations differ is a cut candidate with ratio above -1, so some axis is cut
    have hov := overlaps_iff.1 hO
    obtain ⟨k, t, q, g1, g2, g3⟩ := exists_peak_ne hlen hne
    obtain ⟨a, t2, q2, f1, f2, f3, f4⟩ := cutStep_exists ⟨k, t, q, g1, g2,
      ⟨hasNonZero_of_peak_ne (activeAxes_get hA g1 g2) g3, g3⟩,
      Std.lt_trans (by decide) (cutRatio_pos g3 ((hov k t q g1 g2).resolve_left g3))⟩
    exact Bool.eq_false_iff.2 fun h =>
      (cutTent_spec f3 (hov a t2 q2 f1 f2)).2 (overlaps_iff.1 h a _ q2 f4 f2)

/-- The coordinate is not 0; `l.map nz` is the support of the location `l`, `rank l` its size (`rank_cons`). -/
def nz (v : Rat) : Bool := !isZero v

theorem nz_iff (v : Rat) : nz v = true ↔ v ≠ 0 := by simp [nz, isZero]

theorem rank_cons (x : Rat) (l : Loc) : rank (x :: l) = (if nz x = true then 1 else 0) + rank l := by
  unfold rank nz
  rw [List.filter_cons]
  split <;> simp <;> omega

/-- A support contained in another is no larger, and if it is no smaller either the two are the same. -/
theorem support_eq : ∀ (l l' : Loc), l.length = l'.length →
    (∀ (a : Nat) (v v' : Rat), l[a]? = some v → l'[a]? = some v' → v ≠ 0 → v' ≠ 0) →
    rank l ≤ rank l' ∧ (rank l' ≤ rank l → l'.map nz = l.map nz)
  | [], [], _, _ => ⟨Nat.le_refl _, fun _ => rfl⟩
  | [], _ :: _, h, _ => by simp at h
  | _ :: _, [], h, _ => by simp at h
  | x :: l, y :: l', hlen, h => by
    obtain ⟨ih1, ih2⟩ := support_eq l l' (by simpa using hlen)
      (fun a v v' h1 h2 => h (a + 1) v v' (by simpa using h1) (by simpa using h2))
    have h0 : nz x = true → nz y = true := by
      rw [nz_iff, nz_iff]; exact h 0 x y (by simp) (by simp)
    rw [rank_cons, rank_cons, List.map_cons, List.map_cons]
    cases hx : nz x <;> cases hy : nz y
    · exact ⟨by simpa using ih1, fun hr => by rw [ih2 (by simpa using hr)]⟩
    · exact ⟨by simp; omega, fun hr => by simp at hr; omega⟩
    · exact absurd (h0 hx) (by simp [hy])
    · exact ⟨by simpa using ih1, fun hr => by rw [ih2 (by simpa using hr)]⟩

theorem activeAxes_eq {r : Region} (h : ∀ t ∈ r, TentOrd t) : activeAxes r = (peaks r).map nz := by
  simp only [VarModel.activeAxes, peaks, List.map_map]
  apply List.map_congr_left
  intro t ht
  have e1 := (h t ht).hasNonZero
  have e2 := nz_iff t.peak
  simp only [Function.comp]
  cases h1 : t.hasNonZero <;> cases h2 : nz t.peak <;> simp_all

theorem Keeps.activeAxes {r r' : Region} (k : Keeps r r') (hr : ∀ t ∈ r, TentOrd t) : activeAxes r' = activeAxes r := by
  rw [activeAxes_eq (k.tentOrd hr), activeAxes_eq hr, k.peaks]

theorem fold_keeps (ps : List Region) (r : Region) : Keeps r (ps.foldl influenceStep r) := by
  induction ps generalizing r with
  | nil => exact .refl r
  | cons p ps ih => exact (influenceStep_keeps r p).trans (ih _)

theorem fold_apart {ps : List Region} {r p : Region} (hp : p ∈ ps) (hr : ∀ t ∈ r, TentOrd t)
    (hl : r.length = p.length) (hA : activeAxes r = activeAxes p) (hne : peaks p ≠ peaks r) :
    overlaps (ps.foldl influenceStep r) p = false := by
  obtain ⟨ps1, ps2, rfl⟩ := List.append_of_mem hp
  have k := fold_keeps ps1 r
  rw [List.foldl_append, List.foldl_cons]
  exact (fold_keeps ps2 _).apart p
    (influenceStep_apart (k.length.trans hl) ((k.activeAxes hr).trans hA) (by rwa [k.peaks]))

theorem masterInfluence_eq (regions : List Region) :
    masterInfluence regions = accMap (fun acc r => acc.foldl influenceStep r) [] regions := by
  unfold masterInfluence
  generalize ([] : List Region) = acc
  induction regions generalizing acc with
  | nil => rfl
  | cons r rs ih => rw [masterInfluenceAux, accMap, ih]

theorem masterInfluence_at {locs : List Loc} {j : Nat} {l : Loc} (hl : locs[j]? = some l) :
    (masterInfluence (regionsFor locs))[j]? =
      some (((masterInfluence (regionsFor locs)).take j).foldl influenceStep (regionFor locs l)) := by
  have := getElem?_accMap (fun acc r => acc.foldl influenceStep r) [] (regionsFor locs) j (regionFor locs l)
    (by simp [regionsFor, hl])
  rwa [← masterInfluence_eq, List.length_nil, Nat.zero_add] at this

theorem scalarAt_eq_zero_of_apart {r p : Region} (hr : ∀ t ∈ r, TentOrd t) (hA : activeAxes r = activeAxes p)
    (hO : overlaps r p = false) : scalarAt r (peaks p) = 0 := by
  have hex := mt overlaps_iff.2 (Bool.eq_false_iff.1 hO)
  simp only [Classical.not_forall] at hex
  obtain ⟨a, t, q, h1, h2, h3⟩ := hex
  obtain ⟨h3a, h3b⟩ := not_or.1 h3
  have ht := hr t (List.mem_of_getElem? h1)
  exact scalarAt_eq_zero ⟨a, t, q.peak, h1, by rw [getElem?_peaks, h2]; rfl,
    tentFactor_eq_zero ht h3a (ht.hasNonZero.1 (hasNonZero_of_peak_ne (activeAxes_get hA h1 h2) h3a))
      ((Classical.not_and_iff_not_or_not.1 h3b).imp Rat.not_lt.1 Rat.not_lt.1)⟩

end Fontc.VarModel.Geom

namespace Fontc.VarModel
open Fontc Fontc.VarModel Fontc.VarModel.Geom

theorem masterInfluence_length (locs : List Loc) :
    (masterInfluence (regionsFor locs)).length = locs.length := by
  simp [masterInfluence_eq, length_accMap, regionsFor]

theorem masterInfluence_keeps {locs : List Loc} {j : Nat} {r : Region}
    (hr : (masterInfluence (regionsFor locs))[j]? = some r) :
    ∃ l, locs[j]? = some l ∧ Geom.Keeps (regionFor locs l) r := by
  have hj : j < locs.length := masterInfluence_length locs ▸ (List.getElem?_eq_some_iff.1 hr).1
  have hl := List.getElem?_eq_getElem hj
  cases hr.symm.trans (masterInfluence_at hl)
  exact ⟨_, hl, fold_keeps _ _⟩

/-- T2 and T4 together. -/
theorem masterInfluence_ordered {locs : List Loc} {j : Nat} {r : Region}
    (hr : (masterInfluence (regionsFor locs))[j]? = some r) :
    ∃ l, locs[j]? = some l ∧ peaks r = l ∧ ∀ t ∈ r, TentOrd t :=
  have ⟨l, hl, k⟩ := masterInfluence_keeps hr
  ⟨l, hl, k.peaks.trans (peaks_regionFor locs l), k.tentOrd (regionFor_tentOrd (List.mem_of_getElem? hl))⟩

theorem masterInfluence_tentOrd {locs : List Loc}
    {r : Region} (hr : r ∈ masterInfluence (regionsFor locs)) (t : Tent) (ht : t ∈ r) : TentOrd t := by
  obtain ⟨j, hj⟩ := List.getElem?_of_mem hr
  obtain ⟨-, -, -, h⟩ := masterInfluence_ordered hj
  exact h t ht

theorem masterInfluence_self_scalar {locs : List Loc} (j : Nat) (r : Region) (l : Loc)
    (hr : (masterInfluence (regionsFor locs))[j]? = some r) (hl : locs[j]? = some l) :
    scalarAt r l = 1 := by
  obtain ⟨l', hl', e, -⟩ := masterInfluence_ordered hr
  rw [← Option.some.inj (hl'.symm.trans hl), ← e]
  exact scalarAt_peaks r

theorem masterInfluence_apart {locs : List Loc} {i j : Nat} (hij : i < j) {r p : Region}
    (hr : (masterInfluence (regionsFor locs))[j]? = some r) (hp : (masterInfluence (regionsFor locs))[i]? = some p)
    (hl : r.length = p.length) (hA : activeAxes r = activeAxes p) (hne : peaks p ≠ peaks r) :
    overlaps r p = false := by
  obtain ⟨l, hlj, k⟩ := masterInfluence_keeps hr
  have h0 := regionFor_tentOrd (List.mem_of_getElem? hlj)
  rw [k.length] at hl
  rw [k.activeAxes h0] at hA
  rw [k.peaks] at hne
  cases hr.symm.trans (masterInfluence_at hlj)
  exact fold_apart (List.mem_of_getElem? (by rw [List.getElem?_take_of_lt hij]; exact hp)) h0 hl hA hne

theorem masterInfluence_triangular {n : Nat} {locs : List Loc}
    (H1 : ∀ l ∈ locs, l.length = n)
    (H2 : locs.Pairwise (· ≠ ·))
    (H3 : locs.Pairwise (fun a b => rank a ≤ rank b))
    (i j : Nat) (hij : i < j) (r : Region) (l' : Loc)
    (hr : (masterInfluence (regionsFor locs))[j]? = some r) (hl' : locs[i]? = some l') :
    scalarAt r l' = 0 := by
  obtain ⟨l, hl, hrk, hro⟩ := masterInfluence_ordered hr
  obtain ⟨hi, hli⟩ := List.getElem?_eq_some_iff.1 hl'
  obtain ⟨hj, hlj⟩ := List.getElem?_eq_some_iff.1 hl
  obtain ⟨p, hp⟩ : ∃ p, (masterInfluence (regionsFor locs))[i]? = some p :=
    ⟨_, List.getElem?_eq_getElem (by rw [masterInfluence_length]; exact hi)⟩
  obtain ⟨l'', hl'', hpk, hpo⟩ := masterInfluence_ordered hp
  cases hl''.symm.trans hl'
  have hne := List.pairwise_iff_getElem.1 H2 i j hi hj hij
  have hrank := List.pairwise_iff_getElem.1 H3 i j hi hj hij
  rw [hli, hlj] at hne hrank
  have hlen := (H1 _ (List.mem_of_getElem? hl)).trans (H1 _ (List.mem_of_getElem? hl')).symm
  -- the earlier location lacks one of the region's axes, and there a sign-correct active tent is 0 at 0 …
  by_cases hA : ∃ (a : Nat) (v : Rat), l[a]? = some v ∧ v ≠ 0 ∧ l'[a]? = some 0
  · obtain ⟨a, v, h1, h3, h2⟩ := hA
    rw [← hrk, getElem?_peaks] at h1
    obtain ⟨t, ht, rfl⟩ := Option.map_eq_some_iff.1 h1
    exact scalarAt_eq_zero ⟨a, t, 0, ht, h2, tentFactor_at_zero (hro t (List.mem_of_getElem? ht)) h3⟩
  -- … or the supports agree by the ranks; then the two regions do not overlap
  · have hs := (support_eq l l' hlen fun a v v' h1 h2 h3 h4 => hA ⟨a, v, h1, h3, h4 ▸ h2⟩).2 hrank
    subst hrk hpk
    have hA : activeAxes r = activeAxes p := by rw [activeAxes_eq hro, activeAxes_eq hpo, hs]
    exact scalarAt_eq_zero_of_apart hro hA (masterInfluence_apart hij hr hp (by simpa [peaks] using hlen) hA hne)

/-- A cut tent is valid, and its ends lie between those of the tent `regionFor` built, which are 0 or coordinates. -/
theorem masterInfluence_wellFormed {locs : List Loc} (hb : ∀ l ∈ locs, ∀ x ∈ l, -1 ≤ x ∧ x ≤ 1)
    {r : Region} (hr : r ∈ masterInfluence (regionsFor locs)) (t : Tent) (ht : t ∈ r) : t.wellFormed = true := by
  obtain ⟨j, hj⟩ := List.getElem?_of_mem hr
  obtain ⟨l, hl, k⟩ := masterInfluence_keeps hj
  obtain ⟨t0, ht0, -, s1, s2, so⟩ := k.shr t ht
  have hv := (validate_iff _).1 (so (regionFor_tentOrd (List.mem_of_getElem? hl) t0 ht0)).validate
  have := Geom.regionFor_ends (P := fun x => -1 ≤ x ∧ x ≤ 1) (by decide) hb ht0
  simp only [Tent.wellFormed, Bool.and_eq_true, decide_eq_true_eq, Bool.not_eq_true',
    Bool.and_eq_false_iff, decide_eq_false_iff_not]
  grind

theorem masterInfluence_self_scalar' {n : Nat} {locs : List Loc}
    (H1 : ∀ l ∈ locs, l.length = n) (j : Nat) (hj : j < locs.length) :
    scalarAt ((masterInfluence (regionsFor locs))[j]'(by rw [masterInfluence_length]; exact hj))
      locs[j] = 1 :=
  masterInfluence_self_scalar j _ _ (List.getElem?_eq_getElem _) (List.getElem?_eq_getElem _)

theorem masterInfluence_triangular' {n : Nat} {locs : List Loc}
    (H1 : ∀ l ∈ locs, l.length = n)
    (H2 : locs.Pairwise (· ≠ ·))
    (H3 : locs.Pairwise (fun a b => rank a ≤ rank b))
    (i j : Nat) (hij : i < j) (hj : j < locs.length) :
    scalarAt ((masterInfluence (regionsFor locs))[j]'(by rw [masterInfluence_length]; exact hj))
      (locs[i]'(Nat.lt_trans hij hj)) = 0 :=
  masterInfluence_triangular H1 H2 H3 i j hij _ _ (List.getElem?_eq_getElem _)
    (List.getElem?_eq_getElem _)

/-- Two axes, four masters; `[1/2,0]` and `[1,0]` share their support, so the region of `[1,0]`
    really gets cut (its min becomes `1/2`). -/
def exampleLocs : List Loc := [[0, 0], [1/2, 0], [1, 0], [1, 1]]

example : ∀ l ∈ exampleLocs, l.length = 2 := by decide +kernel
example : exampleLocs.Pairwise (· ≠ ·) := by decide +kernel
example : exampleLocs.Pairwise (fun a b => rank a ≤ rank b) := by decide +kernel
example : ∀ l ∈ exampleLocs, ∀ x ∈ l, -1 ≤ x ∧ x ≤ 1 := by decide +kernel

/-- The hypotheses can be met. -/
example : scalarAt ((masterInfluence (regionsFor exampleLocs))[2]'(by decide +kernel))
    (exampleLocs[1]) = 0 :=
  masterInfluence_triangular' (n := 2) (by decide +kernel) (by decide +kernel) (by decide +kernel)
    1 2 (by decide) (by decide)

/-- By evaluation: the scalar matrix `scalarAt infl[j] locs[i]` (row j, column i) is unit upper triangular. -/
example : (masterInfluence (regionsFor exampleLocs)).map (fun r => exampleLocs.map (scalarAt r)) =
    [[1, 1, 1, 1], [0, 1, 0, 0], [0, 0, 1, 1], [0, 0, 0, 1]] := by decide +kernel

example : (masterInfluence (regionsFor exampleLocs))[2]? =
    some [⟨1/2, 1, 1⟩, ⟨0, 0, 0⟩] := by decide +kernel

example : let locs : List Loc := [[0, 0], [1, 0], [0, 1], [1, 1]]
    (∀ l ∈ locs, l.length = 2) ∧ locs.Pairwise (· ≠ ·) ∧
    locs.Pairwise (fun a b => rank a ≤ rank b) ∧
    (masterInfluence (regionsFor locs)).map (fun r => locs.map (scalarAt r)) =
      [[1, 1, 1, 1], [0, 1, 0, 1], [0, 0, 1, 1], [0, 0, 0, 1]] := by decide +kernel

end Fontc.VarModel
