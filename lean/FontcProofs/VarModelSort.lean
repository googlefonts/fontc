/-
  C07, sorting part: `sortLocs` / `keyFor` / `SortKey.le` (model of `LocationSortingHat` and the
  `sort_by_cached_key` call in `VariationModel::new`, fontdrasil/src/variations.rs).

  `lexLe` is the library's linear order on lists (`lexLe_iff_le`) and `SortKey.le` five linear orders composed
  lexicographically (`SortKey.le_iff`); so it is total, transitive and antisymmetric, `sortLocs` is a sorted permutation; ranks
  (number of non-zero axes) are non-decreasing along it and the all-zero location, if present, is
  first.  `keyFor pts` is injective on equal-length locations, so the sort (hence `Model.new`) does
  not depend on the order -- in fact only on the set -- of supplied locations.
-/
import FontcModel.VarModel
import FontcProofs.ListFacts

namespace Fontc.VarModel
open Fontc

/-- `lt` is a strict total order: what `lexEq lt` and `lexLe lt` need of the comparison they are given. -/
structure StrictTotal {α} (lt : α → α → Bool) : Prop where
  irrefl : ∀ a, lt a a = false
  trans : ∀ a b c, lt a b = true → lt b c = true → lt a c = true
  tri : ∀ a b, lt a b = false → lt b a = false → a = b

theorem strictTotal_decide_lt {α} [LT α] [LE α] [DecidableLT α] [Std.IsLinearOrder α] [Std.LawfulOrderLT α] :
    StrictTotal (fun x y : α => decide (x < y)) :=
  ⟨fun a => decide_eq_false (Std.lt_irrefl (a := a)),
   fun _ _ _ h1 h2 => decide_eq_true (Std.lt_trans (of_decide_eq_true h1) (of_decide_eq_true h2)),
   fun _ _ h1 h2 => Std.le_antisymm (Std.not_lt.1 (of_decide_eq_false h2)) (Std.not_lt.1 (of_decide_eq_false h1))⟩

section Lex
variable {α : Type} {lt : α → α → Bool} (h : StrictTotal lt)
include h

theorem lexEq_iff (a b : List α) : lexEq lt a b = true ↔ a = b := by
  induction a generalizing b with
  | nil => cases b <;> simp [lexEq]
  | cons x xs ih =>
    cases b with
    | nil => simp [lexEq]
    | cons y ys =>
      simp only [lexEq, Bool.and_eq_true, Bool.not_eq_true', ih, List.cons.injEq]
      constructor
      · rintro ⟨⟨h1, h2⟩, h3⟩; exact ⟨h.tri _ _ h1 h2, h3⟩
      · rintro ⟨rfl, rfl⟩; simp [h.irrefl]

theorem lexLe_refl (a : List α) : lexLe lt a a = true := by
  induction a with
  | nil => simp [lexLe]
  | cons x xs ih => simp [lexLe, h.irrefl, ih]

end Lex

theorem lexLe_iff_le {α : Type} [LT α] [LE α] [DecidableLT α] [Std.IsLinearOrder α] [Std.LawfulOrderLT α] (a b : List α) :
    lexLe (fun x y : α => decide (x < y)) a b = true ↔ a ≤ b := by
  fun_induction lexLe (fun x y : α => decide (x < y)) a b with
  | case1 => simp
  | case2 => simp
  | case3 x xs y ys h => simp [List.cons_le_cons_iff, of_decide_eq_true h]
  | case4 x xs y ys h1 h2 =>
    have h2' := of_decide_eq_true h2
    have hne : x ≠ y := fun e => Std.lt_irrefl (e ▸ h2')
    simp [List.cons_le_cons_iff, Std.not_lt.2 (Std.le_of_lt h2'), hne]
  | case5 x xs y ys h1 h2 ih =>
    have h1' : ¬ x < y := of_decide_eq_false (by simpa using h1)
    have h2' : ¬ y < x := of_decide_eq_false (by simpa using h2)
    have e : x = y := Std.le_antisymm (Std.not_lt.1 h2') (Std.not_lt.1 h1')
    subst e
    simp [List.cons_le_cons_iff, h1', ih]

theorem SortKey.le_iff (a b : SortKey) : a.le b = true ↔
    a.rank < b.rank ∨ (a.rank = b.rank ∧ (a.onAxis < b.onAxis ∨ (a.onAxis = b.onAxis ∧
      (a.knownAxes < b.knownAxes ∨ (a.knownAxes = b.knownAxes ∧
        (a.signs < b.signs ∨ (a.signs = b.signs ∧ a.abs ≤ b.abs))))))) := by
  have eN := lexEq_iff strictTotal_decide_lt a.knownAxes b.knownAxes
  have eI := lexEq_iff strictTotal_decide_lt a.signs b.signs
  have lN := lexLe_iff_le a.knownAxes b.knownAxes
  have lI := lexLe_iff_le a.signs b.signs
  have lQ := lexLe_iff_le a.abs b.abs
  unfold SortKey.le
  grind

section LexStep
variable {α} [LT α] [LE α] [Std.IsLinearOrder α] [Std.LawfulOrderLT α] {x y z : α} {P Q R : Prop}

/-! One step of a lexicographic comparison, `x < y ∨ x = y ∧ (the rest)`, over a linear order: it is total,
    transitive, antisymmetric if the rest is.  `SortKey.le_iff` is four such steps around `≤` on lists. -/

theorem lexStep_total (h : P ∨ Q) : (x < y ∨ x = y ∧ P) ∨ (y < x ∨ y = x ∧ Q) := by
  rcases Std.lt_trichotomy x y with hlt | rfl | hgt
  · exact Or.inl (Or.inl hlt)
  · exact h.imp (fun p => Or.inr ⟨rfl, p⟩) (fun q => Or.inr ⟨rfl, q⟩)
  · exact Or.inr (Or.inl hgt)

theorem lexStep_trans (h : P → Q → R) : (x < y ∨ x = y ∧ P) → (y < z ∨ y = z ∧ Q) → (x < z ∨ x = z ∧ R)
  | .inl h1, .inl h2 => .inl (Std.lt_trans h1 h2)
  | .inl h1, .inr ⟨e, _⟩ => .inl (e ▸ h1)
  | .inr ⟨e, _⟩, .inl h2 => .inl (e ▸ h2)
  | .inr ⟨e1, p⟩, .inr ⟨e2, q⟩ => .inr ⟨e1.trans e2, h p q⟩

theorem lexStep_antisymm (h : P → Q → R) : (x < y ∨ x = y ∧ P) → (y < x ∨ y = x ∧ Q) → x = y ∧ R
  | .inl h1, .inl h2 => absurd (Std.lt_trans h1 h2) Std.lt_irrefl
  | .inl h1, .inr ⟨e, _⟩ => absurd (e ▸ h1) Std.lt_irrefl
  | .inr ⟨e, _⟩, .inl h2 => absurd (e ▸ h2) Std.lt_irrefl
  | .inr ⟨e, p⟩, .inr ⟨_, q⟩ => ⟨e, h p q⟩

end LexStep

theorem SortKey.le_total (a b : SortKey) : (a.le b || b.le a) = true := by
  simp only [Bool.or_eq_true, SortKey.le_iff]
  exact lexStep_total (lexStep_total (lexStep_total (lexStep_total Std.le_total)))

theorem SortKey.le_trans {a b c : SortKey} : a.le b = true → b.le c = true → a.le c = true := by
  simp only [SortKey.le_iff]
  exact lexStep_trans (lexStep_trans (lexStep_trans (lexStep_trans Std.le_trans)))

theorem SortKey.le_antisymm {a b : SortKey} : a.le b = true → b.le a = true → a = b := by
  simp only [SortKey.le_iff]
  intro h1 h2
  cases a; cases b
  exact SortKey.mk.injEq .. ▸
    lexStep_antisymm (lexStep_antisymm (lexStep_antisymm (lexStep_antisymm Std.le_antisymm))) h1 h2

theorem SortKey.rank_le_of_le {a b : SortKey} : a.le b = true → a.rank ≤ b.rank := by
  rw [SortKey.le_iff]; omega

theorem sortLocs_perm (locs : List Loc) : (sortLocs locs).Perm locs :=
  List.mergeSort_perm _ _

theorem sortLocs_pairwise (locs : List Loc) :
    (sortLocs locs).Pairwise
      (fun a b => (keyFor (onAxisPoints locs) a).le (keyFor (onAxisPoints locs) b) = true) :=
  List.pairwise_mergeSort (le := fun a b => (keyFor (onAxisPoints locs) a).le (keyFor (onAxisPoints locs) b))
    (fun _ _ _ => SortKey.le_trans) (fun _ _ => SortKey.le_total _ _) locs

theorem mem_sortLocs (locs : List Loc) (l : Loc) : l ∈ sortLocs locs ↔ l ∈ locs :=
  (sortLocs_perm locs).mem_iff

theorem sortLocs_forall {P : Loc → Prop} {locs : List Loc} (h : ∀ l ∈ locs, P l) :
    ∀ l ∈ sortLocs locs, P l :=
  fun l hl => h l ((mem_sortLocs locs l).mp hl)

theorem sortLocs_length (locs : List Loc) : (sortLocs locs).length = locs.length :=
  (sortLocs_perm locs).length_eq

theorem sortLocs_nodup {locs : List Loc} (h : locs.Nodup) : (sortLocs locs).Nodup :=
  (sortLocs_perm locs).symm.nodup h

theorem keyFor_rank (pts : List (Nat × Rat)) (l : Loc) : (keyFor pts l).rank = rank l := by
  have e := (List.filter_map (f := Prod.fst) (p := fun x => !isZero x) (l := l.zipIdx)).symm
  rw [List.zipIdx_map_fst] at e
  rw [rank, ← e, List.length_map]
  rfl

theorem sortLocs_rank_sorted (locs : List Loc) :
    (sortLocs locs).Pairwise (fun a b => rank a ≤ rank b) := by
  refine (sortLocs_pairwise locs).imp ?_
  intro a b hab
  have := SortKey.rank_le_of_le hab
  rwa [keyFor_rank, keyFor_rank] at this

theorem rank_eq_zero_iff (l : Loc) : rank l = 0 ↔ l = List.replicate l.length 0 := by
  simp [rank, List.eq_replicate_iff, isZero]

theorem rank_replicate_zero (n : Nat) : rank (List.replicate n 0) = 0 := by
  rw [rank_eq_zero_iff]; simp

theorem sortLocs_head_default {n : Nat} {locs : List Loc}
    (hlen : ∀ l ∈ locs, l.length = n) (hz : List.replicate n 0 ∈ locs) :
    (sortLocs locs).head? = some (List.replicate n 0) := by
  have hmem : List.replicate n 0 ∈ sortLocs locs := (mem_sortLocs _ _).mpr hz
  have hs := sortLocs_rank_sorted locs
  have hl := sortLocs_forall hlen
  cases hsl : sortLocs locs with
  | nil => rw [hsl] at hmem; cases hmem
  | cons a rest =>
    rw [hsl] at hmem hs hl
    -- the head has the least rank, the all-zero location has rank 0, and rank 0 means all-zero
    have hr : rank a ≤ 0 := by
      rcases List.mem_cons.mp hmem with h | h
      · rw [← h, rank_replicate_zero]; exact Nat.le_refl 0
      · exact rank_replicate_zero n ▸ List.rel_of_pairwise_cons hs h
    rw [List.head?_cons, (rank_eq_zero_iff a).mp (Nat.le_zero.1 hr), hl a List.mem_cons_self]

theorem eq_of_sign_abs {a b : Rat} (hs : sign a = sign b) (ha : ratAbs a = ratAbs b) : a = b := by
  unfold sign ratAbs at *
  grind

/-- The non-zero coordinates of a location with their axis indices; the last three fields of `keyFor` are maps of it. -/
def nzs (l : Loc) : List (Rat × Nat) := l.zipIdx.filter (fun p => !isZero p.1)

theorem mem_nzs (l : Loc) (x : Rat) (i : Nat) : (x, i) ∈ nzs l ↔ l[i]? = some x ∧ x ≠ 0 := by
  simp [nzs, List.mem_zipIdx_iff_getElem?, isZero]

theorem eq_of_nzs_eq {l₁ l₂ : Loc} (hlen : l₁.length = l₂.length) (h : nzs l₁ = nzs l₂) : l₁ = l₂ := by
  apply List.ext_getElem hlen
  intro i h1 h2
  -- a non-zero coordinate of either list is in its `nzs`, so in the other's, so the other list has it at the same place
  have m1 := mem_nzs l₂ l₁[i] i
  have m2 := mem_nzs l₁ l₂[i] i
  rw [← h, mem_nzs] at m1
  rw [h, mem_nzs] at m2
  simp only [List.getElem?_eq_getElem h1, List.getElem?_eq_getElem h2, Option.some.injEq] at m1 m2
  grind

theorem keyFor_inj {pts : List (Nat × Rat)} {l₁ l₂ : Loc} (hlen : l₁.length = l₂.length)
    (h : keyFor pts l₁ = keyFor pts l₂) : l₁ = l₂ := by
  refine eq_of_nzs_eq hlen ?_
  have := congrArg (fun k => k.knownAxes.zip (k.signs.zip k.abs)) h
  simp only [keyFor, List.zip_map'] at this
  refine (List.map_inj_right ?_).1 this
  rintro ⟨a, i⟩ ⟨b, j⟩ e
  simp only [Prod.mk.injEq] at e
  rw [eq_of_sign_abs e.2.1 e.2.2, e.1]

theorem keyFor_congr {pts₁ pts₂ : List (Nat × Rat)} (h : ∀ p, p ∈ pts₁ ↔ p ∈ pts₂) (l : Loc) :
    keyFor pts₁ l = keyFor pts₂ l := by
  unfold keyFor
  have : (fun p : Rat × Nat => pts₁.contains (p.2, p.1)) = (fun p => pts₂.contains (p.2, p.1)) := by
    funext p
    rw [Bool.eq_iff_iff]; simp [h (p.2, p.1)]
  simp only [this]

theorem onAxisPoints_perm {locs₁ locs₂ : List Loc} (h : locs₁.Perm locs₂) :
    (onAxisPoints locs₁).Perm (onAxisPoints locs₂) :=
  h.filterMap _

theorem sortLocs_perm_invariant {n : Nat} {locs₁ locs₂ : List Loc}
    (hlen : ∀ l ∈ locs₁, l.length = n) (hperm : locs₁.Perm locs₂) :
    sortLocs locs₁ = sortLocs locs₂ := by
  have hkey : ∀ l, keyFor (onAxisPoints locs₂) l = keyFor (onAxisPoints locs₁) l := fun l =>
    keyFor_congr (fun p => (onAxisPoints_perm hperm).symm.mem_iff) l
  have hs1 := sortLocs_pairwise locs₁
  have hs2 := sortLocs_pairwise locs₂
  simp only [hkey] at hs2
  refine List.Perm.eq_of_pairwise ?_ hs1 hs2
    ((sortLocs_perm locs₁).trans (hperm.trans (sortLocs_perm locs₂).symm))
  intro a b ha hb hab hba
  have ha' := hlen a ((mem_sortLocs _ _).mp ha)
  have hb' := hlen b (hperm.symm.mem_iff.mp ((mem_sortLocs _ _).mp hb))
  exact keyFor_inj (by omega) (SortKey.le_antisymm hab hba)

theorem fit_of_length {n : Nat} {l : Loc} (h : l.length = n) : fit n l = l := by
  unfold fit
  rw [List.take_append_of_le_length (by omega), List.take_of_length_le (by omega)]

theorem fit_length (n : Nat) (l : Loc) : (fit n l).length = n := by
  unfold fit; simp

/-- What `Model.new` sorts are the fitted locations of the input. -/
theorem fitted_forall {n : Nat} {locs : List Loc} {P : Loc → Prop} (h : ∀ l ∈ locs, P (fit n l)) :
    ∀ l ∈ (locs.map (fit n)).eraseDups, P l := by
  intro l hl
  obtain ⟨l', hl', rfl⟩ := List.mem_map.1 (List.mem_eraseDups.1 hl)
  exact h l' hl'

theorem fitted_length {n : Nat} {locs : List Loc} : ∀ l ∈ (locs.map (fit n)).eraseDups, l.length = n :=
  fitted_forall fun l _ => fit_length n l

theorem map_fit_of_length {n : Nat} {locs : List Loc} (h : ∀ l ∈ locs, l.length = n) :
    locs.map (fit n) = locs :=
  map_eq_self fun l hl => fit_of_length (h l hl)

theorem Model.new_eq (n : Nat) (locs : List Loc) (hlen : ∀ l ∈ locs, l.length = n)
    (hnd : locs.Nodup) :
    Model.new n locs =
      { locations := sortLocs locs, influence := masterInfluence (regionsFor (sortLocs locs)) } := by
  unfold Model.new
  rw [map_fit_of_length hlen, eraseDups_of_nodup hnd]

theorem Model.new_locations (n : Nat) (locs : List Loc) (hlen : ∀ l ∈ locs, l.length = n)
    (hnd : locs.Nodup) : (Model.new n locs).locations = sortLocs locs := by
  rw [Model.new_eq n locs hlen hnd]

theorem Model.new_influence (n : Nat) (locs : List Loc) (hlen : ∀ l ∈ locs, l.length = n)
    (hnd : locs.Nodup) :
    (Model.new n locs).influence = masterInfluence (regionsFor (sortLocs locs)) := by
  rw [Model.new_eq n locs hlen hnd]

theorem Model.new_locations_zero {n : Nat} {locs : List Loc} (hlen : ∀ l ∈ locs, l.length = n)
    (hnd : locs.Nodup) (hz : List.replicate n 0 ∈ locs) :
    (Model.new n locs).locations[0]? = some (List.replicate n 0) := by
  rw [Model.new_locations n locs hlen hnd, ← List.head?_eq_getElem?]
  exact sortLocs_head_default hlen hz

/-- The model depends only on the set of locations supplied (Rust takes a `HashSet`). -/
theorem Model.new_set_invariant {n : Nat} {locs₁ locs₂ : List Loc}
    (hset : ∀ l, l ∈ locs₁ ↔ l ∈ locs₂) :
    Model.new n locs₁ = Model.new n locs₂ := by
  unfold Model.new
  have hperm : ((locs₁.map (fit n)).eraseDups).Perm ((locs₂.map (fit n)).eraseDups) := by
    rw [List.perm_ext_iff_of_nodup (nodup_eraseDups _) (nodup_eraseDups _)]
    intro a
    simp only [List.mem_eraseDups, List.mem_map, hset]
  simp only [sortLocs_perm_invariant fitted_length hperm]

/-- For concrete examples: `mergeSort` is defined by well-founded recursion and does not evaluate in the kernel. -/
theorem sortLocs_of_pairwise (locs : List Loc)
    (h : locs.Pairwise
      (fun a b => (keyFor (onAxisPoints locs) a).le (keyFor (onAxisPoints locs) b) = true)) :
    sortLocs locs = locs :=
  List.mergeSort_of_pairwise h

end Fontc.VarModel
