/-
  How a state of the scheduler model is reached, one atomic change at a time.  `State.deliver` is the bookkeeping half
  (`receive`) followed by the effects of the script one by one (a `guard` changes nothing), `initState` a run of
  insertions: `Atom` lists the six kinds of single change, and every state of `Reach` or `ReachInit` is reached through
  them (`Reach.atoms`, `ReachInit.atoms`).  A property of single states is then shown for each kind of atom and holds
  wherever they lead (`Atoms.preserves`), with no walk along `applyEffects` or `insertAll` of its own.
-/
import FontcProofs.SchedBasic

namespace Fontc.Sched

/-- One atomic change of the workload under the script `sc`.  A rewrite or a skip is an effect of a delivery `q` already
    received; an insertion is that, or comes from outside as far as `ins` admits. -/
inductive Atom (ins : Job → Prop) (sc : Script) (s : State) : State → Prop
  | insert {j : Job} {s' : State} :
      (ins j ∨ ∃ q ∈ s.delivered, Effect.add j ∈ sc.effects q) → s.insertJob j = some s' → Atom ins sc s s'
  | launch {id : Id} {s' : State} : s.launch id = some s' → Atom ins sc s s'
  | finish {id : Id} {s' : State} : s.finish id = some s' → Atom ins sc s s'
  | receive {id : Id} {s' : State} : s.receive id = some s' → Atom ins sc s s'
  | rewrite {id : Id} {a : Access} {m : Bool} {s' : State} :
      (∃ q ∈ s.delivered, Effect.rewrite id a m ∈ sc.effects q) → s.rewrite id a m = some s' → Atom ins sc s s'
  | skip {id : Id} {s' : State} :
      (∃ q ∈ s.delivered, Effect.skip id ∈ sc.effects q) → s.skip id = some s' → Atom ins sc s s'

/-- finitely many atomic changes in a row: the reflexive-transitive closure of `Atom` -/
inductive Atoms (ins : Job → Prop) (sc : Script) (s : State) : State → Prop
  | refl : Atoms ins sc s s
  | tail {t u : State} : Atoms ins sc s t → Atom ins sc t u → Atoms ins sc s u

variable {ins : Job → Prop} {sc : Script}

theorem Atoms.preserves {P : State → Prop} (hP : ∀ {t u}, P t → Atom ins sc t u → P u) {s s' : State}
    (a : Atoms ins sc s s') (hs : P s) : P s' := by
  induction a with
  | refl => exact hs
  | tail _ b ih => exact hP ih b

theorem atoms_insertAll {js : List Job} {s0 s s' : State} (a : Atoms ins sc s0 s) (hj : ∀ j ∈ js, ins j)
    (h : s.insertAll js = some s') : Atoms ins sc s0 s' := by
  induction js generalizing s with
  | nil => obtain rfl := insertAll_nil.1 h; exact a
  | cons j js ih =>
    obtain ⟨s1, h1, h2⟩ := insertAll_cons.1 h
    exact ih (a.tail (.insert (.inl (hj j (by simp))) h1)) (fun j hj' => hj j (by simp [hj'])) h2

theorem atoms_applyEffects {q : Id} {es : List Effect} {s0 s s' : State} (a : Atoms ins sc s0 s)
    (hq : q ∈ s.delivered) (hes : ∀ e ∈ es, e ∈ sc.effects q) (h : s.applyEffects es = some s') :
    Atoms ins sc s0 s' := by
  induction es generalizing s with
  | nil => obtain rfl := applyEffects_nil.1 h; exact a
  | cons e es ih =>
    obtain ⟨s1, h1, h2⟩ := applyEffects_cons.1 h
    have he := hes e (by simp)
    refine ih ?_ ((applyEffect_inserts h1).delivered ▸ hq) (fun e he => hes e (by simp [he])) h2
    cases e with
    | add j => exact a.tail (.insert (.inr ⟨q, hq, he⟩) h1)
    | rewrite id b m => exact a.tail (.rewrite ⟨q, hq, he⟩ h1)
    | skip id => exact a.tail (.skip ⟨q, hq, he⟩ h1)
    | guard id st => obtain ⟨rfl, _⟩ := guard_spec h1; exact a

theorem atoms_deliver {s0 s s' : State} {id : Id} (a : Atoms ins sc s0 s) (h : s.deliver sc id = some s') :
    Atoms ins sc s0 s' := by
  obtain ⟨s1, h1, h2⟩ := deliver_eq_some.1 h
  have hq : id ∈ s1.delivered := by
    obtain ⟨_, _, hc⟩ := receive_spec h1
    obtain ⟨rfl, _, _⟩ := complete_eq_some.1 hc
    exact List.mem_cons_self
  exact atoms_applyEffects (a.tail (.receive h1)) hq (fun _ he => he) h2

theorem Reach.atoms {s : State} (r : Reach sc s) : Atoms (fun _ => True) sc State.empty s := by
  induction r with
  | empty => exact .refl
  | step e _ h ih =>
    cases e with
    | insert j => exact ih.tail (.insert (.inl trivial) h)
    | launch id => exact ih.tail (.launch h)
    | finish id => exact ih.tail (.finish h)
    | deliver id => exact atoms_deliver ih h

theorem ReachInit.atoms {s : State} (r : ReachInit sc s) : Atoms (· ∈ sc.init) sc State.empty s := by
  induction r with
  | init h => exact atoms_insertAll .refl (fun _ hj => hj) h
  | launch id _ h ih => exact ih.tail (.launch h)
  | finish id _ h ih => exact ih.tail (.finish h)
  | deliver id _ h ih => exact atoms_deliver ih h

end Fontc.Sched
