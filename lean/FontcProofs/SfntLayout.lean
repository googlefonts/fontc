/-
  The directory parses back to the records it was written from; what is written of a table determines what was
  checksummed (`zeroedRaw_final`); every record of `assign` points at its table's bytes inside `body` (`RecFacts`).
-/
import FontcProofs.SfntBasic

namespace Fontc.SfntProofs
open Fontc.Bytes Fontc.Sfnt

/-- the three numbers of a record fit the `u32` fields they are written to (the tag is a `UInt32` already) -/
def recFits (r : Rec) : Prop := r.checksum < 4294967296 ∧ r.offset < 4294967296 ∧ r.length < 4294967296

theorem parseRec_encode {r : Rec} {rest : Bytes} (h : recFits r) :
    parseRec (encodeRec r ++ rest) = some (r, rest) := by
  obtain ⟨hc, ho, hl⟩ := h
  have ht : r.tag.toNat < 4294967296 := r.tag.toNat_lt
  simp only [parseRec, encodeRec, List.append_assoc, take4_be32 ht, take4_be32 hc, take4_be32 ho,
    take4_be32 hl]
  cases r; simp

theorem parseRecs_encode (recs : List Rec) (rest : Bytes) (h : ∀ r ∈ recs, recFits r) :
    parseRecs recs.length (recs.flatMap encodeRec ++ rest) = some recs := by
  induction recs with
  | nil => simp [parseRecs]
  | cons r recs ih =>
    simp only [List.length_cons, List.flatMap_cons, List.append_assoc, parseRecs]
    rw [parseRec_encode (h r List.mem_cons_self)]
    simp only
    rw [ih (fun r hr => h r (List.mem_cons_of_mem _ hr))]

theorem length_encodeRec (r : Rec) : (encodeRec r).length = 16 := by simp [encodeRec]

theorem length_flatMap_encodeRec (recs : List Rec) : (recs.flatMap encodeRec).length = 16 * recs.length := by
  induction recs with
  | nil => rfl
  | cons r recs ih => simp [List.flatMap_cons, length_encodeRec, ih]; omega

theorem length_directory (recs : List Rec) : (directory recs).length = headerLen recs.length := by
  simp only [directory, List.length_append, length_be32, length_be16, length_flatMap_encodeRec, headerLen]

/-- where the bound 4096 of `fits` comes from: searchRange = 16 · 2^⌊log₂ n⌋ is 65536 at n = 4096 -/
theorem searchParams_fit (n : Nat) (h : n < 4096) :
    (searchParams n).1 < 65536 ∧ (searchParams n).2.1 < 65536 ∧ (searchParams n).2.2 < 65536 := by
  unfold searchParams
  simp only
  by_cases h0 : n = 0
  · subst h0; decide
  · have h1 : 2 ^ n.log2 ≤ n := Nat.log2_self_le h0
    have h2 : n.log2 < 12 := (Nat.log2_lt h0).2 (by omega)
    refine ⟨by omega, by omega, by omega⟩

theorem sfntVersion_lt (recs : List Rec) : sfntVersion recs < 4294967296 := by
  unfold sfntVersion; split <;> decide

theorem parseDir_directory (recs : List Rec) (rest : Bytes) (hn : recs.length < 4096)
    (h : ∀ r ∈ recs, recFits r) :
    parseDir (directory recs ++ rest) =
      some ⟨sfntVersion recs, recs.length, (searchParams recs.length).2.1, (searchParams recs.length).1,
            (searchParams recs.length).2.2, recs⟩ := by
  obtain ⟨h1, h2, h3⟩ := searchParams_fit recs.length hn
  have hn' : recs.length < 65536 := by omega
  simp only [parseDir, directory, List.append_assoc, take4_be32 (sfntVersion_lt recs), take2_be16 hn',
    take2_be16 h2, take2_be16 h1, take2_be16 h3, parseRecs_encode recs rest h]

theorem length_setAdj {d : Bytes} {v : Nat} (h : 12 ≤ d.length) : (setAdj d v).length = d.length := by
  simp [setAdj]; omega

theorem length_zeroAdj (d : Bytes) (h : 12 ≤ d.length) : (zeroAdj d).length = d.length := by
  simp [zeroAdj]; omega

theorem length_final (adj : Nat) (t : Table) : (final adj t).length = t.data.length := by
  unfold final
  split
  · rename_i h; exact length_setAdj h.2
  · rfl

theorem length_padded (d : Bytes) : (padded d).length = pad4 d.length := by
  have := pad4_ge d.length
  simp [padded]; omega

theorem length_pre_padded (adj : Nat) (pre : Bytes) (t : Table) :
    (pre ++ padded (final adj t)).length = pre.length + pad4 t.data.length := by
  simp [length_padded, length_final]

theorem zeroAdj_setAdj {d : Bytes} {v : Nat} (h : 12 ≤ d.length) : zeroAdj (setAdj d v) = zeroAdj d := by
  have h8 : (List.take 8 d).length = 8 := by simp; omega
  unfold zeroAdj setAdj
  congr 1
  · congr 1
    rw [List.append_assoc, List.take_append_of_le_length (by omega)]
    exact List.take_of_length_le (by omega)
  · rw [List.append_assoc, List.drop_append, List.drop_append]
    simp only [h8, length_be32]
    rw [List.drop_eq_nil_of_le (by omega), List.drop_eq_nil_of_le (by simp)]
    simp

/-- `zeroedRaw` spells out the condition that `final` calls `isHeadAdj`; only the length of the data enters it. -/
theorem zeroedRaw_eq {t : Table} {d : Bytes} (hd : d.length = t.data.length) :
    zeroedRaw t.tag d = if isHeadAdj t then zeroAdj d else d := by
  unfold zeroedRaw isHeadAdj; rw [hd]

theorem zeroed_eq (t : Table) : zeroed t = if isHeadAdj t then zeroAdj t.data else t.data := rfl

theorem zeroedRaw_final (adj : Nat) (t : Table) : zeroedRaw t.tag (final adj t) = zeroed t := by
  rw [zeroedRaw_eq (length_final adj t), zeroed_eq]
  unfold final
  split
  · rename_i h; exact zeroAdj_setAdj h.2
  · rfl

theorem length_body (adj : Nat) (l : List Table) : (body adj l).length = bodyLen l := by
  induction l with
  | nil => rfl
  | cons t l ih =>
    simp only [body, List.flatMap_cons, List.length_append, length_padded, length_final, bodyLen,
      List.map_cons, List.sum_cons] at ih ⊢
    rw [ih]

theorem body_cons (adj : Nat) (t : Table) (l : List Table) :
    body adj (t :: l) = padded (final adj t) ++ body adj l := by simp [body]

/-- Everything the checker looks at in the file `f` for the record `r` that `assign` makes for the table `t`, when the table
    area starts at `lo` (offsets are 4-aligned relative to `lo`) and `head` carries the adjustment `adj`. -/
structure RecFacts (adj : Nat) (f : Bytes) (lo : Nat) (r : Rec) (t : Table) : Prop where
  tag : r.tag = t.tag
  len : r.length = t.data.length
  cks : r.checksum = checksum (zeroed t)
  lower : lo ≤ r.offset
  aligned : (r.offset - lo) % 4 = 0
  upper : r.offset + pad4 r.length ≤ f.length
  data : recData f r = final adj t
  padz : (f.drop (r.offset + r.length)).take (pad4 r.length - r.length) =
          List.replicate (pad4 r.length - r.length) 0

/-- the first record of `assign`: its table stands right behind `pre` -/
theorem first_facts (adj : Nat) (pre rest : Bytes) (t : Table) :
    RecFacts adj (pre ++ (padded (final adj t) ++ rest)) pre.length
      ⟨t.tag, checksum (zeroed t), pre.length, t.data.length⟩ t := by
  have hfl := length_final adj t
  refine ⟨rfl, rfl, rfl, Nat.le_refl _, by simp, by simp [length_padded, hfl], ?_, ?_⟩
  · show ((pre ++ (padded (final adj t) ++ rest)).drop pre.length).take t.data.length = final adj t
    rw [padded, List.append_assoc, ← hfl, List.drop_left, List.take_left]
  · show ((pre ++ (padded (final adj t) ++ rest)).drop (pre.length + t.data.length)).take _ = _
    rw [padded, List.append_assoc, ← List.append_assoc pre, ← hfl, ← List.length_append, List.drop_left,
      List.take_left' List.length_replicate]

theorem assign_facts (adj : Nat) : ∀ (l : List Table) (pre : Bytes) (r : Rec),
    r ∈ assign pre.length l → ∃ t ∈ l, RecFacts adj (pre ++ body adj l) pre.length r t
  | [], _, _, h => by simp [assign] at h
  | t :: l, pre, r, h => by
    simp only [assign, List.mem_cons] at h
    rw [body_cons]
    rcases h with rfl | h
    · exact ⟨t, List.mem_cons_self, first_facts adj pre _ t⟩
    · rw [← length_pre_padded adj] at h
      obtain ⟨u, hu, fu⟩ := assign_facts adj l (pre ++ padded (final adj t)) r h
      rw [List.append_assoc, length_pre_padded] at fu
      have hm := pad4_mod t.data.length
      have hlo := fu.lower
      have hal := fu.aligned
      exact ⟨u, List.mem_cons_of_mem _ hu,
        fu.tag, fu.len, fu.cks, by omega, by omega, fu.upper, fu.data, fu.padz⟩

/-- `disjointB` as a proposition -/
def disjointP (a b : Rec) : Prop :=
  a.offset + pad4 a.length ≤ b.offset ∨ b.offset + pad4 b.length ≤ a.offset

/-- every later record starts where the padded extent of the first one ends, or further on (`RecFacts.lower`);
    offsets do not depend on the adjustment, so `assign_facts` is taken at adjustment 0 -/
theorem assign_disjoint : ∀ (l : List Table) (pre : Bytes), List.Pairwise disjointP (assign pre.length l)
  | [], _ => by simp [assign]
  | t :: l, pre => by
    simp only [assign]
    rw [← length_pre_padded 0]
    refine List.pairwise_cons.2 ⟨fun r hr => ?_, assign_disjoint l _⟩
    obtain ⟨_, _, fr⟩ := assign_facts 0 l _ r hr
    exact Or.inl (length_pre_padded 0 pre t ▸ fr.lower)

theorem assign_map {β} (φ : UInt32 → Nat → β) : ∀ (l : List Table) (pos : Nat),
    (assign pos l).map (fun r => φ r.tag r.length) = l.map fun t => φ t.tag t.data.length
  | [], _ => rfl
  | t :: l, pos => by simp [assign, assign_map φ l]

theorem length_assign (l : List Table) (pos : Nat) : (assign pos l).length = l.length := by
  simpa using congrArg List.length (assign_map (fun _ _ => ()) l pos)

theorem assign_readback (adj : Nat) : ∀ (l : List Table) (pre : Bytes),
    (assign pre.length l).map (fun r => (⟨r.tag, recData (pre ++ body adj l) r⟩ : Table)) =
      l.map (fun t => ⟨t.tag, final adj t⟩)
  | [], _ => rfl
  | t :: l, pre => by
    have ih := assign_readback adj l (pre ++ padded (final adj t))
    rw [length_pre_padded, List.append_assoc] at ih
    simp only [assign, List.map_cons, body_cons]
    rw [ih, (first_facts adj pre (body adj l) t).data]

end Fontc.SfntProofs
