/-
  The predicates on boxes, rule lists and points that the theorems of FontcProps/C16.lean are stated with
  (model: FontcModel/FeatVars.lean).
-/
import FontcModel.FeatVars

namespace Fontc.FeatVars

/-- What `NBox::insert` establishes (it clamps), and what makes the clamping inside `overlay_onto` the identity. -/
def BoxOk (b : NBox) : Prop := ∀ lo hi, some (lo, hi) ∈ b → -1 ≤ lo ∧ hi ≤ 1

/-- what the overlay needs from the (merged) rule list -/
structure RulesOk (n : Nat) (cs : List Rule) : Prop where
  nonempty : ∀ r ∈ cs, r.1 ≠ []
  shape : ∀ r ∈ cs, ∀ c ∈ r.1, c.length = n ∧ BoxOk c

/-- per-axis sets of bounds: `L k x` = "`x` is a lower bound of some input box on axis `k`" -/
abbrev Bnd := Nat → Rat → Prop

/-- the lower bounds of `boxes`, axis by axis -/
def loSet (boxes : List NBox) : Bnd := fun k x => ∃ b ∈ boxes, ∃ hi, b[k]? = some (some (x, hi))

/-- the upper bounds of `boxes`, axis by axis -/
def hiSet (boxes : List NBox) : Bnd := fun k x => ∃ b ∈ boxes, ∃ lo, b[k]? = some (some (lo, x))

/-- The degenerate touching boundary: on some axis one input box ends and one begins at the coordinate of `p`
    (two boxes touching there, or one box of zero width). -/
def OnTouchingBoundary (boxes : List NBox) (p : Point) : Prop :=
  ∃ k x, p[k]? = some x ∧ loSet boxes k x ∧ hiSet boxes k x

/-- no glyph is a key of `s` twice -/
def SubsUniq (s : Subs) : Prop := s.Pairwise fun a b => a.1 ≠ b.1

/-- every coordinate of `p` is a normalized coordinate, in [-1, 1] -/
def InCube (p : Point) : Prop := ∀ x ∈ p, -1 ≤ x ∧ x ≤ 1

/-- some rule active at `p` substitutes glyph `x` for glyph `g` -/
def ActiveHas (rules : List Rule) (p : Point) (g x : Nat) : Prop :=
  ∃ r ∈ rules, regionContains r.1 p = true ∧ subsGet r.2 g = some x

/-- the rules active at `p` do not substitute different glyphs for the same glyph -/
def NoConflict (rules : List Rule) (p : Point) : Prop :=
  ∀ g x y, ActiveHas rules p g x → ActiveHas rules p g y → x = y

/-- the rule list `overlay_feature_variations` hands to its overlay loop -/
def mergedRules (rules : List Rule) : List Rule := mergeSameRegionRules (mergeSameSubRules rules)

end Fontc.FeatVars
