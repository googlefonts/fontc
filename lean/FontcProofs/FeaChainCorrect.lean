/-
  C11, contextual lookups: the compiled contextual lookup (format 3 subtables + anonymous
  lookups) against "first matching rule, its inline replacement at the marked glyph".
-/
import FontcProofs.FeaChainStep
import FontcProofs.FeaLookupSem

namespace Fontc.FeaCompile
open Cmp

/-- one contextual rule of the source tried at one position (the counterpart of `otTry`) -/
def srcTry (gdefSrc : List (Glyph × Nat)) (alt : Nat) (env : String → Option Src.Lookup) (flag : Flag)
    (rev : List Glyph) (g : Glyph) (suf : List Glyph) (r : Src.CtxRule) : Option (List Glyph × List Glyph) :=
  (Src.ctxMatch (Src.ignored gdefSrc flag) r rev g suf).map
    fun ps => ctxResult (Src.actionStep gdefSrc alt env flag) rev g suf ps r.actions

theorem chainStep_eq (gdefSrc : List (Glyph × Nat)) (alt : Nat) (env : String → Option Src.Lookup) (l : Src.Lookup)
    (rev : List Glyph) (g : Glyph) (suf : List Glyph) :
    Src.chainStep gdefSrc alt env l rev g suf
      = (l.rules.flatMap Src.ctxRules).findSome? (srcTry gdefSrc alt env l.flag rev g suf) := by
  simp only [Src.chainStep, List.map_findSome?, Function.comp_def, Option.map_map]
  rfl

theorem matchCtx_head {ign : Glyph → Bool} {back input look : List (Glyph → Bool)} {rev : List Glyph} {g : Glyph}
    {suf : List Glyph} {ps : List Nat} (h : matchCtx ign back input look rev g suf = some ps) :
    ps[0]? = some 0 ∧ ∃ p, input.head? = some p ∧ p g = true := by
  cases input with
  | nil => simp [matchCtx, matchInput] at h
  | cons p rest =>
    simp only [matchCtx, matchInput] at h
    by_cases hp : p g = true
    · cases hm : matchFwd ign rest suf 1 <;> simp [hp, hm] at h
      obtain ⟨_, rfl⟩ := h
      exact ⟨rfl, p, rfl, hp⟩
    · simp [hp] at h

theorem lookupStep_buildAnonLookup (gdef : OT.Gdef) (alt : Nat) (lookups : List OT.Lookup) (d : Nat) (cf : CFlag)
    (a : Anon) (rev : List Glyph) (g : Glyph) (suf : List Glyph) :
    OT.lookupStep gdef alt lookups d (buildAnonLookup cf a) rev g suf
      = OT.simpleSubtableStep (OT.ignored gdef cf.1 cf.2) alt (buildAnon a) rev g suf := by
  rw [lookupStep_simple]
  · exact List.findSome?_singleton
  · intro st hst
    obtain rfl := List.mem_singleton.mp hst
    cases a <;> intros <;> rfl

theorem refActions_of_empty {input : List (GC × List String)} (h : ∀ x ∈ input, x.2 = []) (i : Nat) :
    Src.refActions input i = [] := by
  induction input generalizing i with
  | nil => rfl
  | cons x xs ih =>
    obtain ⟨gc, refs⟩ := x
    have : refs = [] := h (gc, refs) (by simp)
    subst this
    simp [Src.refActions, ih (fun y hy => h y (by simp [hy]))]

section
variable {fx : Fixes} {root : Nat} {named : String → LookupId}
  {gdefSrc : List (Glyph × Nat)} {gdef : OT.Gdef} {cf : CFlag} {f : Flag} {alt : Nat} {env : String → Option Src.Lookup}
  {lookups : List OT.Lookup} {d : Nat} {A : List Anon}

theorem try_chain_rule
    (hign : ∀ y, OT.ignored gdef cf.1 cf.2 y = Src.ignored gdefSrc f y)
    (hplaced : ∀ j a, A[j]? = some a → lookups[root + j + 1]? = some (buildAnonLookup cf a))
    (an : List Anon) (back : List GC) (input : List (GC × List String)) (look : List GC) (inl : Inline)
    (hshape : inlineShapeOk (.chain back input look inl))
    (hholds : InlineHolds A input inl (anonInline fx an input inl).2)
    (rev : List Glyph) (g : Glyph) (suf : List Glyph) :
    (rawOf fx root named an (.chain back input look inl)).findSome?
        (otTry (OT.ignored gdef cf.1 cf.2) (fun i => (lookups[i]?).map (OT.lookupStep gdef alt lookups d)) rev g suf)
      = (Src.ctxRules (.chain back input look inl)).findSome? (srcTry gdefSrc alt env f rev g suf) := by
  have hignf : OT.ignored gdef cf.1 cf.2 = Src.ignored gdefSrc f := funext hign
  -- the two sides match the same sequences (`ctxInput_has`); they differ in how the replacement is reached
  simp only [rawOf, Src.ctxRules, List.findSome?_cons, List.findSome?_nil, otTry, srcTry, Src.ctxMatch, hignf, ctxInput_has]
  cases hm : matchCtx (Src.ignored gdefSrc f) (back.reverse.map GC.has) ((input.map (·.1)).map GC.has) (look.map GC.has) rev g suf with
  | none => simp
  | some ps =>
    obtain ⟨hps0, p, hp, hpg⟩ := matchCtx_head hm
    simp only [Option.map_some]
    cases hidx : (anonInline fx an input inl).2 with
    | none =>
      rw [hidx] at hholds
      obtain rfl : inl = .none := hholds
      rw [recs_ctxInput_none hshape.2, refActions_of_empty hshape.2 0]
      rfl
    | some j =>
      rw [hidx] at hholds
      obtain ⟨a, hAj, hdoes⟩ := hholds
      have hne : inl ≠ .none := by rintro rfl; simp [anonInline] at hidx
      obtain ⟨t, rfl⟩ := inlineShapeOk_marked hshape hne
      obtain rfl : GC.has t = p := by simpa using hp
      -- one record, at the marked glyph: the anonymous lookup at `root + j + 1` against the inline action
      rw [recs_ctxInput_single]
      split
      · exact absurd rfl hne
      · refine congrArg some (ctxResult_single_congr ?_ hps0)
        rw [hdoes gdefSrc alt env f (OT.ignored gdef cf.1 cf.2) rev g suf ⟨t, rfl, hpg⟩, hplaced _ _ hAj]
        exact congrArg some (lookupStep_buildAnonLookup ..)

theorem try_ignore_rule (hign : ∀ y, OT.ignored gdef cf.1 cf.2 y = Src.ignored gdefSrc f y)
    (an : List Anon) (alts : List (List GC × List GC × List GC))
    (rev : List Glyph) (g : Glyph) (suf : List Glyph) :
    (rawOf fx root named an (.ignore alts)).findSome?
        (otTry (OT.ignored gdef cf.1 cf.2) (fun i => (lookups[i]?).map (OT.lookupStep gdef alt lookups d)) rev g suf)
      = (Src.ctxRules (.ignore alts)).findSome? (srcTry gdefSrc alt env f rev g suf) := by
  have hignf : OT.ignored gdef cf.1 cf.2 = Src.ignored gdefSrc f := funext hign
  simp only [rawOf, Src.ctxRules, List.findSome?_map]
  refine findSome?_congr fun x _ => ?_
  obtain ⟨b, i, l⟩ := x
  simp only [Function.comp_apply, otTry, srcTry, Src.ctxMatch, hignf, List.map_map]
  rw [recs_of_empty (by intro x hx; obtain ⟨y, _, rfl⟩ := List.mem_map.mp hx; rfl)]
  rfl

theorem raws_findSome (hign : ∀ y, OT.ignored gdef cf.1 cf.2 y = Src.ignored gdefSrc f y)
    (hplaced : ∀ j a, A[j]? = some a → lookups[root + j + 1]? = some (buildAnonLookup cf a))
    (rev : List Glyph) (g : Glyph) (suf : List Glyph) (rs : List Rule) :
    ∀ (an : List Anon) (earlier : List (Glyph × Glyph)), anonOf fx an rs = A → (∀ r ∈ rs, r.kind = .chain) →
    (∀ r ∈ rs, inlineShapeOk r) → SingleOk rs earlier →
    (rawsOf fx root named an rs).findSome?
        (otTry (OT.ignored gdef cf.1 cf.2) (fun i => (lookups[i]?).map (OT.lookupStep gdef alt lookups d)) rev g suf)
      = (rs.flatMap Src.ctxRules).findSome? (srcTry gdefSrc alt env f rev g suf) := by
  induction rs with
  | nil => intro _ _ _ _ _ _; rfl
  | cons r rs ih =>
    intro an earlier hA hk hshape hok
    have hrest : ∀ r' ∈ rs, inlineShapeOk r' := fun r' h => hshape r' (by simp [h])
    obtain ⟨e, hok'⟩ := hok.tail
    simp only [rawsOf, List.flatMap_cons, List.findSome?_append]
    rw [ih _ e hA (fun r' h => hk r' (by simp [h])) hrest hok']
    have hkr := hk r (by simp)
    cases r with
    | chain back input look inl =>
      rw [try_chain_rule hign hplaced an back input look inl (hshape _ (by simp))
        (hA ▸ inlineHolds_final fx (hshape _ (by simp)) hrest an hok) rev g suf]
    | ignore alts =>
      rw [try_ignore_rule hign an alts rev g suf]
    | _ => simp [Rule.kind] at hkr

/-- For `sub x a' y by b;`, `sub x a' by b c;`, `ignore sub …` and rules without replacement (`inlineShapeOk`):
    the compiled lookup — one format 3 subtable per (merged) rule, inline replacements pooled in anonymous
    lookups placed after it (`hplaced`) — does at every position what the first matching source rule says. -/
theorem chain_lookup_correct {rs : List Rule} (hne : rs ≠ []) (hk : ∀ r ∈ rs, r.kind = .chain)
    (hshape : ∀ r ∈ rs, inlineShapeOk r) (hok : SingleOk rs [])
    (hign : ∀ y, OT.ignored gdef cf.1 cf.2 y = Src.ignored gdefSrc f y)
    (hplaced : ∀ j a, (anonOf fx [] rs)[j]? = some a → lookups[root + j + 1]? = some (buildAnonLookup cf a))
    (name : Option String) (rev : List Glyph) (g : Glyph) (suf : List Glyph) :
    OT.lookupStep gdef alt lookups (d + 1) (buildLookup cf (rs.foldl (Builder.add fx root named) (Builder.new .chain))) rev g suf
      = Src.lookupStep gdefSrc alt env ⟨name, f, rs⟩ rev g suf := by
  rw [lookupStep_homogeneous hne hk, if_pos rfl, chainStep_eq]
  simp only [Builder.new, foldl_add_chain hk, lookupStep_chain, findSome_foldl_addCRule, List.nil_append]
  exact raws_findSome hign hplaced rev g suf rs [] [] rfl hk hshape hok

end

end Fontc.FeaCompile
