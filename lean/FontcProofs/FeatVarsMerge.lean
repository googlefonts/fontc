/-
  The two merge passes of `overlay_feature_variations` (`merge_same_sub_rules`, `merge_same_region_rules`): what
  they preserve; and the function as a whole (merge passes + overlay) for conflict-free rule lists.
-/
import FontcProofs.FeatVarsFinal

namespace Fontc.FeatVars

theorem subsGet_nil (g : Nat) : subsGet [] g = none := rfl

theorem subsGet_cons (k v : Nat) (m : Subs) (g : Nat) :
    subsGet ((k, v) :: m) g = if g = k then some v else subsGet m g := by
  unfold subsGet
  rw [List.find?_cons]
  by_cases h : g = k
  · rw [if_pos h, beq_iff_eq.2 h.symm]; rfl
  · rw [if_neg h, beq_eq_false_iff_ne.2 (Ne.symm h)]

theorem subsGet_subsInsert (k v : Nat) (m : Subs) (g : Nat) :
    subsGet (subsInsert k v m) g = if g = k then some v else subsGet m g := by
  induction m with
  | nil => rw [subsInsert, subsGet_cons, subsGet_nil]
  | cons e m ih =>
    obtain ⟨k', v'⟩ := e
    simp only [subsInsert]
    split
    · rw [subsGet_cons]
    · split
      · next heq =>
        subst heq
        rw [subsGet_cons, subsGet_cons]
        split <;> rfl
      · next hne =>
        -- the entry goes further back; `g` cannot be both `k` and `k'`
        rw [subsGet_cons, subsGet_cons, ih]
        by_cases h : g = k
        · have hk' : ¬ g = k' := h ▸ hne
          simp only [if_pos h, if_neg hk']
        · simp only [if_neg h]

theorem subsGet_eq_lookup (m : Subs) (g : Nat) : subsGet m g = m.lookup g := by
  induction m with
  | nil => rfl
  | cons e m ih =>
    rw [subsGet_cons, lookup_cons_ite, ih]
    by_cases h : g = e.1 <;> simp [h]

theorem isInsert_subsInsert : IsInsert subsInsert := fun k v m k' => by
  simp only [← subsGet_eq_lookup, subsGet_subsInsert, beq_iff_eq]

theorem subsGet_subsExtend (old new : Subs) (g : Nat) :
    subsGet (subsExtend old new) g = (subsGet new.reverse g).or (subsGet old g) := by
  simp only [subsGet_eq_lookup]
  exact isInsert_subsInsert.lookup_foldl new old g

theorem mem_of_subsGet {s : Subs} {g x : Nat} (h : subsGet s g = some x) : (g, x) ∈ s :=
  mem_of_lookup_eq_some (subsGet_eq_lookup s g ▸ h)

theorem subsGet_of_mem {s : Subs} (hu : SubsUniq s) {g x : Nat} (h : (g, x) ∈ s) : subsGet s g = some x :=
  (subsGet_eq_lookup s g).trans ((lookup_eq_some_iff_of_nodup (List.pairwise_map.2 hu)).2 h)

theorem contains_cleanupBox {b : NBox} {p : Point} (hp : InCube p) :
    contains (cleanupBox b) p = contains b p := by
  induction b generalizing p with
  | nil => rfl
  | cons e b ih =>
    cases p with
    | nil => rfl
    | cons x p =>
      have ih' : contains (cleanupBox b) p = contains b p := ih fun y hy => hp y (List.mem_cons_of_mem _ hy)
      have hx := hp x List.mem_cons_self
      cases e with
      | none => exact ih'
      | some r =>
        obtain ⟨lo, hi⟩ := r
        show contains ((if lo = -1 ∧ hi = 1 then none else some (lo, hi)) :: cleanupBox b) (x :: p) = _
        split
        · next h =>
          -- the range dropped is all of [-1, 1], and `x` is inside
          obtain ⟨rfl, rfl⟩ := h
          simp [contains, ih', hx.1, hx.2]
        · simp only [contains, ih']

theorem length_cleanupBox (b : NBox) : (cleanupBox b).length = b.length := by simp [cleanupBox]

theorem cleanupBox_getElem {b : NBox} {k : Nat} {lo hi : Rat}
    (h : (cleanupBox b)[k]? = some (some (lo, hi))) : b[k]? = some (some (lo, hi)) := by
  simp only [cleanupBox, List.getElem?_map] at h
  cases hb : b[k]? with
  | none => simp [hb] at h
  | some e =>
    simp only [hb, Option.map_some, Option.some.injEq] at h
    cases e with
    | none => simp at h
    | some r =>
      obtain ⟨lo', hi'⟩ := r
      simp only at h
      split at h
      · cases h
      · cases h; rfl

theorem cleanupBox_ok {b : NBox} (h : BoxOk b) : BoxOk (cleanupBox b) := fun lo hi hm => by
  obtain ⟨k, hk⟩ := List.getElem?_of_mem hm
  exact h lo hi (List.mem_of_getElem? (cleanupBox_getElem hk))

theorem mem_normalizeRegion {r : Region} {c : NBox} : c ∈ normalizeRegion r ↔ ∃ b ∈ r, c = cleanupBox b := by
  simp [normalizeRegion, mem_insSort, eq_comm]

theorem regionContains_normalize {r : Region} {p : Point} (hp : InCube p) :
    regionContains (normalizeRegion r) p = regionContains r p := by
  rw [Bool.eq_iff_iff, regionContains_iff, regionContains_iff]
  constructor
  · rintro ⟨c, hc, hcp⟩
    obtain ⟨b, hb, rfl⟩ := mem_normalizeRegion.1 hc
    exact ⟨b, hb, by rwa [contains_cleanupBox hp] at hcp⟩
  · rintro ⟨b, hb, hbp⟩
    exact ⟨cleanupBox b, mem_normalizeRegion.2 ⟨b, hb, rfl⟩, by rwa [contains_cleanupBox hp]⟩

theorem normalizeRegion_ne_nil {r : Region} (h : r ≠ []) : normalizeRegion r ≠ [] := by
  cases r with
  | nil => exact absurd rfl h
  | cons b r =>
    intro hn
    have : cleanupBox b ∈ normalizeRegion (b :: r) := mem_normalizeRegion.2 ⟨b, by simp, rfl⟩
    rw [hn] at this
    simp at this

theorem effective_iff {rules : List Rule} {p : Point} (hnc : NoConflict rules p) {g x : Nat} :
    effective (activeSubs rules p) g = some x ↔ ActiveHas rules p g x := by
  constructor
  · intro h
    obtain ⟨m, hm, hx⟩ := List.exists_of_findSome?_eq_some h
    obtain ⟨r, hr, hact, rfl⟩ := mem_activeSubs.1 hm
    exact ⟨r, hr, hact, hx⟩
  · rintro ⟨r, hr, hact, hx⟩
    cases hf : effective (activeSubs rules p) g with
    | none =>
      have := List.findSome?_eq_none_iff.1 hf _ (mem_activeSubs.2 ⟨r, hr, hact, rfl⟩)
      rw [hx] at this
      cases this
    | some y =>
      -- the first active map that has `g` may belong to another rule; without conflict it gives the same glyph
      obtain ⟨m, hm, hy⟩ := List.exists_of_findSome?_eq_some hf
      obtain ⟨r', hr', hact', rfl⟩ := mem_activeSubs.1 hm
      rw [hnc g y x ⟨r', hr', hact', hy⟩ ⟨r, hr, hact, hx⟩]

theorem effective_congr {rs rs' : List Rule} {p : Point} (hnc : NoConflict rs p)
    (h : ∀ g x, ActiveHas rs' p g x ↔ ActiveHas rs p g x) {g : Nat} :
    effective (activeSubs rs' p) g = effective (activeSubs rs p) g := by
  have hnc' : NoConflict rs' p := fun g x y hx hy => hnc g x y ((h g x).1 hx) ((h g y).1 hy)
  cases h1 : effective (activeSubs rs p) g with
  | some x => exact (effective_iff hnc').2 ((h g x).2 ((effective_iff hnc).1 h1))
  | none =>
    cases h2 : effective (activeSubs rs' p) g with
    | none => rfl
    | some y =>
      have := (effective_iff hnc).2 ((h g y).1 ((effective_iff hnc').1 h2))
      rw [h1] at this; cases this

theorem mergeSameSubRules_eq (rules : List Rule) :
    mergeSameSubRules rules =
      (rules.foldl (fun m (x : Rule) => imUpsert x.2 x.1 (fun r => r ++ x.1) m) []).map fun e => (e.2, e.1) :=
  rfl

theorem mergeSameSubRules_spec {rules : List Rule} (hne : ∀ r ∈ rules, r.1 ≠ []) :
    (∀ r' ∈ mergeSameSubRules rules, r'.1 ≠ [] ∧ ∀ c ∈ r'.1, ∃ r ∈ rules, r.2 = r'.2 ∧ c ∈ r.1) ∧
    (∀ r ∈ rules, ∃ r' ∈ mergeSameSubRules rules, r'.2 = r.2 ∧ ∀ c ∈ r.1, c ∈ r'.1) := by
  have h := groupInv_fold (key := fun r : Rule => r.2) (val := fun r : Rule => r.1) (comb := fun a b => a ++ b)
    (Has := fun (reg : Region) c => c ∈ reg) (Cov := fun a b : Region => ∀ c ∈ a, c ∈ b) rules
    (fun _ _ _ _ h => List.mem_append.1 h) (fun _ _ _ h c hc => List.mem_append_left _ (h c hc))
    (fun _ _ c hc => List.mem_append_right _ hc) (fun _ _ hc => hc) [] [] ⟨by simp, by simp, by simp⟩
  simp only [GroupInv, List.nil_append] at h
  obtain ⟨h1, h2, h3⟩ := h
  rw [mergeSameSubRules_eq]
  constructor
  · intro r' hr'
    obtain ⟨e, he, rfl⟩ := List.mem_map.1 hr'
    refine ⟨?_, fun c hc => h1 e he c hc⟩
    obtain ⟨r, hr, _, hcov⟩ := h3 e he
    cases hreg : r.1 with
    | nil => exact absurd hreg (hne r hr)
    | cons c _ => exact List.ne_nil_of_mem (hcov c (by rw [hreg]; simp))
  · intro r hr
    obtain ⟨reg, hreg, hsub⟩ := h2 r hr
    exact ⟨(reg, r.2), List.mem_map.2 ⟨(r.2, reg), hreg, rfl⟩, rfl, hsub⟩

theorem mergeSameRegionRules_eq (rules : List Rule) :
    mergeSameRegionRules rules =
      (rules.reverse.foldl (fun m (x : Rule) => imUpsert (normalizeRegion x.1) x.2 (fun old => subsExtend old x.2) m) []).reverse :=
  rfl

theorem mergeSameRegionRules_spec {rules : List Rule} (hu : ∀ r ∈ rules, SubsUniq r.2) :
    (∀ r' ∈ mergeSameRegionRules rules,
        (∃ r ∈ rules, normalizeRegion r.1 = r'.1) ∧
        ∀ g x, subsGet r'.2 g = some x → ∃ r ∈ rules, normalizeRegion r.1 = r'.1 ∧ subsGet r.2 g = some x) ∧
    (∀ r ∈ rules, ∃ r' ∈ mergeSameRegionRules rules, r'.1 = normalizeRegion r.1 ∧
        ∀ g, (subsGet r.2 g).isSome = true → (subsGet r'.2 g).isSome = true) := by
  have h := groupInv_fold (key := fun r : Rule => normalizeRegion r.1) (val := fun r : Rule => r.2) (comb := subsExtend)
    (Has := fun (s : Subs) (gx : Nat × Nat) => subsGet s gx.1 = some gx.2)
    (Cov := fun a b : Subs => ∀ g, (subsGet a g).isSome = true → (subsGet b g).isSome = true) rules.reverse
    (fun r hr old gx h => by
      rw [subsGet_subsExtend] at h
      rcases Option.or_eq_some_iff.1 h with h | ⟨_, h⟩
      · exact Or.inr (subsGet_of_mem (hu r (List.mem_reverse.1 hr)) (List.mem_reverse.1 (mem_of_subsGet h)))
      · exact Or.inl h)
    (fun _ old v h g hg => by rw [subsGet_subsExtend, Option.isSome_or, h g hg, Bool.or_true])
    (fun old v g hg => by
      obtain ⟨x, hx⟩ := Option.isSome_iff_exists.1 hg
      rw [subsGet_subsExtend, Option.isSome_or, subsGet_eq_lookup,
        lookup_isSome_iff.2 ⟨x, List.mem_reverse.2 (mem_of_subsGet hx)⟩, Bool.true_or])
    (fun _ _ hg => hg) [] [] ⟨by simp, by simp, by simp⟩
  simp only [GroupInv, List.nil_append] at h
  obtain ⟨h1, h2, h3⟩ := h
  rw [mergeSameRegionRules_eq]
  constructor
  · intro r' hr'
    have hr' := List.mem_reverse.1 hr'
    constructor
    · obtain ⟨r, hr, e, _⟩ := h3 r' hr'
      exact ⟨r, List.mem_reverse.1 hr, e⟩
    · intro g x hx
      obtain ⟨r, hr, e1, e2⟩ := h1 r' hr' (g, x) hx
      exact ⟨r, List.mem_reverse.1 hr, e1, e2⟩
  · intro r hr
    obtain ⟨s, hs, hsome⟩ := h2 r (List.mem_reverse.2 hr)
    exact ⟨(normalizeRegion r.1, s), List.mem_reverse.2 hs, rfl, hsome⟩

section
variable {n : Nat} {rules : List Rule} (hok : RulesOk n rules) (hu : ∀ r ∈ rules, SubsUniq r.2)
include hok hu

theorem mergeSameSubRules_ok : RulesOk n (mergeSameSubRules rules) ∧ ∀ r ∈ mergeSameSubRules rules, SubsUniq r.2 := by
  obtain ⟨s1, _⟩ := mergeSameSubRules_spec hok.nonempty
  refine ⟨⟨fun r hr => (s1 r hr).1, fun r' hr' c hc => ?_⟩, fun r' hr' => ?_⟩
  · obtain ⟨r, hr, _, hcr⟩ := (s1 r' hr').2 c hc
    exact hok.shape r hr c hcr
  · obtain ⟨hne, hsrc⟩ := s1 r' hr'
    cases hreg : r'.1 with
    | nil => exact absurd hreg hne
    | cons c _ =>
      obtain ⟨r, hr, he, _⟩ := hsrc c (by rw [hreg]; simp)
      rw [← he]; exact hu r hr

omit hu in
theorem mergeSameSubRules_active {p : Point} {g x : Nat} :
    ActiveHas (mergeSameSubRules rules) p g x ↔ ActiveHas rules p g x := by
  obtain ⟨s1, s2⟩ := mergeSameSubRules_spec hok.nonempty
  constructor
  · rintro ⟨r', hr', hact, hx⟩
    obtain ⟨c, hc, hcp⟩ := regionContains_iff.1 hact
    obtain ⟨r, hr, he, hcr⟩ := (s1 r' hr').2 c hc
    exact ⟨r, hr, regionContains_iff.2 ⟨c, hcr, hcp⟩, by rw [he]; exact hx⟩
  · rintro ⟨r, hr, hact, hx⟩
    obtain ⟨r', hr', he, hsub⟩ := s2 r hr
    obtain ⟨c, hc, hcp⟩ := regionContains_iff.1 hact
    exact ⟨r', hr', regionContains_iff.2 ⟨c, hsub c hc, hcp⟩, by rw [he]; exact hx⟩

theorem mergedRules_ok : RulesOk n (mergedRules rules) := by
  obtain ⟨ok1, u1⟩ := mergeSameSubRules_ok hok hu
  obtain ⟨s1, _⟩ := mergeSameRegionRules_spec u1
  constructor
  · intro r' hr'
    obtain ⟨r, hr, he⟩ := (s1 r' hr').1
    rw [← he]; exact normalizeRegion_ne_nil (ok1.nonempty r hr)
  · intro r' hr' c hc
    obtain ⟨r, hr, he⟩ := (s1 r' hr').1
    rw [← he] at hc
    obtain ⟨b, hb, rfl⟩ := mem_normalizeRegion.1 hc
    obtain ⟨h1, h2⟩ := ok1.shape r hr b hb
    exact ⟨by rw [length_cleanupBox, h1], cleanupBox_ok h2⟩

theorem mergedRules_active {p : Point} (hp : InCube p) (hnc : NoConflict rules p) {g x : Nat} :
    ActiveHas (mergedRules rules) p g x ↔ ActiveHas rules p g x := by
  obtain ⟨_, u1⟩ := mergeSameSubRules_ok hok hu
  obtain ⟨s1, s2⟩ := mergeSameRegionRules_spec u1
  have hnc1 : NoConflict (mergeSameSubRules rules) p := fun g x y hx hy =>
    hnc g x y ((mergeSameSubRules_active hok).1 hx) ((mergeSameSubRules_active hok).1 hy)
  have fwd : ∀ g x, ActiveHas (mergedRules rules) p g x → ActiveHas (mergeSameSubRules rules) p g x := by
    rintro g x ⟨r', hr', hact, hx⟩
    obtain ⟨r, hr, he, hxr⟩ := (s1 r' hr').2 g x hx
    refine ⟨r, hr, ?_, hxr⟩
    rw [← regionContains_normalize hp, he]; exact hact
  rw [← mergeSameSubRules_active hok]
  constructor
  · exact fwd g x
  · rintro ⟨r, hr, hact, hx⟩
    obtain ⟨r', hr', he, hsome⟩ := s2 r hr
    have hact' : regionContains r'.1 p = true := by rw [he, regionContains_normalize hp]; exact hact
    -- the merged rule `r'` of `r`'s region gives `g` some value `y`, which an active rule of the first pass gives it
    -- too: `y = x`, as there is no conflict
    cases hy : subsGet r'.2 g with
    | none =>
      have := hsome g (by rw [hx]; rfl)
      rw [hy] at this
      cases this
    | some y =>
      have hyA : ActiveHas (mergedRules rules) p g y := ⟨r', hr', hact', hy⟩
      have : y = x := hnc1 g y x (fwd g y hyA) ⟨r, hr, hact, hx⟩
      subst this; exact hyA

theorem mergedRules_touch {p : Point} (h : OnTouchingBoundary ((mergedRules rules).flatMap (·.1)) p) :
    OnTouchingBoundary (rules.flatMap (·.1)) p := by
  obtain ⟨_, u1⟩ := mergeSameSubRules_ok hok hu
  obtain ⟨s1, _⟩ := mergeSameRegionRules_spec u1
  obtain ⟨t1, _⟩ := mergeSameSubRules_spec hok.nonempty
  have src : ∀ c ∈ (mergedRules rules).flatMap (·.1), ∃ b ∈ rules.flatMap (·.1), c = cleanupBox b := by
    intro c hc
    obtain ⟨r', hr', hcr⟩ := List.mem_flatMap.1 hc
    obtain ⟨r, hr, he⟩ := (s1 r' hr').1
    rw [← he] at hcr
    obtain ⟨b, hb, rfl⟩ := mem_normalizeRegion.1 hcr
    obtain ⟨r0, hr0, _, hb0⟩ := (t1 r hr).2 b hb
    exact ⟨b, List.mem_flatMap.2 ⟨r0, hr0, hb0⟩, rfl⟩
  obtain ⟨k, x, hk, ⟨c1, hc1, hi, h1⟩, ⟨c2, hc2, lo, h2⟩⟩ := h
  obtain ⟨b1, hb1, rfl⟩ := src c1 hc1
  obtain ⟨b2, hb2, rfl⟩ := src c2 hc2
  exact ⟨k, x, hk, ⟨b1, hb1, hi, cleanupBox_getElem h1⟩, ⟨b2, hb2, lo, cleanupBox_getElem h2⟩⟩
end

theorem overlay_effective_nat {n : Nat} {rules : List Rule} (hok : RulesOk n rules) (hu : ∀ r ∈ rules, SubsUniq r.2) :
    ∃ out, overlayFeatureVariations natOps n rules = some out ∧
      ∀ p : Point, p.length = n → InCube p → ¬ OnTouchingBoundary (rules.flatMap (·.1)) p → NoConflict rules p →
        ∀ g, effective ((firstMatch out p).getD []) g = effective (activeSubs rules p) g := by
  obtain ⟨out, hout, hall⟩ := first_match_nat (mergedRules_ok hok hu)
  refine ⟨out, hout, ?_⟩
  intro p hp hcube hnt hnc g
  rw [hall p hp fun h => hnt (mergedRules_touch hok hu h), getD_ite_nil]
  exact effective_congr hnc fun g x => mergedRules_active hok hu hcube hnc

end Fontc.FeatVars
