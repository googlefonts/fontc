/-
  C11: the position (`Src.Reg`) a list of events leads to (`regAfter`), and the lookups added at each
  position (`itemsOf`, `itemAt`; per position, in the order added: `idsAt`).
-/
import FontcProofs.FeaEvents

namespace Fontc.FeaCompile
open Cmp

/-- position (`Src.Reg`) after the events, starting from `r` -/
def regAfter (r : Src.Reg) : List Ev → Src.Reg
  | [] => r
  | .sys s _ :: evs => regAfter (regOfSys s) evs
  | .item _ :: evs => regAfter r evs

theorem regAfter_append (r : Src.Reg) (e1 e2 : List Ev) : regAfter r (e1 ++ e2) = regAfter (regAfter r e1) e2 := by
  induction e1 generalizing r with
  | nil => rfl
  | cons e e1 ih => cases e <;> simp [regAfter, ih]

/-- the item events, each with the position it is added at -/
def itemsOf : Src.Reg → List Ev → List (Src.Reg × LookupId)
  | _, [] => []
  | _, .sys s _ :: evs => itemsOf (regOfSys s) evs
  | r, .item id :: evs => (r, id) :: itemsOf r evs

theorem itemsOf_append (r : Src.Reg) (e1 e2 : List Ev) :
    itemsOf r (e1 ++ e2) = itemsOf r e1 ++ itemsOf (regAfter r e1) e2 := by
  induction e1 generalizing r with
  | nil => rfl
  | cons e e1 ih => cases e <;> simp [itemsOf, regAfter, ih]

theorem regAfter_cur (evs : List Ev) : ∀ (pre : List Ev) (r : Src.Reg), r = regOfCur (curOf pre) →
    regAfter r evs = regOfCur (curOf (pre ++ evs)) := by
  induction evs with
  | nil => intro pre r h; simpa [regAfter] using h
  | cons e evs ih =>
    intro pre r h
    rw [show pre ++ e :: evs = (pre ++ [e]) ++ evs by simp]
    cases e with
    | item id => exact ih _ r (by rw [curOf_snoc_item]; exact h)
    | sys s ex => exact ih _ _ (by rw [curOf_snoc_sys]; rfl)

theorem regAfter_root (evs : List Ev) : regAfter .root evs = regOfCur (curOf evs) := by
  simpa using regAfter_cur evs [] .root rfl

/-- `id` was added at position `r` -/
def itemAt (evs : List Ev) (r : Src.Reg) (id : LookupId) : Prop :=
  ∃ x y, evs = x ++ .item id :: y ∧ regAfter .root x = r

theorem mem_itemsOf {evs : List Ev} {r0 r : Src.Reg} {id : LookupId} :
    (r, id) ∈ itemsOf r0 evs ↔ ∃ x y, evs = x ++ .item id :: y ∧ regAfter r0 x = r := by
  constructor
  · intro h
    induction evs generalizing r0 with
    | nil => cases h
    | cons e evs ih =>
      cases e with
      | sys s ex =>
        obtain ⟨x, y, rfl, hr⟩ := ih h
        exact ⟨.sys s ex :: x, y, rfl, hr⟩
      | item id0 =>
        rcases List.mem_cons.mp h with h | h
        · cases h; exact ⟨[], evs, rfl, rfl⟩
        · obtain ⟨x, y, rfl, hr⟩ := ih h
          exact ⟨.item id0 :: x, y, rfl, hr⟩
  · rintro ⟨x, y, rfl, rfl⟩
    simp [itemsOf_append, itemsOf]

theorem itemAt_iff_mem (evs : List Ev) (r : Src.Reg) (id : LookupId) : itemAt evs r id ↔ (r, id) ∈ itemsOf .root evs :=
  mem_itemsOf.symm

/-- the lookups added at position `r`, in the order they were added -/
def idsAt (evs : List Ev) (r : Src.Reg) : List LookupId := ((itemsOf .root evs).filter (·.1 = r)).map (·.2)

theorem mem_idsAt {evs : List Ev} {r : Src.Reg} {id : LookupId} : id ∈ idsAt evs r ↔ itemAt evs r id := by
  simp [idsAt, itemAt_iff_mem]

theorem idsAt_snoc_item (evs : List Ev) (id : LookupId) (r : Src.Reg) :
    idsAt (evs ++ [.item id]) r = idsAt evs r ++ if regAfter .root evs = r then [id] else [] := by
  simp only [idsAt, itemsOf_append, itemsOf, List.filter_append, List.map_append, List.filter_cons, List.filter_nil]
  split <;> simp_all

theorem idsAt_snoc_sys (evs : List Ev) (s : Sys) (ex : Bool) (r : Src.Reg) :
    idsAt (evs ++ [.sys s ex]) r = idsAt evs r := by
  simp [idsAt, itemsOf_append, itemsOf]

theorem itemAt_snoc_item (evs : List Ev) (r : Src.Reg) (id id' : LookupId) :
    itemAt (evs ++ [.item id]) r id' ↔ itemAt evs r id' ∨ (id' = id ∧ r = regAfter .root evs) := by
  simp [itemAt_iff_mem, itemsOf_append, itemsOf, and_comm]

theorem itemAt_snoc_sys (evs : List Ev) (r : Src.Reg) (s : Sys) (ex : Bool) (id' : LookupId) :
    itemAt (evs ++ [.sys s ex]) r id' ↔ itemAt evs r id' := by
  simp [itemAt_iff_mem, itemsOf_append, itemsOf]

theorem itemAt_nil (r : Src.Reg) (id : LookupId) : ¬ itemAt [] r id := by
  simp [itemAt_iff_mem, itemsOf]

theorem itemAt_lang_seen {evs : List Ev} {S L : Tag} {id : LookupId} (h : itemAt evs (.lang S L) id) :
    (S, L) ∈ seenOf evs := by
  obtain ⟨x, y, rfl, hr⟩ := h
  rw [regAfter_root] at hr
  exact seenOf_prefix (curOf_mem_seen (regOfCur_eq_lang hr).1)

theorem itemAt_lang_ne_dflt {evs : List Ev} {S L : Tag} {id : LookupId} (h : itemAt evs (.lang S L) id) : L ≠ "dflt" := by
  obtain ⟨x, y, rfl, hr⟩ := h
  rw [regAfter_root] at hr
  exact (regOfCur_eq_lang hr).2

theorem itemAt_script_seen {evs : List Ev} {S : Tag} {id : LookupId} (h : itemAt evs (.script S) id) :
    (S, "dflt") ∈ seenOf evs := by
  obtain ⟨x, y, rfl, hr⟩ := h
  rw [regAfter_root] at hr
  exact seenOf_prefix (curOf_mem_seen (regOfCur_eq_script hr))

end Fontc.FeaCompile
