/-
  C20 — the reader reads back every value in every style: `parseRec` on `printVal v st ++ rest`; at the end the
  typed reader of a glyph's `unicode` entry on a printed entry.
-/
import FontcModel.Plist
import FontcProofs.PlistLex
import FontcProofs.PlistValue
namespace Fontc.Plist

/-- the three tests of `parse_atom` are the three of `looksNumeric` -/
theorem parseAtom_eq_str_iff {a t : List Char} : parseAtom a = .str t ↔ t = a ∧ looksNumeric a = false := by
  unfold parseAtom looksNumeric
  cases numericOk a <;> cases parseI64 a <;> cases f64Shape a <;> simp [eq_comm]

theorem floatAtom_reads (t : List Char) (h : isFloatAtom t = true) :
    t ≠ [] ∧ t.all isAlnum = true ∧ parseAtom t = .flt t := by
  unfold isFloatAtom at h
  simp only [Bool.and_eq_true] at h
  obtain ⟨⟨⟨⟨h1, h2⟩, h3⟩, h4⟩, h5⟩ := h
  refine ⟨by intro h; subst h; simp at h1, h2, ?_⟩
  unfold parseAtom
  rw [if_pos h3]
  cases hp : parseI64 t with
  | none => simp [h5]
  | some i => simp [hp] at h4

theorem parseRec_atom (l a r : List Char) (hne : a ≠ []) (ha : a.all isAlnum = true) (hr : Stop r) (f : Nat) :
    parseRec (f + 1) (ws l ++ (a ++ r)) = some (parseAtom a, r) := by
  rw [parseRec, lex_atom l a r hne ha hr]

theorem lex_printStr (s : List Char) (n : NodeStyle) (l r : List Char) (hr : Stop r) :
    lex (ws l ++ (printStr s n ++ r)) = some (if n.bare && bareOk s then .atom s else .str s, r) :=
  lex_word s (n.bare && bareOk s) n.esc (fun h => (Bool.and_eq_true_iff.1 (Bool.and_eq_true_iff.1 h).2).1) l r hr

theorem parseRec_printStr (s : List Char) (n : NodeStyle) (l r : List Char) (hr : Stop r) (f : Nat) :
    parseRec (f + 1) (ws l ++ (printStr s n ++ r)) = some (.str s, r) := by
  rw [parseRec, lex_printStr s n l r hr]
  cases hb : n.bare && bareOk s with
  | false => rfl
  | true =>
    have hn := (Bool.and_eq_true_iff.1 (Bool.and_eq_true_iff.1 hb).2).2
    simp only [if_true, parseAtom_eq_str_iff.2 ⟨rfl, by simpa using hn⟩]

theorem expect_paren_none {f : Nat} {s : List Char} {q : PVal × List Char} (h : parseRec (f + 1) s = some q) :
    expect s ')' = none := by
  rw [parseRec] at h
  cases hl : lex s with
  | none => simp [hl] at h
  | some p => exact (expect_close_none hl).1

/-- `v` reads back (as `canon v`) from any of its printed forms, given enough fuel, in front of any text that does not
    continue a bare word (`Stop r`) -/
def ReadsBack (v : PVal) : Prop :=
  ∀ (st : Style) (r : List Char) (f : Nat), Stop r → (printVal v st).length ≤ f →
    parseRec (f + 1) (printVal v st ++ r) = some (canon v, r)

theorem printItems_cons (x : PVal) (xs : List PVal) (st : Style) (i : Nat) (rest : List Char) :
    printItems (x :: xs) st i ++ rest = printVal x (st.sub i) ++ (ws (st [i]).post ++
      (if xs.isEmpty && !(st []).trailingComma then rest else ',' :: (printItems xs st (i + 1) ++ rest))) := by
  cases xs with
  | nil => rw [printItems.eq_2]; cases (st []).trailingComma <;> simp [printItems]
  | cons y ys => rw [printItems.eq_3]; simp

theorem parseArr_close (close r : List Char) (acc : List PVal) (f : Nat) :
    parseArr (f + 1) acc (ws close ++ ')' :: r) = some (.arr acc.reverse, r) := by
  rw [parseArr, expect_hit _ ')' r (by decide)]

/-- After a comma the loop looks for the closing parenthesis before it goes round, and the next round begins with
    that same test: `item ,` is one round of the loop whatever follows, a trailing comma included. -/
theorem parseArr_comma {x : PVal} (hx : ReadsBack x) {st : Style} {post rest : List Char} {acc : List PVal} {f : Nat}
    (hf : (printVal x st).length ≤ f) :
    parseArr (f + 2) acc (printVal x st ++ (ws post ++ ',' :: rest)) = parseArr (f + 1) (canon x :: acc) rest := by
  have hp := hx st _ f (stop_ws_cons post ',' rest (by decide)) hf
  rw [parseArr, expect_paren_none hp, hp]
  simp only [expect_miss post ')' ',' _ (by decide) (by decide), expect_hit post ',' _ (by decide)]
  cases h : expect rest ')' with
  | none => rfl
  | some r => rw [parseArr, h]

theorem parseArr_last {x : PVal} (hx : ReadsBack x) {st : Style} {post close r : List Char} {acc : List PVal} {f : Nat}
    (hf : (printVal x st).length ≤ f) :
    parseArr (f + 2) acc (printVal x st ++ (ws post ++ (ws close ++ ')' :: r))) =
      some (.arr (canon x :: acc).reverse, r) := by
  have hp := hx st _ f (stop_ws_append post _ (stop_ws_cons close ')' r (by decide))) hf
  rw [parseArr, expect_paren_none hp, hp]
  simp only [expect_ws, expect_hit close ')' r (by decide)]

/-- the rounds chained: an item printed with a comma is one round (`parseArr_comma`, a trailing comma included), the item
    printed without one is the last (`parseArr_last`) -/
theorem parseArr_items (xs : List PVal) (st : Style) (hxs : ∀ x ∈ xs, ReadsBack x)
    (i : Nat) (acc : List PVal) (f : Nat) (r : List Char)
    (hf : (printItems xs st i ++ (ws (st []).close ++ [')'])).length ≤ f) :
    parseArr (f + 1) acc (printItems xs st i ++ (ws (st []).close ++ ')' :: r)) =
      some (.arr (acc.reverse ++ canonL xs), r) := by
  induction xs generalizing i acc f with
  | nil =>
    rw [printItems, List.nil_append, parseArr_close]
    simp [canonL]
  | cons x xs ihx =>
    have hx := hxs x (by simp)
    rw [printItems_cons] at hf ⊢
    split at hf
    · next h =>
      simp only [List.length_append, List.length_cons] at hf
      obtain ⟨f, rfl⟩ : ∃ f', f = f' + 1 := ⟨f - 1, by omega⟩
      rw [if_pos h, parseArr_last hx (by omega)]
      simp only [Bool.and_eq_true, List.isEmpty_iff] at h
      simp [h.1, canonL]
    · next h =>
      simp only [List.length_append, List.length_cons] at hf
      obtain ⟨f, rfl⟩ : ∃ f', f = f' + 1 := ⟨f - 1, by omega⟩
      rw [if_neg h, parseArr_comma hx (by omega),
        ihx (fun z hz => hxs z (by simp [hz])) (i + 1) (canon x :: acc) f
          (by simp only [List.length_append, List.length_cons]; omega)]
      simp [canonL]

theorem printEntries_cons (k : Key) (v : PVal) (kvs : List (Key × PVal)) (st : Style) (i : Nat) :
    printEntries ((k, v) :: kvs) st i = ws (st [i]).keyPre ++ (printKey k (st [i]) ++ (ws (st [i]).eqPre ++ '=' ::
      (printVal v (st.sub i) ++ (ws (st [i]).post ++ ';' :: printEntries kvs st (i + 1))))) := by
  rw [printEntries.eq_2]; simp only [List.append_assoc, List.cons_append]

theorem lex_printKey (k : Key) (n : NodeStyle) (l r : List Char) (hr : Stop r) :
    ∃ tok, lex (ws l ++ (printKey k n ++ r)) = some (tok, r) ∧ tok.asKey = some k :=
  ⟨_, lex_word k (n.keyBare && bareKeyOk k) n.keyEsc (fun h => (Bool.and_eq_true_iff.1 h).2) l r hr,
    by cases n.keyBare && bareKeyOk k <;> rfl⟩

/-- one printed entry is one round of the loop: no `}` in front of a key (`expect_close_none`), then key, `=`, value, `;`;
    the map grows by `insertKV`, as `canonE` does -/
theorem parseDict_entries (kvs : List (Key × PVal)) (st : Style) (hkvs : ∀ kv ∈ kvs, ReadsBack kv.2)
    (i : Nat) (m : List (Key × PVal)) (f : Nat) (r : List Char)
    (hf : (printEntries kvs st i ++ (ws (st []).close ++ ['}'])).length ≤ f) :
    parseDict (f + 1) m (printEntries kvs st i ++ (ws (st []).close ++ '}' :: r)) =
      some (.dict (canonE kvs m), r) := by
  induction kvs generalizing i m f with
  | nil =>
    rw [printEntries, List.nil_append, parseDict, expect_hit _ '}' r (by decide)]
    simp [canonE]
  | cons kv kvs ihk =>
    obtain ⟨k, v⟩ := kv
    have hx : ReadsBack v := hkvs (k, v) (by simp)
    rw [printEntries_cons] at hf ⊢
    simp only [List.append_assoc, List.cons_append, List.length_append, List.length_cons] at hf ⊢
    obtain ⟨f, rfl⟩ : ∃ f', f = f' + 1 := ⟨f - 1, by omega⟩
    obtain ⟨tok, hlex, hkey⟩ := lex_printKey k (st [i]) (st [i]).keyPre
      (ws (st [i]).eqPre ++ '=' :: (printVal v (st.sub i) ++ (ws (st [i]).post ++ ';' ::
        (printEntries kvs st (i + 1) ++ (ws (st []).close ++ '}' :: r)))))
      (stop_ws_cons _ '=' _ (by decide))
    rw [parseDict, (expect_close_none hlex).2]
    simp only [hlex, hkey, expect_hit (st [i]).eqPre '=' _ (by decide),
      hx (st.sub i) _ f (stop_ws_cons _ ';' _ (by decide)) (by omega),
      expect_hit (st [i]).post ';' _ (by decide)]
    rw [ihk (fun z hz => hkvs z (by simp [hz])) (i + 1) _ f
      (by simp only [List.length_append, List.length_cons]; omega)]
    simp [canonE]

/-- every valid value reads back: words, numbers and data by the lexer lemmas, arrays and dictionaries by the two loops
    over the induction hypotheses of their members -/
theorem readsBack (v : PVal) : valid v = true → ReadsBack v := by
  induction v using PVal.induct with
  | hstr s =>
    intro _ st r f hr _
    simp only [printVal, List.append_assoc, canon]
    exact parseRec_printStr s _ _ r hr f
  | hint i =>
    intro hv st r f hr _
    simp only [valid, Bool.and_eq_true, decide_eq_true_eq] at hv
    obtain ⟨h1, h2⟩ := intText_alnum i
    simp only [printVal, List.append_assoc, canon]
    rw [parseRec_atom _ _ r h2 h1 hr, parseAtom_intText i hv.1 hv.2]
  | hflt t =>
    intro hv st r f hr _
    obtain ⟨h1, h2, h3⟩ := floatAtom_reads t (by simpa only [valid] using hv)
    simp only [printVal, List.append_assoc, canon]
    rw [parseRec_atom _ _ r h1 h2 hr, h3]
  | hdata bs =>
    intro _ st r f _ _
    simp only [printVal, canon, List.append_assoc, List.cons_append, List.nil_append]
    rw [parseRec, lex_data]
  | harr xs ih =>
    intro hv st r f _ hf
    rw [valid, validL_iff] at hv
    rw [printVal] at hf ⊢
    simp only [List.append_assoc, List.cons_append, List.nil_append, List.length_append, List.length_cons] at hf ⊢
    obtain ⟨f, rfl⟩ : ∃ f', f = f' + 1 := ⟨f - 1, by omega⟩
    rw [parseRec, lex_openParen]
    simp only
    rw [parseArr_items xs st (fun x hx => ih x hx (hv x hx)) 0 [] f r
      (by simp only [List.length_append, List.length_cons]; omega)]
    simp [canon]
  | hdict kvs ih =>
    intro hv st r f _ hf
    rw [valid, validE_iff] at hv
    rw [printVal] at hf ⊢
    simp only [List.append_assoc, List.cons_append, List.nil_append, List.length_append, List.length_cons] at hf ⊢
    obtain ⟨f, rfl⟩ : ∃ f', f = f' + 1 := ⟨f - 1, by omega⟩
    rw [parseRec, lex_openBrace]
    simp only
    rw [parseDict_entries kvs st (fun kv hkv => ih kv hkv (hv kv hkv)) 0 [] f r
      (by simp only [List.length_append, List.length_cons]; omega)]
    simp [canon]

theorem parse_print (v : PVal) (hv : valid v = true) (st : Style) : parse (print v st) = some (canon v) := by
  unfold parse print
  rw [readsBack v hv st (ws (st []).post) _ (stop_ws _) (by simp only [List.length_append]; omega)]
  rfl

theorem expect_printVal_paren (v : PVal) (hv : valid v = true) (st : Style) (r : List Char) :
    expect (printVal v st ++ r) ')' = none := by
  have hp := readsBack v hv st [] _ stop_nil (Nat.le_refl _)
  rw [List.append_nil] at hp
  refine expect_append_none (fun he => ?_) (expect_paren_none hp) r
  rw [parseRec, he] at hp
  cases hp

theorem readStringTok_printStr (s : List Char) (n : NodeStyle) (l r : List Char) (hr : Stop r) :
    readStringTok (ws l ++ (printStr s n ++ r)) = some (s, r) := by
  rw [readStringTok, lex_printStr s n l r hr]
  cases n.bare && bareOk s <;> rfl

/-- The typed reader of a glyph's `unicode` entry (`String::parse` on the value), on what the rewriting step
    (`preprocess_unparsed_plist`) hands on when that is the printed entry `unicode = s;`, in any style. -/
theorem typedUnicodeRaw_printEntries (s : List Char) (st : Style) {t : List Char}
    (ht : preprocessUnicode t = printEntries [("unicode".toList, .str s)] st 0) : typedUnicodeRaw t = some s := by
  obtain ⟨tok, hlex, hkey⟩ := lex_printKey "unicode".toList (st [0]) (st [0]).keyPre
    (ws (st [0]).eqPre ++ '=' :: (ws (st.sub 0 []).pre ++ (printStr s (st.sub 0 []) ++ (ws (st [0]).post ++ [';']))))
    (stop_ws_cons _ '=' _ (by decide))
  rw [typedUnicodeRaw, ht, printEntries_cons, printVal, printEntries]
  simp only [List.append_assoc, hlex, hkey, beq_self_eq_true, if_true,
    expect_hit (st [0]).eqPre '=' _ (by decide),
    readStringTok_printStr s (st.sub 0 []) (st.sub 0 []).pre _ (stop_ws_cons (st [0]).post ';' [] (by decide)),
    expect_hit (st [0]).post ';' [] (by decide)]
  rfl

end Fontc.Plist
