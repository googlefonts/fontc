/-
  The end of `overlay_feature_variations` for the natural-number rank: bit counting (`popcount_of_subset`), the sort,
  the extraction loop (`extract_select`), the invariant after the last rule (`overlay_invariant_nat`), and what a font
  built from the output does at a point (`first_match_nat`, from which C16 `first_match_is_T` follows).
-/
import FontcProofs.FeatVarsLoop
import FontcProofs.ListFacts

namespace Fontc.FeatVars

theorem popcountAux_fuel : ∀ f m, m ≤ f → popcountAux f m = popcountAux m m := by
  intro f
  induction f using Nat.strongRecOn with
  | _ f ih =>
    intro m hm
    cases f with
    | zero =>
      have : m = 0 := by omega
      subst this
      rfl
    | succ f' =>
      cases m with
      | zero => simp [popcountAux]
      | succ m' =>
        simp only [popcountAux, Nat.add_one_ne_zero, if_false]
        rw [ih f' (by omega) ((m' + 1) / 2) (by omega), ih m' (by omega) ((m' + 1) / 2) (by omega)]

theorem popcount_zero : popcount 0 = 0 := rfl
theorem popcount_step (a : Nat) : popcount a = a % 2 + popcount (a / 2) := by
  unfold popcount
  cases a with
  | zero => rfl
  | succ a' =>
    simp only [popcountAux, Nat.add_one_ne_zero, if_false]
    rw [popcountAux_fuel a' ((a' + 1) / 2) (by omega)]

theorem popcount_le_of_lt_two_pow : ∀ {N a : Nat}, a < 2 ^ N → popcount a ≤ N := by
  intro N
  induction N with
  | zero => intro a h; rw [show a = 0 by simpa using h]; exact Nat.le_refl 0
  | succ N ih =>
    intro a h
    rw [popcount_step, Nat.add_comm]
    exact Nat.add_le_add (ih (Nat.div_lt_of_lt_mul (by rwa [Nat.pow_succ, Nat.mul_comm] at h)))
      (Nat.le_of_lt_succ (Nat.mod_lt _ (by decide)))

theorem eq_zero_of_not_testBit {a : Nat} (h : ∀ j, ¬ a.testBit j = true) : a = 0 :=
  Nat.eq_of_testBit_eq fun j => by rw [Nat.zero_testBit]; exact Bool.eq_false_iff.2 (h j)

theorem popcount_of_subset : ∀ (w x : Nat), (∀ j, x.testBit j = true → w.testBit j = true) →
    popcount x ≤ popcount w ∧ (popcount w ≤ popcount x → x = w) := by
  intro w
  induction w using Nat.strongRecOn with
  | _ w ih =>
    intro x hsub
    -- halve both numbers: the bits above the lowest by induction, and the lowest bit of `x` is at most that of `w`
    by_cases hw : w = 0
    · have hx : x = 0 := eq_zero_of_not_testBit fun j hb => by
        have := hsub j hb
        rw [hw, Nat.zero_testBit] at this
        cases this
      rw [hx, hw]
      exact ⟨Nat.le_refl _, fun _ => rfl⟩
    · obtain ⟨h1, h2⟩ := ih (w / 2) (Nat.div_lt_self (Nat.pos_of_ne_zero hw) (by decide)) (x / 2) fun j hj => by
        rw [← Nat.testBit_succ] at hj ⊢
        exact hsub _ hj
      have h0 : x % 2 = 1 → w % 2 = 1 := by
        have := hsub 0
        rwa [Nat.testBit_zero, Nat.testBit_zero, decide_eq_true_eq, decide_eq_true_eq] at this
      rw [popcount_step x, popcount_step w]
      -- the arithmetic, over variables in place of `x % 2`, `x / 2`, `w % 2`, `w / 2`
      have key : ∀ a b c d : Nat, a < 2 → b < 2 → (a = 1 → b = 1) → c ≤ d →
          a + c ≤ b + d ∧ (b + d ≤ a + c → a = b ∧ d ≤ c) := by omega
      obtain ⟨k1, k2⟩ := key _ _ _ _ (Nat.mod_lt x (by decide)) (Nat.mod_lt w (by decide)) h0 h1
      refine ⟨k1, fun hle => ?_⟩
      rw [← Nat.div_add_mod x 2, ← Nat.div_add_mod w 2, h2 (k2 hle).2, (k2 hle).1]

theorem insSort_spec {α} (le : α → α → Bool) : InsertionSort le (insSorted le) (insSort le) :=
  ⟨fun _ => rfl, fun _ _ _ => rfl, rfl, fun _ _ => rfl⟩

theorem mem_insSort {α} {le : α → α → Bool} {y : α} {l : List α} : y ∈ insSort le l ↔ y ∈ l :=
  (insSort_spec le).mem_sort

theorem extract_nat_zero (subs : List Subs) (f i : Nat) : extract natOps subs f 0 i = some [] := by
  cases f <;> rfl

theorem extract_nat_succ {subs : List Subs} {f i : Nat} {a : Nat} (hz : a ≠ 0) :
    extract natOps subs (f + 1) a i =
      if a.testBit 0 = true then
        match subs[i]? with
        | none => none
        | some s => (extract natOps subs f (a / 2) (i + 1)).map (s :: ·)
      else extract natOps subs f (a / 2) (i + 1) := by
  have hz' : natOps.isZero a = false := beq_false_of_ne hz
  rw [extract, hz', Nat.testBit_zero]
  rfl

/-- `pre`: the maps of the positions the loop has already passed. -/
theorem extract_select {α : Type} (fn : α → Subs) (q : α → Bool) :
    ∀ (l : List α) (pre : List Subs) (f a : Nat), a < 2 ^ f →
      (∀ t, a.testBit t = true ↔ ∃ h : t < l.length, q l[t] = true) →
      extract natOps (pre ++ l.map fn) f a pre.length = some ((l.filter q).map fn) := by
  intro l
  induction l with
  | nil =>
    intro pre f a _ hb
    have : a = 0 := eq_zero_of_not_testBit fun j h => by
      obtain ⟨ht, _⟩ := (hb j).1 h
      cases ht
    rw [this, extract_nat_zero]
    rfl
  | cons c l ih =>
    intro pre f a hf hb
    by_cases hz : a = 0
    · -- a zero rank marks nothing
      have : (c :: l).filter q = [] := List.filter_eq_nil_iff.2 fun x hx hqx => by
        obtain ⟨t, ht, rfl⟩ := List.getElem_of_mem hx
        have := (hb t).2 ⟨ht, hqx⟩
        rw [hz, Nat.zero_testBit] at this
        cases this
      rw [hz, extract_nat_zero, this]
      rfl
    · cases f with
      | zero => exact absurd (Nat.lt_one_iff.1 hf) hz
      | succ f =>
        have hrec := ih (pre ++ [fn c]) f (a / 2) (by rw [Nat.pow_succ] at hf; omega) fun t => by
          rw [← Nat.testBit_succ, hb (t + 1)]
          exact ⟨fun ⟨h, hq⟩ => ⟨Nat.lt_of_succ_lt_succ h, hq⟩, fun ⟨h, hq⟩ => ⟨Nat.succ_lt_succ h, hq⟩⟩
        have h0 : a.testBit 0 = q c :=
          Bool.eq_iff_iff.2 ((hb 0).trans ⟨fun ⟨_, hq⟩ => hq, fun hq => ⟨Nat.zero_lt_succ _, hq⟩⟩)
        have hget : ((pre ++ [fn c]) ++ l.map fn)[pre.length]? = some (fn c) := by simp
        rw [List.length_append, List.length_singleton] at hrec
        rw [List.map_cons, List.append_cons, extract_nat_succ hz, hrec, hget, h0, List.filter_cons]
        cases q c <;> rfl

theorem extract_total (subs : List Subs) (a : Nat) (ha : BitsIn a (· < subs.length)) :
    ∃ l, extract natOps subs (natOps.bound a) a 0 = some l := by
  have := extract_select (fun x : Subs × Nat => x.1) (fun x => a.testBit x.2) subs.zipIdx [] a a Nat.lt_two_pow_self
    fun t => by
      constructor
      · intro h; exact ⟨by simpa using ha t h, by simpa using h⟩
      · rintro ⟨_, h⟩; simpa using h
  rw [List.zipIdx_map_fst] at this
  exact ⟨_, this⟩

theorem find?_bits_eq {α : Type} (bits : α → Nat) {q : α → Bool} {l : List α} {w : α}
    (hpw : l.Pairwise fun a b => popcount (bits b) ≤ popcount (bits a))
    (hsub : ∀ e ∈ l, q e = true → BitsIn (bits e) fun j => (bits w).testBit j = true)
    (hw : w ∈ l) (hqw : q w = true) : ∃ x, l.find? q = some x ∧ bits x = bits w := by
  cases hfind : l.find? q with
  | none => exact absurd hqw (List.find?_eq_none.1 hfind w hw)
  | some x =>
    exact ⟨x, rfl, (popcount_of_subset _ _ (hsub x (List.mem_of_find?_eq_some hfind) (List.find?_some hfind))).2
      ((find?_pairwise hpw hfind hw hqw).elim (· ▸ Nat.le_refl _) id)⟩

theorem overlay_invariant_nat {n : Nat} {cs : List Rule} (hok : RulesOk n cs)
    {p : Point} (hp : p.length = n) (hnt : ¬ OnTouchingBoundary (cs.flatMap (·.1)) p) :
    let boxmap := overlayLoop natOps n (cs.map (·.1)) 0 (initMap natOps n)
    SoundAt p (Act cs p) boxmap ∧
      HasWit (loSet (cs.flatMap (·.1))) (hiSet (cs.flatMap (·.1))) p (Act cs p) boxmap := by
  refine overlayLoop_inv (N := cs.length) hp (fun k x hk hboth => hnt ⟨k, x, hk, hboth.1, hboth.2⟩) cs [] _
    (Nat.le_of_eq (by simp)) (fun r hr => ⟨hok.nonempty r hr, fun c hc => ?_⟩) initMap_shape ?_ ?_
  · obtain ⟨h1, h2⟩ := hok.shape r hr c hc
    have hcb : c ∈ cs.flatMap (·.1) := List.mem_flatMap.2 ⟨r, hr, hc⟩
    exact ⟨h1, h2, fun k lo hi hk => ⟨⟨c, hcb, hi, hk⟩, ⟨c, hcb, lo, hk⟩⟩⟩
  · intro e he _ j hj
    simp [initMap] at he
    subst he
    simp [natOps] at hj
  · refine ⟨(emptyBox n, 0), by simp [initMap, natOps], good_emptyBox hp, ?_⟩
    intro j
    simp [Act]

section
variable {ρ : Type} {ops : RankOps ρ}

theorem firstMatch_of_mapM {subs : List Subs} {l : BoxMap ρ} {p : Point} {out : List (NBox × List Subs)}
    (h : l.mapM (fun e => (extract ops subs (ops.bound e.2) e.2 0).map fun s => (e.1, s)) = some out) :
    firstMatch out p = (l.find? fun e => contains e.1 p).bind fun e => extract ops subs (ops.bound e.2) e.2 0 := by
  induction l generalizing out with
  | nil => cases h; rfl
  | cons e l ih =>
    rw [List.mapM_cons] at h
    obtain ⟨y, hy, h⟩ := Option.bind_eq_some_iff.1 h
    obtain ⟨ys, hys, h⟩ := Option.bind_eq_some_iff.1 h
    cases h
    obtain ⟨s, hs, rfl⟩ := Option.map_eq_some_iff.1 hy
    have := ih hys
    unfold firstMatch at this ⊢
    rw [List.find?_cons, List.find?_cons]
    cases contains e.1 p with
    | true => exact hs.symm
    | false => exact this
end

theorem mem_activeSubs {rules : List Rule} {p : Point} {m : Subs} :
    m ∈ activeSubs rules p ↔ ∃ r ∈ rules, regionContains r.1 p = true ∧ r.2 = m := by
  simp only [activeSubs, List.mem_map, List.mem_filter, and_assoc]

theorem first_match_nat {n : Nat} {cs : List Rule} (hok : RulesOk n cs) :
    ∃ out, overlayCore natOps n cs = some out ∧
      ∀ p : Point, p.length = n → ¬ OnTouchingBoundary (cs.flatMap (·.1)) p →
        firstMatch out p = if activeSubs cs p = [] then none else some (activeSubs cs p) := by
  let subs := cs.map (·.2)
  let boxmap := overlayLoop natOps n (cs.map (·.1)) 0 (initMap natOps n)
  let filtered := (sortedBoxes natOps boxmap).filter (fun e => !natOps.isZero e.2)
  have hShape : Shape cs.length n boxmap :=
    overlayLoop_shape hok.shape 0 _ (by simp) initMap_shape
  have hmemF : ∀ e, e ∈ filtered ↔ e ∈ boxmap ∧ e.2 ≠ 0 := by
    intro e
    simp [filtered, sortedBoxes, mem_insSort, natOps]
  obtain ⟨out, hout⟩ := mapM_option_some filtered
    (fun e => (extract natOps subs (natOps.bound e.2) e.2 0).map fun l => (e.1, l)) fun e he => by
      obtain ⟨l, hl⟩ := extract_total subs e.2 (by simpa [subs] using (hShape e ((hmemF e).1 he).1).2)
      exact ⟨(e.1, l), by rw [hl]; rfl⟩
  refine ⟨out, hout, ?_⟩
  intro p hp hnot
  obtain ⟨hSound, w, hwmem, hwg, hwbits⟩ := overlay_invariant_nat hok hp hnot
  -- the rank of the witness `w` selects the active rules; the first match has that rank
  have hsel := extract_select (fun r : Rule => r.2) (fun r => regionContains r.1 p) cs [] w.2 w.2 Nat.lt_two_pow_self hwbits
  simp only [List.nil_append, List.length_nil] at hsel
  have hsub : ∀ e ∈ filtered, contains e.1 p = true → BitsIn e.2 fun j => w.2.testBit j = true := fun e he hc j hj =>
    (hwbits j).2 (hSound e ((hmemF e).1 he).1 hc j hj)
  rw [firstMatch_of_mapM hout]
  by_cases hz : w.2 = 0
  · -- a box that contains `p` has its bits among those of `w`, none: it is dropped with the zero ranks
    have : filtered.find? (fun e => contains e.1 p) = none :=
      List.find?_eq_none.2 fun e he hc => ((hmemF e).1 he).2 (eq_zero_of_not_testBit fun j hj => by
        have := hsub e he hc j hj
        rw [hz, Nat.zero_testBit] at this
        cases this)
    rw [hz, extract_nat_zero] at hsel
    have hnil : activeSubs cs p = [] := (Option.some.inj hsel).symm
    rw [this, if_pos hnil]
    rfl
  · have hpw : filtered.Pairwise fun a b => popcount b.2 ≤ popcount a.2 :=
      List.Pairwise.filter _ ((insSort_spec _).pairwise_sort (R := fun a b : NBox × Nat => popcount b.2 ≤ popcount a.2)
        (fun h1 h2 => Nat.le_trans h2 h1) (fun a b h => by simpa [natOps] using h)
        (fun a b h => by have : ¬ popcount b.2 ≤ popcount a.2 := by simpa [natOps] using h
                         omega) _)
    obtain ⟨x, hx, hxw⟩ := find?_bits_eq (·.2) hpw hsub ((hmemF w).2 ⟨hwmem, hz⟩) hwg.contains
    -- `w` has a bit, so some rule is active
    obtain ⟨j, hj⟩ := Nat.exists_testBit_of_ne_zero hz
    obtain ⟨hlt, hq⟩ := (hwbits j).1 hj
    have hne : activeSubs cs p ≠ [] := List.ne_nil_of_mem (mem_activeSubs.2 ⟨cs[j], List.getElem_mem hlt, hq, rfl⟩)
    rw [hx, if_neg hne]
    show extract natOps subs x.2 x.2 0 = _
    rw [hxw, hsel]
    rfl

end Fontc.FeatVars
