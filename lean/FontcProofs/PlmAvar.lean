/-
  C08: `to_segment_map` on a sorted vertex list. `Sorted` collects what a well-formed axis gives; from it:
  the un-padded list `rawOf` agrees with "user → design → design normalisation" (`Sorted.core`, by the transport
  lemma), padding does not change that, and the structure of the padded list (required entries, monotonicity, range).
-/
import FontcProofs.PlmNorm

namespace Fontc.PlmProofs
open Fontc Fontc.Plm Fontc.Avar

/-- What `AxisDef.WellFormed` says of the sorted vertex list `ns` of `(user, design)` pairs (`wf_sorted`). -/
structure Sorted (ns : List Pt) (mn df mx dmin ddef dmax : Rat) : Prop where
  pw : ns.Pairwise (fun p q => p.1 < q.1 ∧ p.2 ≤ q.2)
  hdef : (df, ddef) ∈ ns
  hhead : ns.head? = some (mn, dmin)
  hlast : ns.getLast? = some (mx, dmax)

variable {ns : List Pt} {mn df mx dmin ddef dmax : Rat}

theorem Sorted.strict (h : Sorted ns mn df mx dmin ddef dmax) : StrictFrom ns :=
  h.pw.imp (fun hab => hab.1)

theorem Sorted.bounds (h : Sorted ns mn df mx dmin ddef dmax) :
    ∀ n ∈ ns, mn ≤ n.1 ∧ n.1 ≤ mx ∧ dmin ≤ n.2 ∧ n.2 ≤ dmax := by
  intro n hn
  obtain ⟨h1, h2⟩ := pairwise_head_last h.pw h.hhead h.hlast hn
  have hlo : mn ≤ n.1 ∧ dmin ≤ n.2 := by
    rcases h1 with rfl | h1
    · exact ⟨le_refl _, le_refl _⟩
    · exact ⟨le_of_lt h1.1, h1.2⟩
  have hhi : n.1 ≤ mx ∧ n.2 ≤ dmax := by
    rcases h2 with rfl | h2
    · exact ⟨le_refl _, le_refl _⟩
    · exact ⟨le_of_lt h2.1, h2.2⟩
  exact ⟨hlo.1, hhi.1, hlo.2, hhi.2⟩

theorem Sorted.head_mem (h : Sorted ns mn df mx dmin ddef dmax) : (mn, dmin) ∈ ns :=
  List.mem_of_mem_head? h.hhead

theorem Sorted.last_mem (h : Sorted ns mn df mx dmin ddef dmax) : (mx, dmax) ∈ ns :=
  List.mem_of_getLast? h.hlast

theorem Sorted.order (h : Sorted ns mn df mx dmin ddef dmax) :
    mn ≤ df ∧ df ≤ mx ∧ dmin ≤ ddef ∧ ddef ≤ dmax :=
  h.bounds _ h.hdef

theorem Sorted.sided (h : Sorted ns mn df mx dmin ddef dmax) {a b : Pt} (hc : Consec a b ns) :
    (b.1 ≤ df ∧ b.2 ≤ ddef) ∨ (df ≤ a.1 ∧ ddef ≤ a.2) := by
  obtain ⟨l, r, rfl⟩ := hc
  have hpw := h.pw
  rw [List.pairwise_append] at hpw
  obtain ⟨_, hr, hcross⟩ := hpw
  have hm := h.hdef
  rcases List.mem_append.mp hm with hm | hm
  · right
    have := hcross _ hm a (by simp)
    exact ⟨le_of_lt this.1, this.2⟩
  · rcases List.mem_cons.mp hm with hm | hm
    · right; rw [← hm]; exact ⟨le_refl _, le_refl _⟩
    · rcases List.mem_cons.mp hm with hm | hm
      · left; rw [← hm]; exact ⟨le_refl _, le_refl _⟩
      · left
        have hb := (List.pairwise_cons.mp (List.pairwise_cons.mp hr).2).1 _ hm
        exact ⟨le_of_lt hb.1, hb.2⟩

theorem Sorted.map_range (h : Sorted ns mn df mx dmin ddef dmax) {u : Rat} (hu1 : mn ≤ u) (hu2 : u ≤ mx) :
    dmin ≤ Plm.map ⟨ns⟩ u ∧ Plm.map ⟨ns⟩ u ≤ dmax :=
  Fontc.PlmProofs.map_range ⟨_, h.hhead, hu1⟩ ⟨_, h.last_mem, hu2⟩
    (fun p hp => (h.bounds p hp).2.2)

theorem monotone_of_pairwise {l : List Pt} (h : l.Pairwise (fun p q => p.1 ≤ q.1 ∧ p.2 ≤ q.2)) :
    monotone l = true := by
  induction l with
  | nil => rfl
  | cons a t ih =>
    cases t with
    | nil => rfl
    | cons b t =>
      have h1 := (List.pairwise_cons.mp h).1 b (by simp)
      simp only [monotone, Bool.and_eq_true, decide_eq_true_eq]
      exact ⟨h1, ih (List.pairwise_cons.mp h).2⟩

theorem rawMin_of_pairwise {m : List Pt} {f : Pt} (hm : m.Pairwise (fun p q => p.1 ≤ q.1 ∧ p.2 ≤ q.2))
    (hf : m.head? = some f) : rawMin m = f.1 := by
  cases m with
  | nil => simp at hf
  | cons a t =>
    have ha : a = f := by simpa using hf
    subst ha
    apply listMin_eq
    · exact List.mem_cons_self
    · intro d hd
      rcases List.mem_cons.mp hd with rfl | hd
      · exact le_refl _
      · obtain ⟨p, hp, rfl⟩ := List.mem_map.mp hd
        exact ((List.pairwise_cons.mp hm).1 p hp).1

theorem rawMax_of_pairwise {m : List Pt} {z : Pt} (hm : m.Pairwise (fun p q => p.1 ≤ q.1 ∧ p.2 ≤ q.2))
    (hz : m.getLast? = some z) : rawMax m = z.2 := by
  cases m with
  | nil => simp at hz
  | cons a t =>
    apply listMax_eq
    · exact List.mem_map_of_mem (f := (·.2)) (List.mem_of_getLast? hz)
    · intro d hd
      obtain ⟨p, hp, rfl⟩ := List.mem_map.mp (show d ∈ (a :: t).map (·.2) from hd)
      rcases (pairwise_head_last hm rfl hz hp).2 with rfl | h
      · exact le_refl _
      · exact h.2

theorem mem_padded (m : List Pt) (x : Pt) :
    x ∈ padded m ↔ x ∈ m ∨ (rawMin m ≠ -1 ∧ x = (-1, -1)) ∨ (rawMax m ≠ 1 ∧ x = (1, 1)) := by
  unfold padded
  by_cases c1 : rawMin m = -1 <;> by_cases c2 : rawMax m = 1 <;> simp [c1, c2, or_comm, or_assoc]

theorem padded_range {m : List Pt} (hr : ∀ p ∈ m, -1 ≤ p.1 ∧ p.1 ≤ 1 ∧ -1 ≤ p.2 ∧ p.2 ≤ 1) :
    ∀ p ∈ padded m, -1 ≤ p.1 ∧ p.1 ≤ 1 ∧ -1 ≤ p.2 ∧ p.2 ≤ 1 := by
  intro p hp
  rcases (mem_padded m p).mp hp with hp | ⟨_, rfl⟩ | ⟨_, rfl⟩
  · exact hr p hp
  · norm_num
  · norm_num

theorem padded_pairwise {m : List Pt} (hm : m.Pairwise (fun p q => p.1 ≤ q.1 ∧ p.2 ≤ q.2))
    (hr : ∀ p ∈ m, -1 ≤ p.1 ∧ p.1 ≤ 1 ∧ -1 ≤ p.2 ∧ p.2 ≤ 1) :
    (padded m).Pairwise (fun p q => p.1 ≤ q.1 ∧ p.2 ≤ q.2) := by
  have hfront : (if rawMin m != -1 then ((-1 : Rat), (-1 : Rat)) :: m else m).Pairwise
      (fun p q => p.1 ≤ q.1 ∧ p.2 ≤ q.2) := by
    split_ifs
    · exact List.pairwise_cons.mpr ⟨fun p hp => ⟨(hr p hp).1, (hr p hp).2.2.1⟩, hm⟩
    · exact hm
  have hpr := padded_range hr
  unfold padded at hpr ⊢
  simp only [] at hpr ⊢
  by_cases c2 : (rawMax m != 1) = true
  · simp only [c2, if_true] at hpr ⊢
    refine List.pairwise_append.mpr ⟨hfront, List.pairwise_singleton _ _, ?_⟩
    intro p hp q hq
    have : q = ((1 : Rat), (1 : Rat)) := by simpa using hq
    subst this
    have := hpr p (List.mem_append_left _ hp)
    exact ⟨this.2.1, this.2.2.2⟩
  · simp only [c2]
    exact hfront

theorem Spans.padded {m : List Pt} {x : Rat} (h : Spans m x) : Spans (padded m) x :=
  ⟨h.1.imp fun _ hf => ⟨(mem_padded m _).mpr (Or.inl hf.1), hf.2⟩,
   h.2.imp fun _ he => ⟨(mem_padded m _).mpr (Or.inl he.1), he.2⟩⟩

/-- The back record lies behind, and the front record `-1:-1` is only added left of the first record (`hmin`). -/
theorem avarApply_padded {m : List Pt} {x : Rat} {f : Pt} (hf : m.head? = some f) (hfx : f.1 ≤ x)
    (hmin : rawMin m ≠ -1 → -1 < f.1) (hhi : ∃ e ∈ m, x ≤ e.1) : avarApply (padded m) x = avarApply m x := by
  have hfront : avarApply (if rawMin m != -1 then ((-1 : Rat), (-1 : Rat)) :: m else m) x = avarApply m x := by
    split_ifs with c1
    · cases m with
      | nil => simp at hf
      | cons p rest =>
        have : p = f := by simpa using hf
        subst this
        exact avarApply_cons_front (lt_of_lt_of_le (hmin (by simpa using c1)) hfx) hfx
    · rfl
  unfold padded
  simp only []
  split_ifs with c2 c1 c1
  · rw [avarApply_append _ (hhi.imp fun _ he => ⟨List.mem_cons_of_mem _ he.1, he.2⟩)]
    simpa only [c1, if_true] using hfront
  · rw [avarApply_append _ hhi]
  · simpa only [c1, if_true] using hfront
  · rfl

/-- The un-padded list of `to_segment_map` (`Built.raw_eq`): at a vertex both normalisations are design
    normalisations, of the user and of the design coordinate. -/
abbrev rawOf (ns : List Pt) (mn df mx dmin ddef dmax : Rat) : List Pt :=
  ns.map fun n => (designNormalize mn df mx n.1, designNormalize dmin ddef dmax n.2)

/-- A segment `[a, b]` lies on one side of the default in user and in design space, where each normalisation is one
    line. (A flat side, `dmin = ddef`, needs no separate case: the closed forms divide by zero and give 0.) -/
theorem Sorted.affine (h : Sorted ns mn df mx dmin ddef dmax) {a b : Pt} (hc : Consec a b ns) {t : Rat} (t0 : 0 ≤ t)
    (t1 : t ≤ 1) :
    designNormalize mn df mx (lerp a.1 b.1 t) = lerp (designNormalize mn df mx a.1) (designNormalize mn df mx b.1) t ∧
    designNormalize dmin ddef dmax (lerp a.2 b.2 t) =
      lerp (designNormalize dmin ddef dmax a.2) (designNormalize dmin ddef dmax b.2) t := by
  obtain ⟨h1, h2⟩ := hc.rel h.pw
  rcases h.sided hc with ⟨s1, s2⟩ | ⟨s1, s2⟩
  · exact ⟨designNormalize_lerp_left t0 t1 (le_of_lt h1) s1, designNormalize_lerp_left t0 t1 h2 s2⟩
  · exact ⟨designNormalize_lerp_right t0 t1 (le_of_lt h1) s1, designNormalize_lerp_right t0 t1 h2 s2⟩

theorem Sorted.core (h : Sorted ns mn df mx dmin ddef dmax) {u : Rat} (hu1 : mn ≤ u) (hu2 : u ≤ mx) :
    avarApply (rawOf ns mn df mx dmin ddef dmax) (designNormalize mn df mx u) =
      designNormalize dmin ddef dmax (Plm.map ⟨ns⟩ u) :=
  avarApply_transport (designNormalize mn df mx) (designNormalize dmin ddef dmax) h.strict
    (h.pw.imp_of_mem fun hp hq hlt =>
      designNormalize_strictMono (h.bounds _ hp).1 (h.bounds _ hq).2.1 hlt.1)
    h.affine ⟨⟨_, h.head_mem, hu1⟩, _, h.last_mem, hu2⟩

theorem mem_rawOf {n : Pt} (hn : n ∈ ns) :
    (designNormalize mn df mx n.1, designNormalize dmin ddef dmax n.2) ∈ rawOf ns mn df mx dmin ddef dmax :=
  List.mem_map.mpr ⟨n, hn, rfl⟩

theorem Sorted.raw_head (h : Sorted ns mn df mx dmin ddef dmax) :
    (rawOf ns mn df mx dmin ddef dmax).head? =
      some (designNormalize mn df mx mn, designNormalize dmin ddef dmax dmin) := by
  rw [rawOf, List.head?_map, h.hhead]; rfl

theorem Sorted.raw_last (h : Sorted ns mn df mx dmin ddef dmax) :
    (rawOf ns mn df mx dmin ddef dmax).getLast? =
      some (designNormalize mn df mx mx, designNormalize dmin ddef dmax dmax) := by
  rw [rawOf, List.getLast?_map, h.hlast]; rfl

theorem Sorted.raw_monotone (h : Sorted ns mn df mx dmin ddef dmax) :
    (rawOf ns mn df mx dmin ddef dmax).Pairwise (fun p q => p.1 ≤ q.1 ∧ p.2 ≤ q.2) := by
  rw [rawOf, List.pairwise_map]
  refine h.pw.imp_of_mem ?_
  intro p q hp hq ⟨hlt, hle⟩
  have bp := h.bounds p hp
  have bq := h.bounds q hq
  exact ⟨designNormalize_mono bp.1 bq.2.1 (le_of_lt hlt),
         designNormalize_mono bp.2.2.1 bq.2.2.2 hle⟩

theorem Sorted.raw_range (h : Sorted ns mn df mx dmin ddef dmax) :
    ∀ p ∈ rawOf ns mn df mx dmin ddef dmax, -1 ≤ p.1 ∧ p.1 ≤ 1 ∧ -1 ≤ p.2 ∧ p.2 ≤ 1 := by
  obtain ⟨o1, o2, o3, o4⟩ := h.order
  intro p hp
  obtain ⟨n, hn, rfl⟩ := List.mem_map.mp hp
  have bn := h.bounds n hn
  have r1 := designNormalize_range o1 o2 bn.1 bn.2.1
  have r2 := designNormalize_range o3 o4 bn.2.2.1 bn.2.2.2
  exact ⟨r1.1, r1.2, r2.1, r2.2⟩

theorem Sorted.rawMin_eq (h : Sorted ns mn df mx dmin ddef dmax) :
    rawMin (rawOf ns mn df mx dmin ddef dmax) = if mn < df then -1 else 0 := by
  rw [rawMin_of_pairwise h.raw_monotone h.raw_head]
  exact designNormalize_min mx h.order.1

theorem Sorted.rawMax_eq (h : Sorted ns mn df mx dmin ddef dmax) :
    rawMax (rawOf ns mn df mx dmin ddef dmax) = if ddef < dmax then 1 else 0 := by
  rw [rawMax_of_pairwise h.raw_monotone h.raw_last]
  exact designNormalize_max dmin h.order.2.2.2

theorem Sorted.padded_agrees (h : Sorted ns mn df mx dmin ddef dmax) {u : Rat} (hu1 : mn ≤ u) (hu2 : u ≤ mx) :
    avarApply (padded (rawOf ns mn df mx dmin ddef dmax)) (designNormalize mn df mx u) =
      designNormalize dmin ddef dmax (Plm.map ⟨ns⟩ u) := by
  obtain ⟨o1, o2, _, _⟩ := h.order
  rw [avarApply_padded h.raw_head (designNormalize_mono (le_refl _) hu2 hu1)]
  · exact h.core hu1 hu2
  · rw [h.rawMin_eq, designNormalize_min mx o1]
    split_ifs
    · exact fun hne => absurd rfl hne
    · intro _; norm_num
  · exact ⟨_, mem_rawOf h.last_mem, designNormalize_mono hu1 (le_refl _) hu2⟩

/-- `hleft`: a non-degenerate left side is not entirely flat; without it `-1:-1` is missing (C08 `flatBelowDefault`) -/
theorem Sorted.padded_required (h : Sorted ns mn df mx dmin ddef dmax) (hleft : mn < df → dmin < ddef) :
    ((-1 : Rat), (-1 : Rat)) ∈ padded (rawOf ns mn df mx dmin ddef dmax) ∧
    ((0 : Rat), (0 : Rat)) ∈ padded (rawOf ns mn df mx dmin ddef dmax) ∧
    ((1 : Rat), (1 : Rat)) ∈ padded (rawOf ns mn df mx dmin ddef dmax) := by
  obtain ⟨o1, o2, o3, o4⟩ := h.order
  simp only [mem_padded]
  -- each record is the normalised first / default / last vertex, or, on a side without extent, the one the padding adds
  refine ⟨?_, ?_, ?_⟩
  · by_cases c : mn < df
    · left
      have e : (designNormalize mn df mx mn, designNormalize dmin ddef dmax dmin) = ((-1 : Rat), (-1 : Rat)) := by
        rw [designNormalize_min _ o1, designNormalize_min _ o3, if_pos c, if_pos (hleft c)]
      -- the vertex is named here and below: found by unification through `designNormalize` it is slow to check
      rw [← e]; exact mem_rawOf (n := (mn, dmin)) h.head_mem
    · right; left
      rw [h.rawMin_eq]; simp only [c, if_false]; norm_num
  · left
    have e : (designNormalize mn df mx df, designNormalize dmin ddef dmax ddef) = ((0 : Rat), (0 : Rat)) := by
      rw [designNormalize_default, designNormalize_default]
    rw [← e]; exact mem_rawOf (n := (df, ddef)) h.hdef
  · by_cases c : ddef < dmax
    · left
      have hdm : df < mx := by
        rcases (pairwise_head_last h.pw h.hhead h.hlast h.hdef).2 with e | r
        · exact absurd (Prod.mk.inj e).2 (ne_of_lt c)
        · exact r.1
      have e : (designNormalize mn df mx mx, designNormalize dmin ddef dmax dmax) = ((1 : Rat), (1 : Rat)) := by
        rw [designNormalize_max _ o2, designNormalize_max _ o4, if_pos c, if_pos hdm]
      rw [← e]; exact mem_rawOf (n := (mx, dmax)) h.last_mem
    · right; right
      rw [h.rawMax_eq]; simp only [c, if_false]; norm_num

end Fontc.PlmProofs
