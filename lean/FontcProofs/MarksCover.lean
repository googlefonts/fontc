/-
  C10, coverage: every source pair (attaching anchor × mark glyph with the matching `_name`) is carried by exactly
  one emitted lookup, with exactly these two anchors.
-/
import FontcModel.Marks
import FontcProofs.ListFacts

namespace Fontc.Marks
open Fontc

variable {α : Type}

/-- The part of one glyph in `marksFor`, `mbBases` and `mkBases`: its anchors of kind `k`, if the glyph qualifies. -/
def perGlyph {γ : Type} (c : Glyph α → Bool) (k : Kind) (w : α → γ) (g : Glyph α) : List (Nat × γ) :=
  if c g then (anchorsOfKind g k).map fun v => (g.gid, w v) else []

theorem mem_perGlyph {γ : Type} {c : Glyph α → Bool} {k : Kind} {w : α → γ} {g : Glyph α} {x : Nat × γ} :
    x ∈ perGlyph c k w g ↔ c g = true ∧ ∃ v ∈ anchorsOfKind g k, (g.gid, w v) = x := by
  unfold perGlyph
  split <;> simp [*]

theorem marksFor_eq (gs : List (Glyph α)) (n : Name) :
    marksFor gs n = (pruned gs).flatMap (perGlyph (isMarkGlyph gs) (.mark n) id) := rfl

theorem mbBases_eq (gs : List (Glyph α)) (n : Name) :
    mbBases gs n = (pruned gs).flatMap (perGlyph (treatAsBase gs) (.base n) fun v => [some v]) := rfl

theorem mkBases_eq {gs : List (Glyph α)} {n : Name} (h : (markAnchorNames gs).contains n = true) :
    mkBases gs n = (pruned gs).flatMap (perGlyph (isMarkGlyph gs) (.base n) fun v => [some v]) := if_pos h

theorem pruned_gids {gs : List (Glyph α)} (h : (gs.map (·.gid)).Pairwise (· ≠ ·)) :
    ((pruned gs).map (·.gid)).Pairwise (· ≠ ·) := by
  unfold pruned
  refine List.Pairwise.sublist ?_ h
  refine List.Sublist.trans (List.Sublist.map _ List.filter_sublist) ?_
  rw [List.map_map]
  have : ((fun (g : Glyph α) => g.gid) ∘ fun (g : Glyph α) =>
      { g with anchors := g.anchors.filter (fun a => keepAnchor gs a.kind) }) = fun g => g.gid := rfl
  rw [this]
  exact List.Sublist.map _ List.filter_sublist

theorem exists_of_mem_pruned {gs : List (Glyph α)} {g : Glyph α} (hg : g ∈ pruned gs) :
    ∃ g0 ∈ gs, g.gid = g0.gid ∧ g.cls = g0.cls ∧ g.anchors = g0.anchors.filter (fun a => keepAnchor gs a.kind) := by
  unfold pruned at hg
  obtain ⟨hg1, _⟩ := List.mem_filter.mp hg
  obtain ⟨g0, hg0, rfl⟩ := List.mem_map.mp hg1
  exact ⟨g0, (List.mem_filter.mp hg0).1, rfl, rfl, rfl⟩

theorem pruned_kinds {gs : List (Glyph α)} (h : ∀ g ∈ gs, (g.anchors.map (·.kind)).Pairwise (· ≠ ·))
    {g : Glyph α} (hg : g ∈ pruned gs) : (g.anchors.map (·.kind)).Pairwise (· ≠ ·) := by
  obtain ⟨g0, hg0, _, _, ha⟩ := exists_of_mem_pruned hg
  rw [ha]
  exact List.Pairwise.sublist (List.Sublist.map _ List.filter_sublist) (h g0 hg0)

theorem anchorsOfKind_eq {g : Glyph α} (hk : (g.anchors.map (·.kind)).Pairwise (· ≠ ·)) {a : Anchor α} (ha : a ∈ g.anchors) :
    anchorsOfKind g a.kind = [a.val] := by
  unfold anchorsOfKind
  rw [filter_eq_singleton (fun b => b.kind == a.kind) hk ha (beq_self_eq_true _)
    fun b _ h => eq_of_beq h]
  rfl

theorem filter_gid_flatMap {gs : List (Glyph α)} (hgid : (gs.map (·.gid)).Pairwise (· ≠ ·)) {γ : Type}
    {f : Glyph α → List (Nat × γ)} (hf : ∀ g, ∀ x ∈ f g, x.1 = g.gid) {g : Glyph α} (hg : g ∈ pruned gs) :
    ((pruned gs).flatMap f).filter (fun x => x.1 == g.gid) = f g :=
  filter_flatMap_key (pruned_gids hgid) f hf hg

theorem perGlyph_filter {gs : List (Glyph α)} (hgid : (gs.map (·.gid)).Pairwise (· ≠ ·))
    (hkind : ∀ g ∈ gs, (g.anchors.map (·.kind)).Pairwise (· ≠ ·)) {γ : Type} (c : Glyph α → Bool) (w : α → γ)
    {g : Glyph α} (hg : g ∈ pruned gs) (hc : c g = true) {a : Anchor α} (ha : a ∈ g.anchors) {k : Kind} (hk : a.kind = k) :
    ((pruned gs).flatMap (perGlyph c k w)).filter (fun x => x.1 == g.gid) = [(g.gid, w a.val)] := by
  subst hk
  rw [filter_gid_flatMap hgid ?_ hg]
  · rw [perGlyph, if_pos hc, anchorsOfKind_eq (pruned_kinds hkind hg) ha]
    rfl
  · intro g x hx
    obtain ⟨_, v, _, rfl⟩ := mem_perGlyph.mp hx
    rfl

theorem maxLigIndex_ge {g : Glyph α} {a : Anchor α} (ha : a ∈ g.anchors) (i : Nat) (hi : a.kind.ligatureIndex? = some i) :
    ∃ mx, maxLigIndex g = some mx ∧ i ≤ mx := by
  have hmem : i ∈ g.anchors.filterMap (·.kind.ligatureIndex?) := List.mem_filterMap.mpr ⟨a, ha, hi⟩
  obtain ⟨mx, h1, h2, _⟩ := foldl_optFold_none selects_max_nat (List.ne_nil_of_mem hmem)
  refine ⟨mx, ?_, h2 i hmem⟩
  -- `maxLigIndex` is this fold, with the arguments of `max` the other way round
  rw [← h1, maxLigIndex]
  congr 1
  funext m i
  cases m
  · rfl
  · exact congrArg some (Nat.max_comm i _)

theorem ligBases_filter {gs : List (Glyph α)} (hgid : (gs.map (·.gid)).Pairwise (· ≠ ·))
    {g : Glyph α} (hg : g ∈ pruned gs) (hml : mightBeLiga gs g = true)
    {ag : Anchor α} (hag : ag ∈ g.anchors) {n : Name} {i : Nat} (hk : ag.kind = .ligature n i) :
    ∃ mx, i ≤ mx ∧ (ligBases gs n).filter (fun x => x.1 == g.gid) = [(g.gid, ligComponents g n mx)] := by
  obtain ⟨mx, hmx, hle⟩ := maxLigIndex_ge hag i (by rw [hk]; rfl)
  refine ⟨mx, hle, ?_⟩
  have hhas : hasLigAnchor g n = true := by
    unfold hasLigAnchor
    rw [List.any_eq_true]
    exact ⟨ag, hag, by rw [hk]; simp⟩
  unfold ligBases
  rw [filter_gid_flatMap hgid ?_ hg]
  · simp [hml, hhas, hmx]
  · intro g x hx
    split at hx
    · split at hx
      · rw [List.mem_singleton.mp hx]
      · cases hx
    · cases hx

theorem groupNames_nodup (gs : List (Glyph α)) : (groupNames gs).Nodup := by
  unfold groupNames
  exact (List.Perm.nodup_iff (List.mergeSort_perm _ _)).mpr (nodup_eraseDups _)

theorem mem_groupNames {gs : List (Glyph α)} {g : Glyph α} (hg : g ∈ pruned gs) {a : Anchor α} (ha : a ∈ g.anchors)
    {n : Name} (hn : a.kind.groupName? = some n) : n ∈ groupNames gs := by
  unfold groupNames
  rw [List.mem_mergeSort, List.mem_eraseDups, List.mem_filterMap]
  exact ⟨a, List.mem_flatMap.mpr ⟨g, hg, ha⟩, hn⟩

theorem exists_of_mem_sourcePairs {gs : List (Glyph α)} {p : Pair α} (hp : p ∈ sourcePairs gs) :
    ∃ m ∈ pruned gs, isMarkGlyph gs m = true ∧ ∃ am ∈ m.anchors, am.kind = .mark p.name ∧ p.mark = m.gid ∧ p.markVal = am.val ∧
    ∃ g ∈ pruned gs, ∃ ag ∈ g.anchors, p.base = g.gid ∧ p.baseVal = ag.val ∧
      ((p.kind = .mkmk ∧ ag.kind = .base p.name ∧ isMarkGlyph gs g = true ∧ p.comp = 1) ∨
       (p.kind = .base ∧ ag.kind = .base p.name ∧ isMarkGlyph gs g = false ∧ treatAsBase gs g = true ∧ p.comp = 1) ∨
       (p.kind = .lig ∧ ag.kind = .ligature p.name p.comp ∧ mightBeLiga gs g = true)) := by
  obtain ⟨m, hm, hp⟩ := List.mem_flatMap.mp hp
  cases hmark : isMarkGlyph gs m with
  | false => rw [hmark] at hp; cases hp
  | true =>
    rw [hmark, if_neg (by decide)] at hp
    obtain ⟨am, ham, hp⟩ := List.mem_flatMap.mp hp
    refine ⟨m, hm, hmark, am, ham, ?_⟩
    -- only a mark anchor `_n` of `m` contributes
    cases hkm : am.kind <;> simp only [hkm] at hp <;> try cases hp
    rename_i n
    obtain ⟨g, hg, hp⟩ := List.mem_flatMap.mp hp
    obtain ⟨ag, hag, hp⟩ := List.mem_filterMap.mp hp
    -- and only a base anchor `n` or a ligature anchor `n_i` of `g`
    cases hkg : ag.kind <;> simp only [hkg] at hp <;> try cases hp
    · rename_i n'
      split at hp
      · cases hp
      · rename_i hnn
        have hnn : n' = n := by simpa using hnn
        subst hnn
        split at hp
        · rename_i hgm
          cases hp
          exact ⟨rfl, rfl, rfl, g, hg, ag, hag, rfl, rfl, Or.inl ⟨rfl, hkg, hgm, rfl⟩⟩
        · rename_i hgm
          split at hp
          · rename_i htb
            cases hp
            exact ⟨rfl, rfl, rfl, g, hg, ag, hag, rfl, rfl, Or.inr (Or.inl ⟨rfl, hkg, by simpa using hgm, htb, rfl⟩)⟩
          · cases hp
    · rename_i n' i
      split at hp
      · rename_i hc
        simp only [Bool.and_eq_true, beq_iff_eq] at hc
        obtain ⟨rfl, hml⟩ := hc
        cases hp
        exact ⟨rfl, rfl, rfl, g, hg, ag, hag, rfl, rfl, Or.inr (Or.inr ⟨rfl, hkg, hml⟩)⟩
      · cases hp

/-- the marks `lookupsOf gs k` computes for the group `n` -/
def msOf (gs : List (Glyph α)) : LKind → Name → List (Nat × α)
  | .base, n => marksFor gs n
  | .lig, n => ligMarks gs n
  | .mkmk, n => mkMarks gs n

/-- the bases `lookupsOf gs k` computes for the group `n` -/
def bsOf (gs : List (Glyph α)) : LKind → Name → List (Nat × List (Option α))
  | .base, n => mbBases gs n
  | .lig, n => ligBases gs n
  | .mkmk, n => mkBases gs n

/-- the lookup `lookupsOf gs k` makes of the marks and the bases of the group `n` -/
def mkLookup (gs : List (Glyph α)) (k : LKind) (n : Name) : Lookup α :=
  { kind := k, name := n, marks := msOf gs k n, bases := bsOf gs k n,
    filter := if k == .mkmk then some (mkFilter (msOf gs k n) (bsOf gs k n)) else none }

/-- what `lookupsOf gs k` does with one group name (`lookupsOf_eq`): that lookup, unless the group has no base or no mark -/
def emit (gs : List (Glyph α)) (k : LKind) (n : Name) : Option (Lookup α) :=
  if (bsOf gs k n).isEmpty || (msOf gs k n).isEmpty then none else some (mkLookup gs k n)

theorem lookupsOf_eq (gs : List (Glyph α)) (k : LKind) : lookupsOf gs k = (groupNames gs).filterMap (emit gs k) := by
  cases k <;> rfl

theorem emit_eq_some (gs : List (Glyph α)) (k : LKind) (n : Name) (l : Lookup α) :
    emit gs k n = some l ↔ bsOf gs k n ≠ [] ∧ msOf gs k n ≠ [] ∧ l = mkLookup gs k n := by
  unfold emit
  cases hb : bsOf gs k n <;> cases hm : msOf gs k n <;> simp [eq_comm]

theorem allLookups_eq (gs : List (Glyph α)) :
    allLookups gs = [LKind.base, .lig, .mkmk].flatMap fun k => (groupNames gs).filterMap (emit gs k) := by
  simp only [allLookups, lookupsOf_eq, List.flatMap_cons, List.flatMap_nil, List.append_nil, List.append_assoc]

theorem mem_allLookups (gs : List (Glyph α)) (l : Lookup α) :
    l ∈ allLookups gs ↔ ∃ k, ∃ n ∈ groupNames gs, bsOf gs k n ≠ [] ∧ msOf gs k n ≠ [] ∧ l = mkLookup gs k n := by
  simp only [allLookups_eq, List.mem_flatMap, List.mem_filterMap, emit_eq_some]
  exact ⟨fun ⟨k, _, h⟩ => ⟨k, h⟩, fun ⟨k, h⟩ => ⟨k, by cases k <;> decide, h⟩⟩

theorem msOf_eq {gs : List (Glyph α)} {k : LKind} {n : Name} (h : bsOf gs k n ≠ []) : msOf gs k n = marksFor gs n := by
  cases k
  · rfl
  · simp only [msOf, ligMarks]; rw [if_neg (by simpa [bsOf] using h)]
  · simp only [msOf, mkMarks]; rw [if_neg (by simpa [bsOf] using h)]

theorem mem_marksFor_of_mem_msOf {gs : List (Glyph α)} {k : LKind} {n : Name} {x : Nat × α} (hx : x ∈ msOf gs k n) :
    x ∈ marksFor gs n := by
  by_cases h : bsOf gs k n = []
  · cases k
    · exact hx
    · simp [msOf, ligMarks, show ligBases gs n = [] from h] at hx
    · simp [msOf, mkMarks, show mkBases gs n = [] from h] at hx
  · rw [← msOf_eq h]; exact hx

/-- lookup type and group name: what tells the emitted lookups apart (`allLookups_keys`) -/
def Lookup.key (l : Lookup α) : LKind × Name := (l.kind, l.name)

theorem allLookups_keys (gs : List (Glyph α)) : ((allLookups gs).map Lookup.key).Pairwise (· ≠ ·) := by
  have hkey : ∀ k n l, emit gs k n = some l → l.key = (k, n) := fun k n l h => by
    rw [((emit_eq_some gs k n l).mp h).2.2]; rfl
  rw [allLookups_eq, List.pairwise_map, List.pairwise_flatMap]
  refine ⟨fun k _ => List.Pairwise.filterMap _ (fun n n' hne l hl l' hl' heq => hne ?_) (groupNames_nodup gs),
    (by decide : [LKind.base, .lig, .mkmk].Pairwise (· ≠ ·)).imp fun hne l hl l' hl' heq => hne ?_⟩
  · rw [hkey k n l hl, hkey k n' l' hl'] at heq
    exact congrArg Prod.snd heq
  · obtain ⟨n, _, hn⟩ := List.mem_filterMap.mp hl
    obtain ⟨n', _, hn'⟩ := List.mem_filterMap.mp hl'
    rw [hkey _ n l hn, hkey _ n' l' hn'] at heq
    exact congrArg Prod.fst heq

theorem baseAnchor_of_filter {l : Lookup α} {g c : Nat} {cs : List (Option α)} {v : α}
    (hf : l.bases.filter (fun p => p.1 == g) = [(g, cs)]) (hc : cs[c]? = some (some v))
    (h0 : l.kind ≠ .lig → c = 0) : l.baseAnchor g c = some v := by
  unfold Lookup.baseAnchor
  cases hk : l.kind
  · simp [hf, List.head?_eq_getElem?, ← h0 (by rw [hk]; decide), hc]
  · simp [lastFor, hf, hc]
  · simp [hf, List.head?_eq_getElem?, ← h0 (by rw [hk]; decide), hc]

variable [DecidableEq α]

theorem filter_carries {gs : List (Glyph α)} {p : Pair α} {l : Lookup α} (hl : l ∈ allLookups gs)
    (hc : l.carries p = true) : (allLookups gs).filter (·.carries p) = [l] := by
  have key : ∀ l' : Lookup α, l'.carries p = true → l'.key = (p.kind, p.name) := by
    intro l' h
    simp only [Lookup.carries, Bool.and_eq_true, beq_iff_eq] at h
    rw [Lookup.key, h.1.1.1, h.1.1.2]
  exact filter_eq_singleton _ (allLookups_keys gs) hl hc fun l' _ h => (key l' h).trans (key l hc).symm

theorem pair_carried {gs : List (Glyph α)}
    (hgid : (gs.map (·.gid)).Pairwise (· ≠ ·))
    (hkind : ∀ g ∈ gs, (g.anchors.map (·.kind)).Pairwise (· ≠ ·))
    (hlig : ∀ g ∈ gs, ∀ a ∈ g.anchors, ∀ n i, a.kind = .ligature n i → 1 ≤ i)
    {p : Pair α} (hp : p ∈ sourcePairs gs) :
    (allLookups gs).filter (·.carries p) = [mkLookup gs p.kind p.name] ∧
    mkLookup gs p.kind p.name ∈ allLookups gs ∧
    (mkLookup gs p.kind p.name).markAnchor p.mark = some p.markVal ∧
    (mkLookup gs p.kind p.name).baseAnchor p.base (p.comp - 1) = some p.baseVal := by
  obtain ⟨m, hm, hmark, am, ham, hkm, hpm, hpmv, g, hg, ag, hag, hpb, hpbv, hcase⟩ := exists_of_mem_sourcePairs hp
  have hn : p.name ∈ groupNames gs := mem_groupNames hm ham (by rw [hkm]; rfl)
  -- the mark side is the same for the three lookup types
  have hmf : (marksFor gs p.name).filter (fun x => x.1 == m.gid) = [(m.gid, am.val)] := by
    rw [marksFor_eq]
    exact perGlyph_filter hgid hkind (isMarkGlyph gs) id hm hmark ham hkm
  -- the attaching side: the bases of the pair's group hold one entry for `g`, with the pair's anchor in its slot
  have hbs : ∃ cs, (bsOf gs p.kind p.name).filter (fun x => x.1 == g.gid) = [(g.gid, cs)] ∧
      cs[p.comp - 1]? = some (some ag.val) ∧ (p.kind ≠ .lig → p.comp - 1 = 0) := by
    rcases hcase with ⟨hk, hkg, hgm, hcomp⟩ | ⟨hk, hkg, _, htb, hcomp⟩ | ⟨hk, hkg, hml⟩
    · have hcont : (markAnchorNames gs).contains p.name = true := by
        rw [List.contains_iff_mem, markAnchorNames, List.mem_flatMap]
        exact ⟨m, List.mem_filter.mpr ⟨hm, hmark⟩, List.mem_filterMap.mpr ⟨am, ham, by rw [hkm]; rfl⟩⟩
      refine ⟨[some ag.val], ?_, by rw [hcomp]; rfl, fun _ => by rw [hcomp]⟩
      rw [hk, bsOf, mkBases_eq hcont]
      exact perGlyph_filter hgid hkind (isMarkGlyph gs) (fun v => [some v]) hg hgm hag hkg
    · refine ⟨[some ag.val], ?_, by rw [hcomp]; rfl, fun _ => by rw [hcomp]⟩
      rw [hk, bsOf, mbBases_eq]
      exact perGlyph_filter hgid hkind (treatAsBase gs) (fun v => [some v]) hg htb hag hkg
    · obtain ⟨mx, hle, hf⟩ := ligBases_filter hgid hg hml hag hkg
      obtain ⟨g0, hg0, _, _, hanch⟩ := exists_of_mem_pruned hg
      have hpos : 1 ≤ p.comp := hlig g0 hg0 ag (List.mem_filter.mp (hanch ▸ hag)).1 p.name p.comp hkg
      refine ⟨_, by rw [hk]; exact hf, ?_, fun h => absurd hk h⟩
      have hone := anchorsOfKind_eq (pruned_kinds hkind hg) hag
      rw [hkg] at hone
      rw [ligComponents, List.getElem?_map, List.getElem?_range (by omega), Option.map_some,
        Nat.sub_add_cancel hpos, hone]
      rfl
  obtain ⟨cs, hf, hcs, h0⟩ := hbs
  have hb : bsOf gs p.kind p.name ≠ [] := ne_nil_of_filter_eq_singleton hf
  have hms : msOf gs p.kind p.name = marksFor gs p.name := msOf_eq hb
  have hma : (mkLookup gs p.kind p.name).markAnchor p.mark = some p.markVal := by
    rw [Lookup.markAnchor, mkLookup, hms, lastFor, hpm, hmf, hpmv]; rfl
  have hba : (mkLookup gs p.kind p.name).baseAnchor p.base (p.comp - 1) = some p.baseVal := by
    rw [hpb, hpbv]; exact baseAnchor_of_filter hf hcs h0
  have hmem : mkLookup gs p.kind p.name ∈ allLookups gs :=
    (mem_allLookups gs _).mpr ⟨_, _, hn, hb, by rw [hms]; exact ne_nil_of_filter_eq_singleton hmf, rfl⟩
  have hc : (mkLookup gs p.kind p.name).carries p = true := by
    rw [Lookup.carries, hma, hba]; simp [mkLookup]
  exact ⟨filter_carries hmem hc, hmem, hma, hba⟩

end Fontc.Marks
