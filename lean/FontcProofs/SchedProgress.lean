/-
  Why a job does not run.  In a state in which the invariants hold, a job that is not running is launchable, or its
  access is still `Unknown`, or the part of its access that fails points at a pending job it waits for (`blocked_cases`).
  So a stuck scheduler is a set of pending jobs each of which has an `Unknown` access or waits for another of them
  (`unable_to_proceed_cases`).  Nothing is assumed of the script here.
-/
import FontcProofs.SchedFresh
namespace Fontc.Sched

theorem blocked_cases {s : State} (w : WF s) {e : Entry} (hreal : e.kind ≠ .alsoComplete)
    (hidle : e.running = false) :
    s.launchable e = true ∨ e.reads = .unknown ∨ ∃ p ∈ s.pending, p.kind ≠ .alsoComplete ∧ WaitsFor s e p := by
  by_cases hl : s.launchable e = true
  · exact Or.inl hl
  · right
    -- `can_run` is false: the part of the read access that fails names a pending entry or a slot still counted, and the
    -- job that owns it (`WF.owner_job`, `mem_slots`) is what `e` waits for
    have hcan : s.canRun e = false := by simpa [launchable_iff, hreal, hidle] using hl
    cases hr : e.reads with
    | none => simp [State.canRun, hr] at hcan
    | unknown => exact Or.inl rfl
    | all =>
      right
      simp only [State.canRun, hr, Bool.and_eq_false_iff, decide_eq_false_iff_not, Nat.not_le] at hcan
      have : ∃ y ∈ s.pending, y.id ≠ e.id := by
        rcases hcan with hlen | hall
        · -- more than one entry, ids are distinct
          match hp : s.pending with
          | [] => simp [hp] at hlen
          | [_] => simp [hp] at hlen
          | a :: b :: rest =>
            have hnd := w.nodup
            rw [hp] at hnd
            simp only [List.map_cons, List.nodup_cons, List.mem_cons, not_or] at hnd
            by_cases ha : a.id = e.id
            · exact ⟨b, by simp, fun hb => hnd.1.1 (ha.trans hb.symm)⟩
            · exact ⟨a, by simp, ha⟩
        · simp only [List.all_eq_false, decide_eq_true_eq] at hall
          exact hall
      obtain ⟨y, hy, hne⟩ := this
      obtain ⟨p, hp, hpk, hpo, _⟩ := w.owner_job hy
      exact ⟨p, hp, hpk, by simp only [WaitsFor, hr]; exact ⟨y, hy, hne, hpo⟩⟩
    | set ds =>
      right
      simp only [State.canRun, hr, List.all_eq_false] at hcan
      obtain ⟨d, hd, hnf⟩ := hcan
      cases d with
      | specific x =>
        simp only [State.depFulfilled, Bool.not_eq_true, Bool.not_eq_false'] at hnf
        obtain ⟨y, hy, hyx⟩ := isPending_iff.1 hnf
        obtain ⟨p, hp, hpk, hpo, _⟩ := w.owner_job hy
        exact ⟨p, hp, hpk, by simp only [WaitsFor, hr]; exact Or.inl ⟨x, hd, y, hy, hyx, hpo⟩⟩
      | variant dd =>
        simp only [State.depFulfilled, decide_eq_true_eq] at hnf
        rw [w.counters dd] at hnf
        have hmem : dd ∈ s.slots := List.count_pos_iff.1 (Nat.pos_of_ne_zero hnf)
        obtain ⟨p, hp, hdp⟩ := mem_slots.1 hmem
        obtain ⟨hp, hpk, hni⟩ := mem_active.1 hp
        exact ⟨p, hp, hpk, by simp only [WaitsFor, hr]; exact Or.inr ⟨dd, hd, hdp, hni⟩⟩

/-- `C02.unable_to_proceed_cases`, of any state in which the invariants hold -/
theorem unable_to_proceed_cases {s : State} (i : Inv s)
    (hstuck : s.unableToProceed = true) :
    (∃ e ∈ s.pending, e.kind ≠ .alsoComplete) ∧
    ∀ e ∈ s.pending, e.kind ≠ .alsoComplete →
      e.reads = .unknown ∨ ∃ p ∈ s.pending, p.kind ≠ .alsoComplete ∧ WaitsFor s e p := by
  have w := i.wf
  have ci := i.hist.jobCount_eq
  simp only [State.unableToProceed, State.done, Bool.and_eq_true, Bool.not_eq_true', decide_eq_false_iff_not,
    Nat.not_le, List.any_eq_false] at hstuck
  obtain ⟨⟨hnd, hnl⟩, hnr⟩ := hstuck
  constructor
  · have hpos : 0 < s.pending.length := by omega
    match hp : s.pending with
    | [] => simp [hp] at hpos
    | y :: rest =>
      obtain ⟨p, hpm, hpk, _⟩ := w.owner_job (y := y) (by simp [hp])
      exact ⟨p, hp ▸ hpm, hpk⟩
  · intro e he hreal
    have hidle : e.running = false := by
      have := hnr e he
      simpa using this
    rcases blocked_cases w hreal hidle with h | h | h
    · have := hnl e he
      rw [h] at this; simp at this
    · exact Or.inl h
    · exact Or.inr h

end Fontc.Sched
