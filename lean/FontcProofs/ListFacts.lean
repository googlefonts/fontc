/-
  Facts about lists that several properties need and core Lean lacks: appending one element, `eraseDups`, `flatMap_congr`, positions and
  zips, lists sorted by a relation, folds of a selecting operation, insertion sort given by its defining equations, lists with
  distinct keys, association lists, the loop that appends to its own output.  Core Lean only.
-/

namespace Fontc

/-! Appending one element; `Nodup` of a concatenation; `eraseDups`. -/

theorem pairwise_snoc {α} {R : α → α → Prop} {l : List α} {a : α} (h : l.Pairwise R) (ha : ∀ x ∈ l, R x a) :
    (l ++ [a]).Pairwise R := by
  rw [List.pairwise_append]
  exact ⟨h, by simp, by intro x hx y hy; simp at hy; subst hy; exact ha x hx⟩

theorem nodup_snoc {α} {l : List α} {c : α} (h : l.Nodup) (hc : c ∉ l) : (l ++ [c]).Nodup :=
  pairwise_snoc h fun _ hx e => hc (e ▸ hx)

theorem nodup_flatMap_of_disjoint {α} {U : List (List α)} (hU1 : ∀ c ∈ U, c.Nodup)
    (hU2 : ∀ c ∈ U, ∀ c' ∈ U, c ≠ c' → ∀ g ∈ c, g ∉ c') {l : List (List α)} (hl : l.Nodup) (hsub : ∀ c ∈ l, c ∈ U) :
    (l.flatMap id).Nodup :=
  List.pairwise_flatMap.mpr ⟨fun c hc => hU1 c (hsub c hc),
    hl.imp_of_mem fun hc hc' hne g hg _ hg' e => hU2 _ (hsub _ hc) _ (hsub _ hc') hne g hg (e ▸ hg')⟩

theorem eraseDups_of_nodup {α} [BEq α] [LawfulBEq α] {l : List α} (h : l.Nodup) : l.eraseDups = l := by
  induction l with
  | nil => rfl
  | cons x xs ih =>
    rw [List.nodup_cons] at h
    rw [List.eraseDups_cons]
    have : xs.filter (fun b => !b == x) = xs := by
      rw [List.filter_eq_self]
      intro a ha
      have : a ≠ x := fun e => h.1 (e ▸ ha)
      simp [this]
    rw [this, ih h.2]

theorem nodup_eraseDups {α} [BEq α] [LawfulBEq α] (l : List α) : l.eraseDups.Nodup := by
  generalize hn : l.length = n
  induction n using Nat.strongRecOn generalizing l with
  | _ n ih =>
    cases l with
    | nil => simp
    | cons x xs =>
      rw [List.eraseDups_cons, List.nodup_cons]
      constructor
      · rw [List.mem_eraseDups, List.mem_filter]; simp
      · have hle : (xs.filter (fun b => !b == x)).length ≤ xs.length := List.length_filter_le _ _
        exact ih _ (by simp at hn; omega) _ rfl

/-! `map`, `flatMap`, `findSome?`, `mapM` of functions that agree on the list; `mapM` that is defined; relations that pass to `flatMap`. -/

theorem map_eq_self {α} {f : α → α} {l : List α} (h : ∀ a ∈ l, f a = a) : l.map f = l :=
  (List.map_congr_left h).trans (List.map_id l)

theorem map_zipIdx_eq {α β} (l : List α) (F : α × Nat → β) (G : α → β) (h : ∀ i a, l[i]? = some a → F (a, i) = G a) :
    l.zipIdx.map F = l.map G := by
  conv => rhs; rw [← List.zipIdx_map_fst 0 l, List.map_map]
  exact List.map_congr_left fun x hx => h x.2 x.1 (List.mem_zipIdx_iff_getElem?.mp hx)

theorem map_congr_of_map_eq {α β γ} {f : α → β} {g : α → γ} (hfg : ∀ a b, f a = f b → g a = g b) :
    ∀ l1 l2 : List α, l1.map f = l2.map f → l1.map g = l2.map g
  | [], [], _ => rfl
  | a :: l1, b :: l2, h => by
    simp only [List.map_cons, List.cons.injEq] at h ⊢
    exact ⟨hfg a b h.1, map_congr_of_map_eq hfg l1 l2 h.2⟩

theorem flatMap_congr {α β} {l : List α} {f g : α → List β} (h : ∀ a ∈ l, f a = g a) : l.flatMap f = l.flatMap g := by
  rw [List.flatMap_def, List.flatMap_def, List.map_congr_left h]

theorem findSome?_congr {α γ} {f f' : α → Option γ} {l : List α} (h : ∀ a ∈ l, f a = f' a) :
    l.findSome? f = l.findSome? f' := by
  induction l with
  | nil => rfl
  | cons a l ih => rw [List.findSome?_cons, List.findSome?_cons, h a (by simp), ih fun b hb => h b (by simp [hb])]

theorem mapM_option_congr {α β} {l : List α} {f g : α → Option β} (h : ∀ a ∈ l, f a = g a) : l.mapM f = l.mapM g := by
  induction l with
  | nil => rfl
  | cons a l ih => rw [List.mapM_cons, List.mapM_cons, h a List.mem_cons_self, ih fun b hb => h b (List.mem_cons_of_mem _ hb)]

theorem mapM_option_some {α β} (l : List α) (f : α → Option β) (h : ∀ x ∈ l, ∃ y, f x = some y) :
    ∃ out, l.mapM f = some out := by
  induction l with
  | nil => exact ⟨[], rfl⟩
  | cons a l ih =>
    obtain ⟨y, hy⟩ := h a (by simp)
    obtain ⟨out, ho⟩ := ih fun x hx => h x (List.mem_cons_of_mem _ hx)
    exact ⟨y :: out, by rw [List.mapM_cons, hy, ho]; rfl⟩

theorem flatMap_rel {α β} {R : List β → List β → Prop} (hnil : R [] [])
    (happ : ∀ {xs ys xs' ys'}, R xs ys → R xs' ys' → R (xs ++ xs') (ys ++ ys'))
    {l : List α} {f g : α → List β} (h : ∀ a ∈ l, R (f a) (g a)) : R (l.flatMap f) (l.flatMap g) := by
  induction l with
  | nil => exact hnil
  | cons a l ih =>
    simp only [List.flatMap_cons]
    exact happ (h a List.mem_cons_self) (ih fun b hb => h b (List.mem_cons_of_mem _ hb))

theorem flatMap_map_sublist {α π κ} {items : α → List π} {key : π → κ} {tgt : α → List κ}
    (h : ∀ r, ((items r).map key).Sublist (tgt r)) (rs : List α) :
    ((rs.flatMap items).map key).Sublist (rs.flatMap tgt) := by
  rw [List.map_flatMap]
  exact flatMap_rel .slnil .append fun r _ => h r

theorem flatMap_append_perm {α β} (l : List α) (f g : α → List β) :
    List.Perm (l.flatMap fun a => f a ++ g a) (l.flatMap f ++ l.flatMap g) := by
  induction l with
  | nil => simp
  | cons a l ih =>
    simp only [List.flatMap_cons, List.append_assoc]
    exact ((ih.append_left (g a)).trans (List.perm_append_comm_assoc ..)).append_left (f a)

/-! Positions in a list, zips and swapped pairs, an empty list stored as `none`, cutting at a separator. -/

theorem getElem?_of_idxOf?_eq_some {α} [BEq α] [LawfulBEq α] {l : List α} {c : α} {i : Nat}
    (h : l.idxOf? c = some i) : l[i]? = some c := by
  obtain ⟨hlt, he, _⟩ := List.idxOf?_eq_some_iff.mp h
  rw [List.getElem?_eq_getElem hlt, he]

theorem nodup_getElem?_inj {α} {l : List α} (h : l.Nodup) {i j : Nat} {a : α}
    (hi : l[i]? = some a) (hj : l[j]? = some a) : i = j :=
  (List.getElem?_inj (List.getElem?_eq_some_iff.mp hi).1 h).mp (hi.trans hj.symm)

theorem exists_zip_of_mem {α β} {as : List α} {bs : List β} (h : as.length = bs.length) {a : α} (ha : a ∈ as) :
    ∃ b, (a, b) ∈ as.zip bs := by
  rw [← List.map_fst_zip (Nat.le_of_eq h)] at ha
  obtain ⟨⟨a', b⟩, hm, rfl⟩ := List.mem_map.mp ha
  exact ⟨b, hm⟩

theorem zip_filter_map_fst {α β} {as : List α} {bs : List β} (h : as.length = bs.length) (p : α → Bool) :
    ((as.zip bs).filter fun x => p x.1).map (·.1) = as.filter p := by
  rw [show (fun x : α × β => p x.1) = p ∘ Prod.fst from rfl, ← List.filter_map, List.map_fst_zip (Nat.le_of_eq h)]

theorem mem_map_swap {α β} {l : List (α × β)} {a : α} {b : β} : (b, a) ∈ l.map Prod.swap ↔ (a, b) ∈ l := by
  constructor
  · intro h
    obtain ⟨⟨a', b'⟩, h', e⟩ := List.mem_map.mp h
    cases e; exact h'
  · exact fun h => List.mem_map.mpr ⟨(a, b), h, rfl⟩

theorem getD_ite_nil {α} [DecidableEq α] (l : List α) : (if l = [] then none else some l).getD [] = l := by
  split
  · next h => rw [h]; rfl
  · rfl

theorem split_at_opt_sep {α} [BEq α] [LawfulBEq α] {s : α} {a a' b b' : List α} (ha : s ∉ a) (ha' : s ∉ a')
    (hb : b = [] ∨ ∃ t, b = s :: t) (hb' : b' = [] ∨ ∃ t, b' = s :: t)
    (h : a ++ b = a' ++ b') : a = a' ∧ b = b' := by
  -- what stands before the first separator can be computed from the whole
  have front : ∀ a b : List α, s ∉ a → (b = [] ∨ ∃ t, b = s :: t) →
      (a ++ b).takeWhile (· != s) = a := by
    intro a b ha hb
    rw [List.takeWhile_append_of_pos fun x hx => by simpa using fun e : x = s => ha (e ▸ hx)]
    rcases hb with rfl | ⟨t, rfl⟩
    · simp
    · rw [List.takeWhile_cons_of_neg (by simp), List.append_nil]
  have e : a = a' := by rw [← front a b ha hb, h, front a' b' ha' hb']
  subst e
  exact ⟨rfl, List.append_cancel_left h⟩

/-! Lists sorted by a relation. -/

theorem pairwise_strict_of_nodup {α β} {le lt : β → β → Prop} (hlt : ∀ {a b}, le a b → a ≠ b → lt a b)
    (key : α → β) {l : List α} (hs : l.Pairwise fun x y => le (key x) (key y)) (hnd : (l.map key).Nodup) :
    l.Pairwise fun x y => lt (key x) (key y) :=
  (hs.and (List.pairwise_map.1 hnd)).imp fun ⟨h1, h2⟩ => hlt h1 h2

theorem eq_of_pairwise_of_mem_iff {α} {lt : α → α → Prop} (asymm : ∀ {a b}, lt a b → ¬ lt b a) {l₁ l₂ : List α}
    (h₁ : l₁.Pairwise lt) (h₂ : l₂.Pairwise lt) (h : ∀ a, a ∈ l₁ ↔ a ∈ l₂) : l₁ = l₂ :=
  have nd : ∀ {l : List α}, l.Pairwise lt → l.Nodup := fun hl => hl.imp fun hab e => by subst e; exact asymm hab hab
  List.Perm.eq_of_pairwise (fun _ _ _ _ hab hba => absurd hba (asymm hab)) h₁ h₂
    ((List.perm_ext_iff_of_nodup (nd h₁) (nd h₂)).mpr h)

theorem find?_pairwise {α} {R : α → α → Prop} {p : α → Bool} {l : List α} (hl : l.Pairwise R) {a b : α}
    (ha : l.find? p = some a) (hb : b ∈ l) (hpb : p b = true) : b = a ∨ R a b := by
  obtain ⟨_, as, bs, rfl, has⟩ := List.find?_eq_some_iff_append.1 ha
  rcases List.mem_append.1 hb with h | h
  · exact absurd hpb (by simpa using has b h)
  · rcases List.mem_cons.1 h with rfl | h
    · exact Or.inl rfl
    · exact Or.inr ((List.pairwise_cons.1 (List.pairwise_append.1 hl).2.1).1 b h)

theorem pairwise_head_last {α} {R : α → α → Prop} {m : List α} {f z : α} (hm : m.Pairwise R)
    (hf : m.head? = some f) (hz : m.getLast? = some z) {p : α} (hp : p ∈ m) : (p = f ∨ R f p) ∧ (p = z ∨ R p z) := by
  constructor
  · cases m with
    | nil => simp at hp
    | cons a t =>
      have ha : a = f := by simpa using hf
      subst ha
      exact (List.mem_cons.mp hp).imp_right ((List.pairwise_cons.mp hm).1 p)
  · obtain ⟨ys, rfl⟩ := List.getLast?_eq_some_iff.mp hz
    rcases List.mem_append.mp hp with hp | hp
    · exact Or.inr ((List.pairwise_append.mp hm).2.2 p hp z (by simp))
    · exact Or.inl (by simpa using hp)

/-! Folds of an operation that selects one of its arguments (`Selects`), also from an undefined start (`optFold`). -/

/-- `op` returns one of its two arguments, one that stands in the preorder `R` to both: `min` for `≤`, `max` for `≥` -/
structure Selects {α} (R : α → α → Prop) (op : α → α → α) : Prop where
  refl : ∀ a, R a a
  trans : ∀ {a b c}, R a b → R b c → R a c
  left : ∀ a b, R (op a b) a
  right : ∀ a b, R (op a b) b
  sel : ∀ a b, op a b = a ∨ op a b = b

theorem selects_min_nat : Selects (fun a b : Nat => a ≤ b) min :=
  ⟨Nat.le_refl, Nat.le_trans, Nat.min_le_left, Nat.min_le_right, fun a b => by omega⟩
theorem selects_max_nat : Selects (fun a b : Nat => b ≤ a) max :=
  ⟨Nat.le_refl, fun h1 h2 => Nat.le_trans h2 h1, Nat.le_max_left, Nat.le_max_right, fun a b => by omega⟩
theorem selects_min_int : Selects (fun a b : Int => a ≤ b) min :=
  ⟨Int.le_refl, Int.le_trans, Int.min_le_left, Int.min_le_right, fun a b => by omega⟩
theorem selects_max_int : Selects (fun a b : Int => b ≤ a) max :=
  ⟨Int.le_refl, fun h1 h2 => Int.le_trans h2 h1, Int.le_max_left, Int.le_max_right, fun a b => by omega⟩
theorem selects_min_rat : Selects (fun a b : Rat => a ≤ b) (fun a b => if b < a then b else a) :=
  ⟨fun _ => Rat.le_refl, Rat.le_trans, fun a b => by grind, fun a b => by grind, fun a b => by grind⟩
theorem selects_max_rat : Selects (fun a b : Rat => b ≤ a) (fun a b => if a < b then b else a) :=
  ⟨fun _ => Rat.le_refl, fun h1 h2 => Rat.le_trans h2 h1, fun a b => by grind, fun a b => by grind, fun a b => by grind⟩

theorem foldl_select {α} {R : α → α → Prop} {op : α → α → α} (h : Selects R op) (xs : List α) (v0 : α) :
    R (xs.foldl op v0) v0 ∧ (∀ x ∈ xs, R (xs.foldl op v0) x) ∧ (xs.foldl op v0 = v0 ∨ xs.foldl op v0 ∈ xs) := by
  induction xs generalizing v0 with
  | nil => exact ⟨h.refl _, fun _ hx => absurd hx List.not_mem_nil, Or.inl rfl⟩
  | cons x xs ih =>
    obtain ⟨h1, h2, h3⟩ := ih (op v0 x)
    refine ⟨h.trans h1 (h.left v0 x), ?_, ?_⟩
    · intro y hy
      rcases List.mem_cons.1 hy with rfl | hy
      · exact h.trans h1 (h.right v0 y)
      · exact h2 y hy
    · rw [List.foldl_cons]
      rcases h3 with h3 | h3
      · rw [h3]
        rcases h.sel v0 x with e | e
        · exact Or.inl e
        · exact Or.inr (by rw [e]; exact List.mem_cons_self)
      · exact Or.inr (List.mem_cons_of_mem _ h3)

theorem foldl_select_map {α β} {R : β → β → Prop} {op : β → β → β} (h : Selects R op) (g : α → β) {xs : List α}
    {v0 M : β} (hM : xs.foldl (fun m x => op m (g x)) v0 = M) :
    R M v0 ∧ (∀ x ∈ xs, R M (g x)) ∧ (M = v0 ∨ ∃ x ∈ xs, g x = M) := by
  subst hM
  obtain ⟨h1, h2, h3⟩ := foldl_select h (xs.map g) v0
  rw [List.foldl_map] at h1 h2 h3
  exact ⟨h1, fun x hx => h2 _ (List.mem_map_of_mem hx), h3.imp_right List.mem_map.1⟩

theorem exists_min_of_ne_nil {α} (r : α → Nat) : ∀ {l : List α}, l ≠ [] → ∃ x ∈ l, ∀ y ∈ l, r x ≤ r y
  | a :: rest, _ => by
    obtain ⟨h1, h2, h3⟩ := foldl_select_map selects_min_nat r (xs := rest) (v0 := r a) rfl
    have hall := List.forall_mem_cons (p := (_ ≤ r ·)).2 ⟨h1, h2⟩
    rcases h3 with e | ⟨x, hx, e⟩
    · exact ⟨a, List.mem_cons_self, e ▸ hall⟩
    · exact ⟨x, List.mem_cons_of_mem _ hx, e ▸ hall⟩

/-- `opt.map(|v| op(v, x)).or(Some(x))`: a running extremum that starts out undefined -/
def optFold {α} (op : α → α → α) (o : Option α) (x : α) : Option α :=
  match o with
  | some v => some (op v x)
  | none => some x

theorem foldl_optFold_some {α} (op : α → α → α) (xs : List α) (v : α) :
    xs.foldl (optFold op) (some v) = some (xs.foldl op v) := by
  induction xs generalizing v with
  | nil => rfl
  | cons x xs ih => exact ih (op v x)

theorem map_foldl_optFold {α β} {p : α → β} {op : α → α → α} {op' : β → β → β}
    (hp : ∀ a b, p (op a b) = op' (p a) (p b)) (xs : List α) (o : Option α) :
    (xs.foldl (optFold op) o).map p = (xs.map p).foldl (optFold op') (o.map p) := by
  induction xs generalizing o with
  | nil => rfl
  | cons x xs ih =>
    rw [List.foldl_cons, ih, List.map_cons, List.foldl_cons]
    cases o with
    | none => rfl
    | some v => simp only [optFold, Option.map_some, hp]

theorem foldl_optFold_none {α} {R : α → α → Prop} {op : α → α → α} (h : Selects R op) {xs : List α}
    (hne : xs ≠ []) : ∃ v, xs.foldl (optFold op) none = some v ∧ (∀ x ∈ xs, R v x) ∧ v ∈ xs := by
  cases xs with
  | nil => exact absurd rfl hne
  | cons x xs =>
    obtain ⟨h1, h2, h3⟩ := foldl_select h xs x
    refine ⟨xs.foldl op x, foldl_optFold_some op xs x, ?_, ?_⟩
    · intro y hy
      rcases List.mem_cons.1 hy with rfl | hy
      · exact h1
      · exact h2 y hy
    · rcases h3 with h3 | h3
      · rw [h3]; exact List.mem_cons_self
      · exact List.mem_cons_of_mem _ h3

theorem optFold_getD_spec {α} {R : α → α → Prop} {op : α → α → α} (h : Selects R op) (xs : List α) (d : α) :
    (xs = [] → (xs.foldl (optFold op) none).getD d = d) ∧
    (xs ≠ [] → (∀ x ∈ xs, R ((xs.foldl (optFold op) none).getD d) x) ∧ (xs.foldl (optFold op) none).getD d ∈ xs) := by
  refine ⟨fun e => by rw [e]; rfl, fun hne => ?_⟩
  obtain ⟨v, hv, hle, hmem⟩ := foldl_optFold_none h hne
  rw [hv]; exact ⟨hle, hmem⟩

theorem foldl_eq_of_optFold {α} {op : α → α → α} [Std.Associative op] {xs : List α} {v : α}
    (h : xs.foldl (optFold op) none = some v) (a : α) : xs.foldl op a = op a v := by
  cases xs with
  | nil => cases h
  | cons x xs =>
    cases (foldl_optFold_some op xs x).symm.trans h
    exact List.foldl_assoc

/-! Insertion sort, given by its defining equations (`InsertionSort`). -/

/-- `ins` and `sort` satisfy the defining equations of the insertion sort by `le` (a new element goes before the
    first one it is `le`) -/
structure InsertionSort {α} (le : α → α → Bool) (ins : α → List α → List α) (sort : List α → List α) : Prop where
  ins_nil : ∀ x, ins x [] = [x]
  ins_cons : ∀ x y ys, ins x (y :: ys) = if le x y then x :: y :: ys else y :: ins x ys
  sort_nil : sort [] = []
  sort_cons : ∀ x xs, sort (x :: xs) = ins x (sort xs)

namespace InsertionSort
variable {α} {le : α → α → Bool} {ins : α → List α → List α} {sort : List α → List α} (h : InsertionSort le ins sort)
include h

theorem perm_ins (x : α) (l : List α) : (ins x l).Perm (x :: l) := by
  induction l with
  | nil => rw [h.ins_nil]
  | cons y ys ih =>
    rw [h.ins_cons]
    split
    · exact List.Perm.refl _
    · exact ((List.Perm.cons y ih).trans (List.Perm.swap x y ys))

theorem perm_sort (l : List α) : (sort l).Perm l := by
  induction l with
  | nil => rw [h.sort_nil]
  | cons x xs ih => rw [h.sort_cons]; exact (h.perm_ins x _).trans (List.Perm.cons x ih)

theorem mem_ins {x y : α} {l : List α} : y ∈ ins x l ↔ y = x ∨ y ∈ l := by
  rw [(h.perm_ins x l).mem_iff, List.mem_cons]

theorem mem_sort {y : α} {l : List α} : y ∈ sort l ↔ y ∈ l := (h.perm_sort l).mem_iff

theorem pairwise_ins {R : α → α → Prop} (tr : ∀ {a b c}, R a b → R b c → R a c) (hle : ∀ a b, le a b = true → R a b)
    (hnle : ∀ a b, le a b = false → R b a) {x : α} {l : List α} (hl : l.Pairwise R) : (ins x l).Pairwise R := by
  induction l with
  | nil => rw [h.ins_nil]; exact List.pairwise_singleton R x
  | cons y ys ih =>
    obtain ⟨hy, hys⟩ := List.pairwise_cons.1 hl
    rw [h.ins_cons]
    cases hxy : le x y with
    | true =>
      have hR := hle x y hxy
      exact List.pairwise_cons.2 ⟨fun z hz => (List.mem_cons.1 hz).elim (· ▸ hR) fun hz => tr hR (hy z hz), hl⟩
    | false => exact List.pairwise_cons.2 ⟨fun z hz => (h.mem_ins.1 hz).elim (· ▸ hnle x y hxy) (hy z), ih hys⟩

theorem pairwise_sort {R : α → α → Prop} (tr : ∀ {a b c}, R a b → R b c → R a c) (hle : ∀ a b, le a b = true → R a b)
    (hnle : ∀ a b, le a b = false → R b a) (l : List α) : (sort l).Pairwise R := by
  induction l with
  | nil => rw [h.sort_nil]; exact List.Pairwise.nil
  | cons x xs ih => rw [h.sort_cons]; exact h.pairwise_ins @tr hle hnle ih

/-- A comparison that lies between `<` and `≤` of a rank sorts by the rank, whatever it does between equal ranks. -/
theorem pairwise_rank (r : α → Nat) (hle : ∀ a b, le a b = true → r a ≤ r b) (hlt : ∀ a b, r a < r b → le a b = true)
    (l : List α) : (sort l).Pairwise fun a b => r a ≤ r b :=
  h.pairwise_sort (R := fun a b => r a ≤ r b) Nat.le_trans hle (fun a b hf =>
    Nat.le_of_not_lt fun hab => Bool.noConfusion ((hlt a b hab).symm.trans hf)) l

theorem pairwise_le (tr : ∀ {a b c}, le a b = true → le b c = true → le a c = true)
    (tot : ∀ a b, le a b = true ∨ le b a = true) (l : List α) : (sort l).Pairwise fun a b => le a b = true :=
  h.pairwise_sort @tr (fun _ _ hab => hab) (fun a b hf => (tot a b).resolve_left fun hab => by rw [hab] at hf; cases hf) l

end InsertionSort

namespace InsertionSort
variable {α β} {le : α → α → Bool} {ins : α → List α → List α} {sort : List α → List α}
  {le' : β → β → Bool} {ins' : β → List β → List β} {sort' : List β → List β}
  (h : InsertionSort le ins sort) (h' : InsertionSort le' ins' sort')
include h h'

theorem filterMap_ins (tr : ∀ {a b c}, le a b = true → le b c = true → le a c = true) (g : α → Option β) {x : α}
    {l : List α} (hl : l.Pairwise fun a b => le a b = true)
    (hg : ∀ x', g x = some x' → ∀ y ∈ l, ∀ y', g y = some y' → le' x' y' = le x y) :
    (ins x l).filterMap g = match g x with
      | some x' => ins' x' (l.filterMap g)
      | none => l.filterMap g := by
  induction l with
  | nil => rw [h.ins_nil]; cases hx : g x <;> simp [hx, h'.ins_nil]
  | cons y ys ih =>
    obtain ⟨hy, hys⟩ := List.pairwise_cons.1 hl
    have ih := ih hys fun x' hx z hz => hg x' hx z (List.mem_cons_of_mem _ hz)
    rw [h.ins_cons]
    cases hxy : le x y with
    | true =>
      rw [if_pos rfl, List.filterMap_cons]
      cases hx : g x with
      | none => rfl
      | some x' =>
        -- `x` is below everything in the list, so its image goes in front of the image of the list
        show x' :: _ = ins' x' _
        cases hf : (y :: ys).filterMap g with
        | nil => rw [h'.ins_nil]
        | cons z' zs =>
          obtain ⟨z, hz, hgz⟩ := List.mem_filterMap.1 (hf ▸ List.mem_cons_self : z' ∈ (y :: ys).filterMap g)
          have : le x z = true := (List.mem_cons.1 hz).elim (· ▸ hxy) fun hz => tr hxy (hy z hz)
          rw [h'.ins_cons, if_pos ((hg x' hx z hz z' hgz).trans this)]
    | false =>
      rw [if_neg (by simp), List.filterMap_cons, List.filterMap_cons, ih]
      cases hx : g x with
      | none => rfl
      | some x' =>
        cases hgy : g y with
        | none => rfl
        | some y' => simp only []; rw [h'.ins_cons, if_neg (by rw [hg x' hx y List.mem_cons_self y' hgy, hxy]; simp)]

theorem filterMap_sort (tr : ∀ {a b c}, le a b = true → le b c = true → le a c = true)
    (tot : ∀ a b, le a b = true ∨ le b a = true) (g : α → Option β) {l : List α}
    (hg : ∀ x ∈ l, ∀ x', g x = some x' → ∀ y ∈ l, ∀ y', g y = some y' → le' x' y' = le x y) :
    (sort l).filterMap g = sort' (l.filterMap g) := by
  induction l with
  | nil => simp [h.sort_nil, h'.sort_nil]
  | cons x xs ih =>
    rw [h.sort_cons, h.filterMap_ins h' @tr g (h.pairwise_le @tr tot xs)
        (fun x' hx y hy => hg x List.mem_cons_self x' hx y (List.mem_cons_of_mem _ (h.mem_sort.1 hy))),
      ih fun a ha a' hga b hb => hg a (List.mem_cons_of_mem _ ha) a' hga b (List.mem_cons_of_mem _ hb),
      List.filterMap_cons]
    cases g x <;> simp [h'.sort_cons]

end InsertionSort

/-! Distinct keys: members with equal keys are equal; selecting by key gives the one member, or what it produced; a test only one member passes. -/

theorem eq_of_nodup_map {α β} {f : α → β} {l : List α} (h : (l.map f).Nodup) {a b : α} (ha : a ∈ l) (hb : b ∈ l)
    (e : f a = f b) : a = b :=
  have h := List.pairwise_map.1 h
  List.Pairwise.forall_of_forall_of_flip (R := fun a b => f a = f b → a = b) (fun _ _ _ => rfl)
    (h.imp fun hne e => absurd e hne) (h.imp fun hne e => absurd e.symm hne) ha hb e

theorem filter_eq_singleton {α κ} {key : α → κ} (q : α → Bool) {l : List α}
    (hl : (l.map key).Nodup) {a : α} (ha : a ∈ l) (hqa : q a = true)
    (hq : ∀ b ∈ l, q b = true → key b = key a) : l.filter q = [a] := by
  induction l with
  | nil => cases ha
  | cons b rest ih =>
    rw [List.map_cons, List.nodup_cons] at hl
    rcases List.mem_cons.mp ha with rfl | hmem
    · have hrest : rest.filter q = [] := by
        rw [List.filter_eq_nil_iff]
        intro x hx hqx
        exact hl.1 (hq x (List.mem_cons_of_mem _ hx) hqx ▸ List.mem_map_of_mem hx)
      rw [List.filter_cons_of_pos hqa, hrest]
    · have hb : ¬ q b = true := fun hqb => hl.1 (hq b List.mem_cons_self hqb ▸ List.mem_map_of_mem hmem)
      rw [List.filter_cons_of_neg hb]
      exact ih hl.2 hmem fun b hb => hq b (List.mem_cons_of_mem _ hb)

theorem ne_nil_of_filter_eq_singleton {α} {xs : List α} {q : α → Bool} {b : α} (h : xs.filter q = [b]) :
    xs ≠ [] := by
  intro he
  rw [he] at h
  cases h

theorem find?_key_of_mem {α κ} {key : α → κ} {l : List α} (hnd : (l.map key).Nodup) {a : α}
    (h : a ∈ l) {p : α → Bool} (hp : ∀ e ∈ l, p e = true ↔ key e = key a) : l.find? p = some a := by
  rw [← List.head?_filter, filter_eq_singleton p hnd h ((hp a h).2 rfl) fun b hb => (hp b hb).1]
  rfl

theorem filter_flatMap_key {α γ κ} [DecidableEq κ] {key : α → κ} {l : List α} (hl : (l.map key).Nodup)
    (f : α → List (κ × γ)) (hf : ∀ b, ∀ x ∈ f b, x.1 = key b) {a : α} (ha : a ∈ l) :
    (l.flatMap f).filter (fun x => x.1 == key a) = f a := by
  have part : ∀ b, (f b).filter (fun x => x.1 == key a) = if key b = key a then f b else [] := by
    intro b
    split
    · rename_i h
      rw [List.filter_eq_self]
      intro x hx
      simp [hf b x hx, h]
    · rename_i h
      rw [List.filter_eq_nil_iff]
      intro x hx
      simp [hf b x hx, h]
  induction l with
  | nil => cases ha
  | cons b rest ih =>
    rw [List.map_cons, List.nodup_cons] at hl
    rw [List.flatMap_cons, List.filter_append, part b]
    rcases List.mem_cons.mp ha with rfl | hmem
    · have hrest : (rest.flatMap f).filter (fun x => x.1 == key a) = [] := by
        rw [List.filter_flatMap, List.flatMap_eq_nil_iff]
        intro b' hb'
        rw [part b', if_neg (fun h : key b' = key a => hl.1 (h ▸ List.mem_map_of_mem hb'))]
      rw [if_pos rfl, hrest, List.append_nil]
    · rw [if_neg (fun h : key b = key a => hl.1 (h ▸ List.mem_map_of_mem hmem)), ih hl.2 hmem, List.nil_append]

theorem count_flatMap_remove {α β κ} [DecidableEq κ] [BEq β] [LawfulBEq β] {key : α → κ} (g : α → List β) {l : List α}
    {e : α} (he : e ∈ l) (hnd : (l.map key).Nodup) (d : β) :
    (l.flatMap g).count d = (g e).count d + ((l.filter fun x => !decide (key x = key e)).flatMap g).count d := by
  induction l with
  | nil => cases he
  | cons x l ih =>
    rw [List.map_cons, List.nodup_cons] at hnd
    rcases List.mem_cons.1 he with rfl | he
    · have : l.filter (fun x => !decide (key x = key e)) = l :=
        List.filter_eq_self.2 fun y hy => by simpa using fun h : key y = key e => hnd.1 (h ▸ List.mem_map_of_mem hy)
      simp [this, List.count_append]
    · have hne : key x ≠ key e := fun h => hnd.1 (h ▸ List.mem_map_of_mem he)
      simp [hne, List.count_append, ih he hnd.2]
      omega

theorem find?_eq_some_iff_of_unique {α} {p : α → Bool} {l : List α}
    (hu : ∀ a ∈ l, ∀ b ∈ l, p a = true → p b = true → a = b) (r : α) :
    l.find? p = some r ↔ r ∈ l ∧ p r = true := by
  refine ⟨fun hf => ⟨List.mem_of_find?_eq_some hf, List.find?_some hf⟩, fun ⟨hr, hp⟩ => ?_⟩
  cases hf : l.find? p with
  | none => exact absurd hp (by simpa using List.find?_eq_none.1 hf r hr)
  | some r' => rw [hu r' (List.mem_of_find?_eq_some hf) r hr (List.find?_some hf) hp]

/-! Association lists read by `List.lookup`: one value per key (`Functional`), map insertion (`IsInsert`), lookup in mapped and filtered lists. -/

section
variable {κ β : Type _} [BEq κ] [LawfulBEq κ]

omit [LawfulBEq κ] in
theorem lookup_cons_ite (p : κ × β) (l : List (κ × β)) (k : κ) :
    (p :: l).lookup k = if k == p.1 then some p.2 else l.lookup k := by
  rw [List.lookup_cons]; cases k == p.1 <;> rfl

theorem mem_of_lookup_eq_some {l : List (κ × β)} {k : κ} {v : β} (h : l.lookup k = some v) : (k, v) ∈ l := by
  obtain ⟨l₁, l₂, rfl, _⟩ := List.lookup_eq_some_iff.mp h
  simp

/-- Core's `List.lookup_isSome_iff` where `==` is lawful: the entry found carries the key itself. -/
theorem lookup_isSome_iff {l : List (κ × β)} {k : κ} : (l.lookup k).isSome ↔ ∃ v, (k, v) ∈ l := by
  rw [List.lookup_isSome_iff]
  exact ⟨fun ⟨p, hp, e⟩ => ⟨p.2, by rwa [eq_of_beq e]⟩, fun ⟨v, hv⟩ => ⟨_, hv, beq_self_eq_true k⟩⟩

theorem lookup_isSome_eq_any (l : List (κ × β)) (k : κ) : (l.lookup k).isSome = l.any (·.1 == k) := by
  rw [Bool.eq_iff_iff, lookup_isSome_iff, List.any_eq_true]
  constructor
  · rintro ⟨v, hv⟩; exact ⟨_, hv, by simp⟩
  · rintro ⟨p, hp, hk⟩; exact ⟨p.2, by rw [← beq_iff_eq.mp hk]; exact hp⟩

theorem lookup_eq_none_of_not_mem {l : List (κ × β)} {k : κ} (h : k ∉ l.map (·.1)) : l.lookup k = none :=
  List.lookup_eq_none_iff.mpr fun _ hp => bne_iff_ne.mpr fun e => h (e ▸ List.mem_map_of_mem hp)

theorem not_mem_keys_of_any_false {l : List (κ × β)} {k : κ} (h : ¬ (l.any (·.1 == k) = true)) :
    k ∉ l.map (·.1) := by
  intro hm
  obtain ⟨p, hp, rfl⟩ := List.mem_map.mp hm
  exact h (List.any_eq_true.mpr ⟨p, hp, by simp⟩)

/-- Every key has one value: what any sequence of map insertions leaves, in whatever order the entries are kept. -/
def Functional (l : List (κ × β)) : Prop := ∀ p ∈ l, ∀ q ∈ l, p.1 = q.1 → p.2 = q.2

omit [BEq κ] [LawfulBEq κ] in
theorem functional_of_nodup {l : List (κ × β)} (h : (l.map (·.1)).Nodup) : Functional l :=
  fun _ hp _ hq e => congrArg Prod.snd (eq_of_nodup_map h hp hq e)

theorem lookup_eq_some_iff_of_functional {l : List (κ × β)} (hf : Functional l) {k : κ} {v : β} :
    l.lookup k = some v ↔ (k, v) ∈ l := by
  refine ⟨mem_of_lookup_eq_some, fun h => ?_⟩
  obtain ⟨w, hw⟩ := Option.isSome_iff_exists.mp (lookup_isSome_iff.mpr ⟨v, h⟩)
  rw [hw, show w = v from hf _ (mem_of_lookup_eq_some hw) _ h rfl]

theorem lookup_eq_some_iff_of_nodup {l : List (κ × β)} (h : (l.map (·.1)).Nodup) {k : κ} {v : β} :
    l.lookup k = some v ↔ (k, v) ∈ l :=
  lookup_eq_some_iff_of_functional (functional_of_nodup h)

theorem lookup_congr {l l' : List (κ × β)} (hf : Functional l) (hm : ∀ p, p ∈ l' ↔ p ∈ l) (k : κ) :
    l'.lookup k = l.lookup k :=
  Option.ext fun v => by
    rw [lookup_eq_some_iff_of_functional hf,
      lookup_eq_some_iff_of_functional fun p hp q hq => hf p ((hm p).mp hp) q ((hm q).mp hq), hm]

/-- `ins k v` is map insertion as far as `List.lookup` can tell (`BTreeMap::insert`, `HashMap::insert`,
    `IndexMap::insert`), wherever it puts the entry. -/
def IsInsert (ins : κ → β → List (κ × β) → List (κ × β)) : Prop :=
  ∀ k v m k', (ins k v m).lookup k' = if k' == k then some v else m.lookup k'

omit [LawfulBEq κ] in
theorem IsInsert.lookup_foldl {ins : κ → β → List (κ × β) → List (κ × β)} (h : IsInsert ins)
    (ps m : List (κ × β)) (k : κ) :
    (ps.foldl (fun m p => ins p.1 p.2 m) m).lookup k = (ps.reverse.lookup k).or (m.lookup k) := by
  induction ps generalizing m with
  | nil => rfl
  | cons p ps ih =>
    rw [List.foldl_cons, ih, h, List.reverse_cons, List.lookup_append, Option.or_assoc, lookup_cons_ite]
    split <;> rfl

theorem lookup_map_const (ts : List κ) (v : β) (k : κ) :
    (ts.map (·, v)).lookup k = if ts.contains k then some v else none := by
  induction ts with
  | nil => rfl
  | cons t ts ih => by_cases h : k = t <;> simp [lookup_cons_ite, h, ih]

theorem lookup_map_snd {γ} (f : κ → β → γ) (l : List (κ × β)) (k : κ) :
    (l.map fun p => (p.1, f p.1 p.2)).lookup k = (l.lookup k).map (f k) := by
  induction l with
  | nil => rfl
  | cons p l ih => by_cases h : k = p.1 <;> simp [lookup_cons_ite, h, ih]

theorem lookup_map_update (k : κ) (f : β → β) (l : List (κ × β)) (k' : κ) :
    (l.map fun p => if p.1 == k then (p.1, f p.2) else p).lookup k'
      = if k' == k then (l.lookup k).map f else l.lookup k' := by
  have e : (l.map fun p => if p.1 == k then (p.1, f p.2) else p)
      = l.map fun p => (p.1, if p.1 == k then f p.2 else p.2) :=
    List.map_congr_left fun p _ => by split <;> rfl
  rw [e, lookup_map_snd fun a b => if a == k then f b else b]
  split
  · rename_i h; rw [beq_iff_eq.mp h]
  · exact Option.map_id'

omit [LawfulBEq κ] in
theorem keys_map_update (k : κ) (f : β → β) (l : List (κ × β)) :
    (l.map fun p => if p.1 == k then (p.1, f p.2) else p).map (·.1) = l.map (·.1) := by
  rw [List.map_map]
  apply List.map_congr_left
  intro p _
  simp only [Function.comp]
  split <;> rfl

theorem lookup_filter_ne (l : List (κ × β)) {d k : κ} (h : k ≠ d) :
    (l.filter (·.1 != d)).lookup k = l.lookup k := by
  induction l with
  | nil => rfl
  | cons p l ih =>
    obtain ⟨a, b⟩ := p
    simp only [List.filter_cons]
    by_cases had : a = d
    · subst had
      have : (k == a) = false := by simp [h]
      simp [List.lookup, this, ih]
    · simp only [bne_iff_ne, ne_eq, had, not_false_eq_true, ↓reduceIte, List.lookup, ih]

omit [LawfulBEq κ] in
theorem findSome?_lookup_flatMap {α} (f : α → List (κ × β)) (xs : List α) (k : κ) :
    xs.findSome? (fun x => (f x).lookup k) = (xs.flatMap f).lookup k := by
  induction xs with
  | nil => rfl
  | cons x xs ih =>
    rw [List.findSome?_cons, List.flatMap_cons, List.lookup_append, ih]
    cases (f x).lookup k <;> rfl

end

/-! The loop that appends to its own output (`accMap`). -/

/-- A loop that appends to its own output: each new entry is computed from the entries so far and the next input. -/
def accMap {α β} (f : List β → α → β) : List β → List α → List β
  | acc, [] => acc
  | acc, x :: xs => accMap f (acc ++ [f acc x]) xs

theorem accMap_eq_append {α β} (f : List β → α → β) (acc : List β) (xs : List α) :
    ∃ ext, accMap f acc xs = acc ++ ext ∧ ext.length = xs.length := by
  induction xs generalizing acc with
  | nil => exact ⟨[], by simp [accMap]⟩
  | cons x xs ih =>
    obtain ⟨ext, h, hl⟩ := ih (acc ++ [f acc x])
    exact ⟨f acc x :: ext, by rw [accMap, h]; simp, by simp [hl]⟩

theorem length_accMap {α β} (f : List β → α → β) (acc : List β) (xs : List α) :
    (accMap f acc xs).length = acc.length + xs.length := by
  obtain ⟨ext, h, hl⟩ := accMap_eq_append f acc xs
  rw [h, List.length_append, hl]

theorem getElem?_accMap {α β} (f : List β → α → β) (acc : List β) (xs : List α) (j : Nat) (x : α)
    (hx : xs[j]? = some x) :
    (accMap f acc xs)[acc.length + j]? = some (f ((accMap f acc xs).take (acc.length + j)) x) := by
  induction xs generalizing acc j with
  | nil => simp at hx
  | cons y ys ih =>
    rw [accMap]
    cases j with
    | zero =>
      obtain ⟨ext, h, _⟩ := accMap_eq_append f (acc ++ [f acc y]) ys
      simp only [List.getElem?_cons_zero, Option.some.injEq] at hx
      rw [h, hx, List.append_assoc]
      simp
    | succ j =>
      have := ih (acc ++ [f acc y]) j (by simpa using hx)
      rw [List.length_append, List.length_singleton, Nat.add_assoc, Nat.add_comm 1 j] at this
      exact this

end Fontc
