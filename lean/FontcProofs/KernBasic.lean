/-
  C09: the per-source group maps; the lookup cascade (`lookup_kerning_value` on any key, the UFO lookup on a glyph pair) as
  the keys of two sides tried in order; the vocabulary the builder and the evaluator share (covering, levels, compatible
  classes).
-/
import FontcModel.Kern
import FontcProofs.ListFacts

namespace Fontc.Kern
open Fontc

theorem insertSort_spec {α} (le : α → α → Bool) : InsertionSort le (insertBy le) (insertSort le) :=
  ⟨fun _ => rfl, fun _ _ _ => rfl, rfl, fun _ _ => rfl⟩

theorem mem_insertSort {α} (le : α → α → Bool) (y : α) (l : List α) : y ∈ insertSort le l ↔ y ∈ l :=
  (insertSort_spec le).mem_sort

theorem lookup_isSome_of_mem {α β} [BEq α] [LawfulBEq α] (k : α) (v : β) (l : List (α × β))
    (h : (k, v) ∈ l) : ∃ w, l.lookup k = some w :=
  Option.isSome_iff_exists.mp (lookup_isSome_iff.mpr ⟨v, h⟩)

theorem groupOfFirst_some_mem {gs : Groups} {g G : Nat} (h : groupOfFirst gs g = some G) :
    ∃ ms, (G, ms) ∈ gs ∧ g ∈ ms := by
  obtain ⟨⟨G', ms⟩, hf, rfl⟩ := Option.map_eq_some_iff.mp h
  exact ⟨ms, List.mem_of_find?_eq_some hf, by simpa using List.find?_some hf⟩

theorem groupOfLast_some_mem {gs : Groups} {g G : Nat} (h : groupOfLast gs g = some G) :
    ∃ ms, (G, ms) ∈ gs ∧ g ∈ ms := by
  obtain ⟨ms, hm, hg⟩ := groupOfFirst_some_mem h
  exact ⟨ms, List.mem_reverse.mp hm, hg⟩

theorem groupOfLast_eq_first {gs : Groups} (hv : validGroups gs = true) (g : Nat) :
    groupOfLast gs g = groupOfFirst gs g := by
  unfold groupOfLast groupOfFirst
  congr 1
  induction gs with
  | nil => rfl
  | cons p rest ih =>
    simp only [validGroups, Bool.and_eq_true, List.all_eq_true] at hv
    rw [List.reverse_cons, List.find?_append, ih hv.2, List.find?_cons, List.find?_cons]
    cases hp : p.2.contains g with
    | false => cases rest.find? (·.2.contains g) <;> rfl
    | true =>
      -- `g` is in the first group, hence in no later one
      have hnone : rest.find? (·.2.contains g) = none := List.find?_eq_none.mpr fun q hq hqg => by
        have := hv.1 q hq g (List.contains_iff_mem.mp hp)
        rw [hqg] at this; cases this
      rw [hnone]; rfl

/-! Both lookups try keys made of one name per side, the first side varying slowest; on one side a glyph has two names,
  itself and its group. -/

theorem optPair_eq_some {α β} {a : Option α} {b : Option β} {k : α × β} :
    optPair a b = some k ↔ a = some k.1 ∧ b = some k.2 := by
  cases a <;> cases b <;> simp [optPair, Prod.ext_iff]

theorem optPair_some {α β} (a : α) (b : β) : optPair (some a) (some b) = some (a, b) := rfl
theorem optPair_none_left {α β} (b : Option β) : optPair (none : Option α) b = none := rfl
theorem optPair_none_right {α β} (a : Option α) : optPair a (none : Option β) = none := by cases a <;> rfl

theorem firstHit_cons_skip {kerns : List (Key × Rat)} {k : Option Key} {rest : List (Option Key)}
    (h : ∀ k', k = some k' → kerns.lookup k' = none) : firstHit kerns (k :: rest) = firstHit kerns rest := by
  cases k with
  | none => rfl
  | some k' => simp only [firstHit, h k' rfl]

theorem firstHit_append_skip {kerns : List (Key × Rat)} {l₁ l₂ : List (Option Key)}
    (h : ∀ k, some k ∈ l₁ → kerns.lookup k = none) : firstHit kerns (l₁ ++ l₂) = firstHit kerns l₂ := by
  induction l₁ with
  | nil => rfl
  | cons a l ih =>
    rw [List.cons_append, firstHit_cons_skip fun k hk => h k (hk ▸ List.mem_cons_self)]
    exact ih fun k hk => h k (List.mem_cons_of_mem _ hk)

theorem firstHit_cases (kerns : List (Key × Rat)) (l : List (Option Key)) :
    firstHit kerns l = 0 ∨ ∃ k v, some k ∈ l ∧ kerns.lookup k = some v ∧ firstHit kerns l = v := by
  induction l with
  | nil => exact Or.inl rfl
  | cons a l ih =>
    have tl : firstHit kerns l = 0 ∨ ∃ k v, some k ∈ a :: l ∧ kerns.lookup k = some v ∧ firstHit kerns l = v :=
      ih.imp_right fun ⟨k, v, hk, h⟩ => ⟨k, v, List.mem_cons_of_mem _ hk, h⟩
    cases a with
    | none => exact tl
    | some k =>
      cases hl : kerns.lookup k with
      | none => rw [firstHit, hl]; exact tl
      | some v => exact Or.inr ⟨k, v, List.mem_cons_self, hl, by rw [firstHit, hl]⟩

/-- The names `lookup_kerning_value` tries on one side of a key, most specific first: for a glyph the glyph and then its
    group (`get_group_if_glyph`), for a group the group alone. -/
def below (s : Source) (side : Side) : KSide → List (Option KSide)
  | .glyph g => [some (.glyph g), (s.groupOf side g).map .group]
  | .group G => [some (.group G)]

/-- The keys made of a name of each side, the first side varying slowest: the order in which the UFO lookup tries them. -/
def keyPairs (as bs : List (Option KSide)) : List (Option Key) := as.flatMap fun a => bs.map (optPair a)

theorem mem_keyPairs {as bs : List (Option KSide)} {k : Key} :
    some k ∈ keyPairs as bs ↔ ∃ a ∈ as, ∃ b ∈ bs, optPair a b = some k := by
  simp only [keyPairs, List.mem_flatMap, List.mem_map]

theorem lookup_eq (s : Source) (k : Key) :
    s.lookup k = firstHit s.kerns (keyPairs (below s .first k.1) (below s .second k.2)) := by
  obtain ⟨k₁, k₂⟩ := k
  unfold Source.lookup lookupKerningValue
  cases hl : s.kerns.lookup (k₁, k₂) with
  | some v => cases k₁ <;> cases k₂ <;> exact (show firstHit s.kerns (some _ :: _) = _ by rw [firstHit, hl]).symm
  | none =>
    -- the key itself comes up again among the three that follow, and is skipped again
    cases k₁ <;> cases k₂ <;>
      exact (show _ = firstHit s.kerns (some _ :: _) by
        simp only [firstHit, hl, getGroupIfGlyph, KSide.isGlyph, optPair_none_left, optPair_none_right, optPair_some,
          if_true, Bool.false_eq_true, if_false]; rfl)

/-- The key side `k` is a name of glyph `g` in source `s`: the glyph itself, or the group `s` has it in on that side. -/
def KSide.stands (s : Source) (side : Side) : KSide → Nat → Prop
  | .glyph a, g => a = g
  | .group G, g => s.groupOf side g = some G

/-- The names of glyph `g` on one side from a level on: from the glyph itself (`false`), or from its group (`true`). -/
def sideNames (s : Source) (side : Side) (g : Nat) : Bool → List (Option KSide)
  | false => below s side (.glyph g)
  | true => [(s.groupOf side g).map .group]

theorem mem_sideNames {s : Source} {side : Side} {g : Nat} {c : Bool} {k : KSide} (h : some k ∈ sideNames s side g c) :
    k.stands s side g ∧ (c = true → k.isGlyph = false) := by
  cases c <;> simp only [sideNames, below, List.mem_cons, List.not_mem_nil, or_false, Option.some.injEq] at h
  · rcases h with rfl | h
    · exact ⟨rfl, nofun⟩
    · obtain ⟨G, hG, rfl⟩ := Option.map_eq_some_iff.mp h.symm
      exact ⟨hG, nofun⟩
  · obtain ⟨G, hG, rfl⟩ := Option.map_eq_some_iff.mp h.symm
    exact ⟨hG, fun _ => rfl⟩

/-- The UFO lookup of the glyph pair (g₁, g₂) in `s`, entered at the level (c₁, c₂), `true` meaning that the side starts at
    the group: (false, false) is the whole lookup, (true, false) is (group₁, glyph) → (group₁, group₂) → 0, (true, true) is
    (group₁, group₂) → 0.  It is what a pair emitted as glyph or class on each side has to carry for (g₁, g₂). -/
def cascade (s : Source) (c₁ c₂ : Bool) (g₁ g₂ : Nat) : Rat :=
  firstHit s.kerns (keyPairs (sideNames s .first g₁ c₁) (sideNames s .second g₂ c₂))

theorem ufoLookup_eq_cascade {s : Source} (hv : s.valid = true) (g₁ g₂ : Nat) :
    ufoLookup s g₁ g₂ = cascade s false false g₁ g₂ := by
  simp only [Source.valid, Bool.and_eq_true] at hv
  have e₁ : s.groupOf .first g₁ = groupOfFirst s.groups1 g₁ := groupOfLast_eq_first hv.1 g₁
  have e₂ : s.groupOf .second g₂ = groupOfFirst s.groups2 g₂ := groupOfLast_eq_first hv.2 g₂
  simp only [cascade, sideNames, below, e₁, e₂]
  rfl

theorem lookup_eq_ufoLookup {s : Source} (hv : s.valid = true) (g₁ g₂ : Nat) :
    s.lookup (.glyph g₁, .glyph g₂) = ufoLookup s g₁ g₂ := by
  rw [lookup_eq, ufoLookup_eq_cascade hv]
  rfl

theorem below_of_stands {s : Source} {side : Side} {k : KSide} {g : Nat} (h : k.stands s side g) :
    below s side k = sideNames s side g (!k.isGlyph) := by
  cases k with
  | glyph a => cases h; rfl
  | group G => exact congrArg (fun o => [o.map KSide.group]) (Eq.symm h)

theorem lookup_eq_cascade {s : Source} (k : Key) {g₁ g₂ : Nat} (h₁ : k.1.stands s .first g₁)
    (h₂ : k.2.stands s .second g₂) : s.lookup k = cascade s (!k.1.isGlyph) (!k.2.isGlyph) g₁ g₂ := by
  rw [cascade, ← below_of_stands h₁, ← below_of_stands h₂]
  exact lookup_eq s k

theorem cascade_cases (s : Source) (c₁ c₂ : Bool) (g₁ g₂ : Nat) :
    cascade s c₁ c₂ g₁ g₂ = 0 ∨ ∃ k v, k.1.stands s .first g₁ ∧ k.2.stands s .second g₂ ∧
      (c₁ = true → k.1.isGlyph = false) ∧ (c₂ = true → k.2.isGlyph = false) ∧
      s.kerns.lookup k = some v ∧ cascade s c₁ c₂ g₁ g₂ = v := by
  refine (firstHit_cases s.kerns _).imp_right fun ⟨k, v, hk, hl, hv⟩ => ?_
  obtain ⟨a, ha, b, hb, hab⟩ := mem_keyPairs.mp hk
  obtain ⟨rfl, rfl⟩ := optPair_eq_some.mp hab
  exact ⟨k, v, (mem_sideNames ha).1, (mem_sideNames hb).1, (mem_sideNames ha).2, (mem_sideNames hb).2, hl, hv⟩

/-- The level at which `cascade s c₁ c₂` is entered: 0, 1 for (group₁, glyph), 2 for (group₁, group₂). -/
def level (c₁ c₂ : Bool) : Nat := if c₁ then (if c₂ then 2 else 1) else 0

/-- The level of the cascade of a key's own level (`lookup_eq_cascade`), which is the level of the pairs it is emitted as:
    group/group 2, group/glyph 1, glyph/glyph 0, and 0 as well for glyph/group (emitted glyph by glyph). -/
def Key.level (k : Key) : Nat := Kern.level (!k.1.isGlyph) (!k.2.isGlyph)

theorem level_le_two (c₁ c₂ : Bool) : level c₁ c₂ ≤ 2 := by cases c₁ <;> cases c₂ <;> decide

theorem cascade_eq_of_void {s : Source} {g₁ g₂ : Nat} (c₁ c₂ : Bool) (hc : c₁ = false → c₂ = false)
    (h : ∀ k : Key, k.1.stands s .first g₁ → k.2.stands s .second g₂ → k.level < level c₁ c₂ →
      s.kerns.lookup k = none) :
    cascade s false false g₁ g₂ = cascade s c₁ c₂ g₁ g₂ := by
  cases c₁
  · rw [hc rfl]
  · -- the row of the glyph g₁: (g₁, g₂) and (g₁, group₂)
    have row : cascade s false false g₁ g₂ = cascade s true false g₁ g₂ := by
      refine firstHit_append_skip fun k hk => ?_
      obtain ⟨b, hb, hab⟩ := List.mem_map.mp hk
      obtain ⟨h₁, h₂⟩ := optPair_eq_some.mp hab
      refine h k (Option.some.inj h₁ ▸ rfl) (mem_sideNames (h₂ ▸ hb)).1 ?_
      rw [Key.level, ← Option.some.inj h₁]
      cases c₂ <;> exact Nat.zero_lt_succ _
    cases c₂
    · exact row
    · -- then (group₁, g₂)
      refine row.trans (firstHit_cons_skip fun k hk => ?_)
      obtain ⟨h₁, h₂⟩ := optPair_eq_some.mp hk
      have h₁' := mem_sideNames (s := s) (side := .first) (g := g₁) (c := true) (List.mem_singleton.mpr h₁.symm)
      refine h k h₁'.1 (Option.some.inj h₂ ▸ rfl) ?_
      rw [Key.level, h₁'.2 rfl, ← Option.some.inj h₂]
      exact Nat.lt_succ_self 1

theorem covers_cls (c : List Nat) (g : Nat) : (Emit.cls c).covers g = true ↔ g ∈ c := by
  simp [Emit.covers]

theorem covers_glyph (a g : Nat) : (Emit.glyph a).covers g = true ↔ a = g := by
  simp [Emit.covers]

/-- the lookup built from the pair applies it to the glyph pair (g₁, g₂) -/
def EPair.Covers (p : EPair) (g₁ g₂ : Nat) : Prop := p.e₁.covers g₁ = true ∧ p.e₂.covers g₂ = true

/-- the pair survives `split_kerns` (kern.rs:1227): it is not a class/class pair whose rounded values are all zero -/
def EPair.Live (p : EPair) : Prop := (p.isCC && p.allZero) = false

/-- the level of the cascade an emitted pair stands at: glyph/glyph 0, class/glyph 1, class/class 2 -/
def EPair.level (p : EPair) : Nat := Kern.level p.e₁.isCls p.e₂.isCls

theorem isCC_iff_level (p : EPair) : p.isCC = true ↔ p.level = 2 := by
  unfold EPair.isCC EPair.level
  cases p.e₁.isCls <;> cases p.e₂.isCls <;> decide

theorem live_of_not_isCC {p : EPair} (h : p.isCC = false) : p.Live := by
  rw [EPair.Live, h]; rfl

/-- the classes on the side `e` (`EPair.e₁` or `EPair.e₂`) are pairwise equal or disjoint -/
def CompatOn (l : List EPair) (e : EPair → Emit) : Prop :=
  ∀ p ∈ l, ∀ q ∈ l, ∀ c c', e p = .cls c → e q = .cls c' → ∀ g, g ∈ c → g ∈ c' → c = c'

/-- compatible classes: `CompatOn` both sides, written out (`compat_iff`) -/
def Compat (l : List EPair) : Prop :=
  (∀ p ∈ l, ∀ q ∈ l, ∀ c c', p.e₁ = .cls c → q.e₁ = .cls c' → ∀ g, g ∈ c → g ∈ c' → c = c') ∧
  (∀ p ∈ l, ∀ q ∈ l, ∀ c c', p.e₂ = .cls c → q.e₂ = .cls c' → ∀ g, g ∈ c → g ∈ c' → c = c')

theorem compat_iff (l : List EPair) : Compat l ↔ CompatOn l (·.e₁) ∧ CompatOn l (·.e₂) := Iff.rfl

theorem Compat.subset {l l' : List EPair} (h : Compat l) (hsub : ∀ p ∈ l', p ∈ l) : Compat l' :=
  ⟨fun p hp q hq => h.1 p (hsub p hp) q (hsub q hq), fun p hp q hq => h.2 p (hsub p hp) q (hsub q hq)⟩

end Fontc.Kern
