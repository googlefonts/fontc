/-
  Concrete witnesses for C16, evaluated by the kernel (`decide +kernel`: no extra axioms) where they are small; their
  hypotheses are discharged through Boolean checkers (`rulesOkB_sound`, `offLowerBoundsB_sound`, `onTouchB_sound`).
  The 65-rule run is too long for the kernel (the overlay loop compares rationals, each comparison a computation of
  its own there): its box map is derived in closed form (`manyRules_loop`), and only the sort of the ranks and the
  search for the probe are evaluated.
-/
import FontcProofs.FeatVarsMerge
import FontcProofs.FeatVarsRank

namespace Fontc.FeatVars

/-- `BoxOk`, decided -/
def boxOkB (b : NBox) : Bool :=
  b.all fun e => match e with
    | some (lo, hi) => decide (-1 ≤ lo) && decide (hi ≤ 1)
    | none => true

theorem boxOkB_sound {b : NBox} (h : boxOkB b = true) : BoxOk b := by
  intro lo hi hm
  have := List.all_eq_true.1 h _ hm
  simpa using this

/-- `RulesOk`, decided -/
def rulesOkB (n : Nat) (cs : List Rule) : Bool :=
  cs.all fun r => !r.1.isEmpty && r.1.all fun c => c.length == n && boxOkB c

theorem rulesOkB_sound {n : Nat} {cs : List Rule} (h : rulesOkB n cs = true) : RulesOk n cs := by
  constructor
  · intro r hr hempty
    have := List.all_eq_true.1 h r hr
    simp [hempty] at this
  · intro r hr c hc
    have := List.all_eq_true.1 h r hr
    simp only [Bool.and_eq_true] at this
    have := List.all_eq_true.1 this.2 c hc
    simp only [Bool.and_eq_true, beq_iff_eq] at this
    exact ⟨this.1, boxOkB_sound this.2⟩

/-- no coordinate of `p` is a lower bound of any box (more than enough to be off every touching boundary) -/
def offLowerBoundsB (boxes : List NBox) (p : Point) : Bool :=
  p.zipIdx.all fun (x, k) => boxes.all fun b =>
    match b[k]? with
    | some (some (lo, _)) => !(lo == x)
    | _ => true

theorem offLowerBoundsB_sound {boxes : List NBox} {p : Point} (h : offLowerBoundsB boxes p = true) :
    ¬ OnTouchingBoundary boxes p := by
  rintro ⟨k, x, hk, ⟨b, hb, hi, hbk⟩, _⟩
  have hmem : (x, k) ∈ p.zipIdx := by
    rw [List.mem_zipIdx_iff_getElem?]; simpa using hk
  have := List.all_eq_true.1 h _ hmem
  have := List.all_eq_true.1 this b hb
  simp [hbk] at this

/-- `OnTouchingBoundary`, decided: some coordinate of `p` is a lower bound of one box and an upper bound of one -/
def onTouchB (boxes : List NBox) (p : Point) : Bool :=
  p.zipIdx.any fun (x, k) =>
    (boxes.any fun b => match b[k]? with | some (some (lo, _)) => lo == x | _ => false) &&
    (boxes.any fun b => match b[k]? with | some (some (_, hi)) => hi == x | _ => false)

theorem onTouchB_sound {boxes : List NBox} {p : Point} (h : onTouchB boxes p = true) :
    OnTouchingBoundary boxes p := by
  obtain ⟨⟨x, k⟩, hmem, hx⟩ := List.any_eq_true.1 h
  simp only [Bool.and_eq_true] at hx
  obtain ⟨b1, hb1, h1⟩ := List.any_eq_true.1 hx.1
  obtain ⟨b2, hb2, h2⟩ := List.any_eq_true.1 hx.2
  have hk : p[k]? = some x := by
    rw [List.mem_zipIdx_iff_getElem?] at hmem; simpa using hmem
  refine ⟨k, x, hk, ⟨b1, hb1, ?_⟩, ⟨b2, hb2, ?_⟩⟩
  · split at h1
    · rename_i lo hi heq
      have : lo = x := by simpa using h1
      subst this
      exact ⟨hi, heq⟩
    · cases h1
  · split at h2
    · rename_i lo hi heq
      have : hi = x := by simpa using h2
      subst this
      exact ⟨lo, heq⟩
    · cases h2

section
variable {ρ : Type} (ops : RankOps ρ)

/-- or-ing into the zero rank gives the other rank itself, not merely one of the same value -/
structure ZeroNeutral : Prop where
  orAssign_zero : ∀ r, ops.orAssign ops.zero r = r
  or_zero : ∀ r, ops.or ops.zero r = r

variable {ops}

theorem foldl_stepBox_disjoint (hz : ZeroNeutral ops) {cur : ρ} {c : NBox} {rest acc : BoxMap ρ}
    (hd : ∀ e ∈ rest, overlayOnto c e.1 = (none, some e.1))
    (hnd : (acc.map (·.1) ++ rest.map (·.1)).Nodup) :
    rest.foldl (fun acc x => [c].foldl (stepBox ops cur x.1 x.2) acc) acc = acc ++ rest := by
  induction rest generalizing acc with
  | nil => simp
  | cons e rest ih =>
    have hfresh : e.1 ∉ acc.map (·.1) := by
      intro hmem
      exact (List.nodup_append.1 hnd).2.2 _ hmem _ (by simp) rfl
    have hstep : [c].foldl (stepBox ops cur e.1 e.2) acc = acc ++ [e] := by
      simp only [List.foldl_cons, List.foldl_nil, stepBox, hd e (by simp), boxmapAdd,
        imUpsert_of_fresh hfresh, hz.orAssign_zero]
    rw [List.foldl_cons, hstep, ih (fun e' he' => hd e' (List.mem_cons_of_mem _ he')) (by simpa using hnd)]
    simp

theorem foldl_stepBox_fresh (hz : ZeroNeutral ops) (n i : Nat) (c : NBox) (rest : BoxMap ρ)
    (hc : overlayOnto c (emptyBox n) = (some c, some (emptyBox n)))
    (hd : ∀ e ∈ rest, overlayOnto c e.1 = (none, some e.1))
    (hnd : (emptyBox n :: c :: rest.map (·.1)).Nodup) :
    ((emptyBox n, ops.zero) :: rest).foldl
        (fun acc x => [c].foldl (stepBox ops (ops.single i) x.1 x.2) acc) (initMap ops n)
      = (emptyBox n, ops.zero) :: (c, ops.single i) :: rest := by
  have hne : emptyBox n ≠ c := by
    intro h; simp [h] at hnd
  have h0 : [c].foldl (stepBox ops (ops.single i) (emptyBox n) ops.zero) (initMap ops n)
      = [(emptyBox n, ops.zero), (c, ops.single i)] := by
    simp [stepBox, hc, boxmapAdd, initMap, imUpsert, hne, hz.orAssign_zero, hz.or_zero]
  rw [List.foldl_cons, h0, foldl_stepBox_disjoint hz hd (by simpa using hnd)]
  rfl

end

theorem orFront_self (x : WRank) : orFront x x = x := by
  induction x with
  | nil => rfl
  | cons w x ih => simp [orFront, ih]

theorem wordOps_zeroNeutral : ZeroNeutral wordOps where
  orAssign_zero r := by show WRank.bitorAssign [] r = r; simp [WRank.bitorAssign, orFront_self]
  or_zero r := by show WRank.bitor [] r = r; simp [WRank.bitor, orFront_nil_right]

/-- ≥ 65 rules: the word-vector rank breaks the sort order (DESIGN §7 F5).
    Two axes (0 = wdth, 1 = wght).
    rule 0: wght ∈ [1/2, 1];  `k` filler rules, filler `j`: wght ∈ [-1 + j/64, -1 + (j+1)/64];
    last rule: wdth ∈ [1/2, 1] × wght ∈ [1/4, 3/4].  Probe: wdth 0.7, wght 0.6 — inside rule 0 and the last rule.
    The harness runs fontc on exactly this list (`vharness c16 directed --from 5 --n 1`). -/
def manyRules (k : Nat) : List Rule :=
  [([[none, some (1/2, 1)]], [(0, 1000)])] ++
  ((List.range k).map fun (j : Nat) =>
    (([[none, some ((-1 + (j : Rat) / 64, -1 + ((j : Rat) + 1) / 64) : Range)]], [(300 + j, 2000 + j)]) : Rule)) ++
  [([[some (1/2, 1), some (1/4, 3/4)]], [(1, 1001)])]

/-- the probe of `manyRules`: wdth 0.7, wght 0.6 -/
def probe : Point := [7/10, 3/5]

theorem manyRules_length : (manyRules 63).length = 65 := by decide +kernel

theorem manyRules_ok : RulesOk 2 (manyRules 63) := rulesOkB_sound (by decide +kernel)

theorem probe_off_boundary : ¬ OnTouchingBoundary ((manyRules 63).flatMap (·.1)) probe :=
  offLowerBoundsB_sound (by decide +kernel)

theorem manyRules_spec : activeSubs (manyRules 63) probe = [[(0, 1000)], [(1, 1001)]] := by
  decide +kernel

/-- the box of filler `j` of `manyRules` -/
def fillerBox (j : Nat) : NBox := [none, some ((-1 + (j : Rat) / 64, -1 + ((j : Rat) + 1) / 64) : Range)]
/-- the box of rule 0 of `manyRules` -/
def boxFirst : NBox := [none, some (1/2, 1)]
/-- the box of the last rule of `manyRules` -/
def boxLast : NBox := [some (1/2, 1), some (1/4, 3/4)]

theorem manyRules_regions (k : Nat) :
    (manyRules k).map (·.1) = ([boxFirst] :: (List.range k).map fun j => [fillerBox j]) ++ [[boxLast]] := by
  simp [manyRules, fillerBox, boxFirst, boxLast]

/-- the entries of the fillers, latest first -/
def fillerEntries (k : Nat) : BoxMap WRank := (List.range k).reverse.map fun j => (fillerBox j, WRank.new (j + 1))

theorem fillerEntries_succ (k : Nat) :
    fillerEntries (k + 1) = (fillerBox k, WRank.new (k + 1)) :: fillerEntries k := by
  simp [fillerEntries, List.range_succ]

theorem mem_fillerEntries {k : Nat} {e : NBox × WRank} (h : e ∈ fillerEntries k) : ∃ j, j < k ∧ e.1 = fillerBox j := by
  simp only [fillerEntries, List.mem_map, List.mem_reverse, List.mem_range] at h
  obtain ⟨j, hj, rfl⟩ := h
  exact ⟨j, hj, rfl⟩

theorem filler_below_filler {j k : Nat} (h : j < k) :
    overlayOnto (fillerBox k) (fillerBox j) = (none, some (fillerBox j)) ∧ fillerBox k ≠ fillerBox j := by
  have hjk : (j : Rat) + 1 ≤ k := by exact_mod_cast h
  constructor
  · apply overlayOnto_of_commonEmpty
    have : -1 + ((j : Rat) + 1) / 64 ≤ -1 + (k : Rat) / 64 := by grind
    simp [fillerBox, commonEmpty_of_le (Or.inr this)]
  · intro he
    simp [fillerBox] at he
    grind

theorem filler_below_boxFirst {k : Nat} (h : k < 96) :
    overlayOnto (fillerBox k) boxFirst = (none, some boxFirst) ∧ fillerBox k ≠ boxFirst := by
  have hk : (k : Rat) + 1 ≤ 96 := by exact_mod_cast h
  constructor
  · apply overlayOnto_of_commonEmpty
    have : -1 + ((k : Rat) + 1) / 64 ≤ 1 / 2 := by grind
    simp [fillerBox, boxFirst, commonEmpty_of_le (Or.inl this)]
  · intro he
    simp [fillerBox, boxFirst] at he
    grind

/-- the map after rule 0 and `k` fillers, without its first entry (the all-axes box) -/
def fillerRest (k : Nat) : BoxMap WRank := fillerEntries k ++ [(boxFirst, WRank.new 0)]

theorem filler_fresh {k : Nat} (h : k < 96) {e : NBox × WRank} (he : e ∈ fillerRest k) :
    overlayOnto (fillerBox k) e.1 = (none, some e.1) ∧ fillerBox k ≠ e.1 := by
  rcases List.mem_append.1 he with he | he
  · obtain ⟨j, hj, hej⟩ := mem_fillerEntries he
    rw [hej]; exact filler_below_filler hj
  · rw [List.mem_singleton.1 he]; exact filler_below_boxFirst h

theorem fillerRest_nodup (k : Nat) (h : k ≤ 96) : (emptyBox 2 :: (fillerRest k).map (·.1)).Nodup := by
  induction k with
  | zero => simp [fillerRest, fillerEntries, boxFirst, emptyBox]
  | succ k ih =>
    have ih := ih (by omega)
    have hfresh : fillerBox k ∉ (fillerRest k).map (·.1) := by
      intro hm
      obtain ⟨e, he, hek⟩ := List.mem_map.1 hm
      exact (filler_fresh (by omega) he).2 hek.symm
    have h0 : emptyBox 2 ≠ fillerBox k := by simp [emptyBox, fillerBox]
    simp only [fillerRest, fillerEntries_succ, List.cons_append, List.map_cons, List.nodup_cons, List.mem_cons,
      not_or] at ih ⊢
    exact ⟨⟨h0, ih.1⟩, hfresh, ih.2⟩

theorem fillers_loop {k : Nat} (h : k ≤ 96) :
    overlayLoop wordOps 2 ([boxFirst] :: (List.range k).map fun j => [fillerBox j]) 0 (initMap wordOps 2)
      = (emptyBox 2, wordOps.zero) :: fillerRest k := by
  induction k with
  | zero => decide +kernel
  | succ k ih =>
    have hnd := fillerRest_nodup (k + 1) h
    simp only [fillerRest, fillerEntries_succ, List.cons_append, List.map_cons] at hnd
    rw [List.range_succ, List.map_append, ← List.cons_append, overlayLoop_append, ih (by omega)]
    simp only [List.map_cons, List.map_nil, overlayLoop, stepRule_eq_foldl]
    refine (foldl_stepBox_fresh wordOps_zeroNeutral 2 _ (fillerBox k) (fillerRest k) rfl
      (fun e he => (filler_fresh (by omega) he).1) hnd).trans ?_
    simp [fillerRest, fillerEntries_succ, wordOps]

/-- `boxLast` ∩ `boxFirst` -/
def boxBoth : NBox := [some (1/2, 1), some (1/2, 3/4)]

theorem boxLast_fresh {k : Nat} (h : k ≤ 80) {e : NBox × WRank} (he : e ∈ fillerEntries k) :
    overlayOnto boxLast e.1 = (none, some e.1) := by
  obtain ⟨j, hj, hej⟩ := mem_fillerEntries he
  have hk : (j : Rat) + 1 ≤ 80 := by exact_mod_cast (by omega : j + 1 ≤ 80)
  have : -1 + ((j : Rat) + 1) / 64 ≤ 1 / 4 := by grind
  rw [hej]
  apply overlayOnto_of_commonEmpty
  simp [fillerBox, boxLast, commonEmpty_of_le (Or.inr this), commonEmpty_none_right]

/-- the map after all rules of `manyRules k`: the last rule has an entry of its own, and has split `boxFirst` -/
def finalMap (k : Nat) : BoxMap WRank :=
  (emptyBox 2, wordOps.zero) :: (boxLast, WRank.new (k + 1)) :: fillerEntries k ++
    [(boxBoth, WRank.bitor (WRank.new 0) (WRank.new (k + 1))), (boxFirst, WRank.new 0)]

theorem manyRules_loop {k : Nat} (h : k ≤ 80) :
    overlayLoop wordOps 2 ((manyRules k).map (·.1)) 0 (initMap wordOps 2) = finalMap k := by
  have hnd := fillerRest_nodup k (by omega)
  have hboth : overlayOnto boxLast boxFirst = (some boxBoth, some boxFirst) := by decide +kernel
  have hZ : boxLast ≠ boxBoth := by decide +kernel
  rw [manyRules_regions, overlayLoop_append, fillers_loop (by omega)]
  simp only [overlayLoop, stepRule_eq_foldl, fillerRest, ← List.cons_append, List.foldl_append]
  -- the last rule against the all-axes box and the fillers, none of which it meets: an entry of its own
  rw [foldl_stepBox_fresh wordOps_zeroNeutral 2 _ boxLast (fillerEntries k) rfl (fun e he => boxLast_fresh h he) ?nd]
  case nd =>
    simp only [fillerRest, List.map_append, List.nodup_cons, List.mem_cons, List.mem_append, not_or] at hnd ⊢
    refine ⟨⟨by simp [emptyBox, boxLast], hnd.1.1⟩, ?_, (List.nodup_append.1 hnd.2).1⟩
    intro hm
    obtain ⟨e, he, hek⟩ := List.mem_map.1 hm
    obtain ⟨j, _, hej⟩ := mem_fillerEntries he
    rw [hej] at hek
    simp [fillerBox, boxLast] at hek
  have hkey : ∀ e ∈ fillerEntries k, boxBoth ≠ e.1 ∧ boxFirst ≠ e.1 := by
    intro e he
    obtain ⟨j, hj, hej⟩ := mem_fillerEntries he
    rw [hej]
    exact ⟨by simp [boxBoth, fillerBox], Ne.symm (filler_below_boxFirst (by omega)).2⟩
  -- what is left is the old entry of `boxFirst`, which `boxLast` meets: intersection and remainder are both new keys
  simp only [List.foldl_cons, List.foldl_nil, stepBox, hboth, boxmapAdd]
  rw [imUpsert_of_fresh (k := boxBoth) ?f1, imUpsert_of_fresh (k := boxFirst) ?f2]
  case f1 =>
    simp only [List.map_cons, List.mem_cons, List.mem_map, not_or, not_exists, not_and]
    exact ⟨by simp [boxBoth, emptyBox], hZ.symm, fun e he => Ne.symm (hkey e he).1⟩
  case f2 =>
    simp only [List.map_cons, List.map_append, List.mem_cons, List.mem_append, List.mem_map, not_or, not_exists, not_and]
    exact ⟨⟨by simp [boxFirst, emptyBox], by simp [boxFirst, boxLast], fun e he => Ne.symm (hkey e he).2⟩, by simp [boxFirst, boxBoth]⟩
  simp only [wordOps_zeroNeutral.orAssign_zero]
  simp [finalMap, wordOps]

theorem manyRules_sorted_first :
    ((sortedBoxes wordOps (finalMap 63)).filter fun e => !wordOps.isZero e.2).find? (fun e => contains e.1 probe)
      = some (boxFirst, WRank.new 0) := by
  decide +kernel

theorem manyRules_extract :
    extract wordOps ((manyRules 63).map (·.2)) (wordOps.bound (WRank.new 0)) (WRank.new 0) 0 = some [[(0, 1000)]] := by
  decide +kernel

theorem manyRules_words {out : List (NBox × List Subs)} (h : overlayCore wordOps 2 (manyRules 63) = some out) :
    firstMatch out probe = some [[(0, 1000)]] := by
  unfold overlayCore at h
  rw [manyRules_loop (by omega)] at h
  rw [firstMatch_of_mapM h, manyRules_sorted_first]
  exact manyRules_extract

/-- the touching boundary: two rules sharing the face wght = 1/2 -/
def touchRules : List Rule :=
  [([[some (0, 1/2)]], [(1, 11)]), ([[some (1/2, 1)]], [(2, 12)])]

theorem touchRules_ok : RulesOk 1 touchRules := rulesOkB_sound (by decide +kernel)

theorem touch_on_boundary : OnTouchingBoundary (touchRules.flatMap (·.1)) [1/2] :=
  onTouchB_sound (by decide +kernel)

theorem touch_off_boundary : ¬ OnTouchingBoundary (touchRules.flatMap (·.1)) [1/4] :=
  offLowerBoundsB_sound (by decide +kernel)

theorem touch_first_match :
    activeSubs touchRules [1/2] = [[(1, 11)], [(2, 12)]] ∧
    (firstMatch ((overlayCore natOps 1 touchRules).getD []) [1/2]).getD [] = [[(2, 12)]] := by
  decide +kernel

/-- precedence: rules A, B, C where A and C have the same region and A, B both substitute glyph 1.
    `merge_same_region_rules` files A+C at C's position, i.e. after B. -/
def precRules : List Rule :=
  [ ([[some (0, 1)]],     [(1, 11)]),      -- A: glyph 1 → 11 on [0, 1]
    ([[some (-1/2, 1/2)]], [(1, 12)]),      -- B: glyph 1 → 12 on [-1/2, 1/2]
    ([[some (0, 1)]],     [(2, 13)]) ]     -- C: glyph 2 → 13 on [0, 1]

theorem precRules_ok : RulesOk 1 precRules := rulesOkB_sound (by decide +kernel)

theorem prec_off_boundary : ¬ OnTouchingBoundary (precRules.flatMap (·.1)) [1/4] :=
  offLowerBoundsB_sound (by decide +kernel)

theorem prec_first_match :
    effective (activeSubs precRules [1/4]) 1 = some 11 ∧
    (firstMatch ((overlayFeatureVariations natOps 1 precRules).getD []) [1/4]).getD [] = [[(1, 12)], [(1, 11), (2, 13)]] ∧
    effective ((firstMatch ((overlayFeatureVariations natOps 1 precRules).getD []) [1/4]).getD []) 1 = some 12 := by
  decide +kernel

/-- a rule without any condition set wipes the rules before it -/
def emptyRegionRules : List Rule :=
  [ ([[some (0, 1)]], [(1, 11)]),
    ([],             [(2, 12)]) ]

end Fontc.FeatVars
