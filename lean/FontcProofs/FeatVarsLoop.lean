/-
  The overlay loop of `overlay_feature_variations` and its invariant, for the natural-number rank.  The box map is an
  IndexMap that groups what is added to it by box and ORs the ranks: one iteration of the outer loop is `initMap` plus a
  list of adds (`stepRule_eq_adds`), and the invariant of a grouping fold (`groupInv_fold`) says what the map then holds.
-/
import FontcProofs.FeatVarsBox

namespace Fontc.FeatVars

section
variable {κ ν : Type} [BEq κ] [LawfulBEq κ]

theorem of_mem_imUpsert {k : κ} {ins : ν} {upd : ν → ν} {m : List (κ × ν)} {e : κ × ν}
    (h : e ∈ imUpsert k ins upd m) :
    e ∈ m ∨ (e.1 = k ∧ (e.2 = ins ∨ ∃ old, (k, old) ∈ m ∧ e.2 = upd old)) := by
  induction m with
  | nil =>
    simp [imUpsert] at h
    subst h
    exact Or.inr ⟨rfl, Or.inl rfl⟩
  | cons x m ih =>
    obtain ⟨k', v⟩ := x
    simp only [imUpsert] at h
    split at h
    · next hk =>
      cases eq_of_beq hk
      rcases List.mem_cons.1 h with h | h
      · subst h; exact Or.inr ⟨rfl, Or.inr ⟨v, by simp, rfl⟩⟩
      · exact Or.inl (List.mem_cons_of_mem _ h)
    · rcases List.mem_cons.1 h with h | h
      · subst h; exact Or.inl (by simp)
      · rcases ih h with h | ⟨h1, h2⟩
        · exact Or.inl (List.mem_cons_of_mem _ h)
        · refine Or.inr ⟨h1, ?_⟩
          rcases h2 with h2 | ⟨old, ho, h2⟩
          · exact Or.inl h2
          · exact Or.inr ⟨old, List.mem_cons_of_mem _ ho, h2⟩

theorem imUpsert_keeps {k : κ} {ins : ν} {upd : ν → ν} {m : List (κ × ν)} {e : κ × ν} (h : e ∈ m) :
    e ∈ imUpsert k ins upd m ∨ (e.1 = k ∧ (k, upd e.2) ∈ imUpsert k ins upd m) := by
  induction m with
  | nil => simp at h
  | cons x m ih =>
    obtain ⟨k', v⟩ := x
    simp only [imUpsert]
    split
    · next hk =>
      cases eq_of_beq hk
      rcases List.mem_cons.1 h with h | h
      · subst h; exact Or.inr ⟨rfl, by simp⟩
      · exact Or.inl (List.mem_cons_of_mem _ h)
    · rcases List.mem_cons.1 h with h | h
      · subst h; exact Or.inl (by simp)
      · rcases ih h with h | ⟨h1, h2⟩
        · exact Or.inl (List.mem_cons_of_mem _ h)
        · exact Or.inr ⟨h1, List.mem_cons_of_mem _ h2⟩

theorem imUpsert_has {k : κ} {ins : ν} {upd : ν → ν} {m : List (κ × ν)} :
    ∃ v, (k, v) ∈ imUpsert k ins upd m ∧ (v = ins ∨ ∃ old, (k, old) ∈ m ∧ v = upd old) := by
  induction m with
  | nil => exact ⟨ins, by simp [imUpsert], Or.inl rfl⟩
  | cons x m ih =>
    obtain ⟨k', v⟩ := x
    simp only [imUpsert]
    split
    · next hk =>
      cases eq_of_beq hk
      exact ⟨upd v, by simp, Or.inr ⟨v, by simp, rfl⟩⟩
    · obtain ⟨v', h1, h2⟩ := ih
      refine ⟨v', List.mem_cons_of_mem _ h1, ?_⟩
      rcases h2 with h2 | ⟨old, ho, h2⟩
      · exact Or.inl h2
      · exact Or.inr ⟨old, List.mem_cons_of_mem _ ho, h2⟩

theorem imUpsert_of_fresh {k : κ} {ins : ν} {upd : ν → ν} {m : List (κ × ν)} (h : k ∉ m.map (·.1)) :
    imUpsert k ins upd m = m ++ [(k, ins)] := by
  induction m with
  | nil => rfl
  | cons x m ih =>
    obtain ⟨k', v⟩ := x
    simp only [List.map_cons, List.mem_cons, not_or] at h
    have : (k' == k) = false := beq_eq_false_iff_ne.2 (Ne.symm h.1)
    simp only [imUpsert, this, Bool.false_eq_true, if_false, List.cons_append, ih h.2]

omit [LawfulBEq κ] in
theorem imUpsert_map {ν' : Type} {g : ν → ν'} {k : κ} {ins : ν} {upd : ν → ν} {ins' : ν'} {upd' : ν' → ν'}
    {m : List (κ × ν)} (hins : g ins = ins') (hupd : ∀ e ∈ m, g (upd e.2) = upd' (g e.2)) :
    (imUpsert k ins upd m).map (fun e => (e.1, g e.2)) = imUpsert k ins' upd' (m.map fun e => (e.1, g e.2)) := by
  induction m with
  | nil => simp [imUpsert, hins]
  | cons x m ih =>
    have ih := ih fun e he => hupd e (List.mem_cons_of_mem _ he)
    simp only [imUpsert, List.map_cons]
    split
    · simp [hupd x List.mem_cons_self]
    · simp [ih]
end

section
variable {α κ ν ι : Type} [BEq κ] [LawfulBEq κ]
variable (key : α → κ) (val : α → ν) (comb : ν → ν → ν) (Has : ν → ι → Prop) (Cov : ν → ν → Prop)

/-- Invariant of a fold that groups items by key in an IndexMap, combining the values of equal keys: whatever an
    entry has (`Has`) comes from an item with its key; every item is covered (`Cov`) by the entry of its key; every
    entry covers some item with its key. -/
def GroupInv (m : List (κ × ν)) (done : List α) : Prop :=
  (∀ e ∈ m, ∀ i, Has e.2 i → ∃ r ∈ done, key r = e.1 ∧ Has (val r) i) ∧
  (∀ r ∈ done, ∃ v, (key r, v) ∈ m ∧ Cov (val r) v) ∧
  (∀ e ∈ m, ∃ r ∈ done, key r = e.1 ∧ Cov (val r) e.2)

variable {key val comb Has Cov}

theorem groupInv_fold (rules : List α)
    (hHas : ∀ r ∈ rules, ∀ old i, Has (comb old (val r)) i → Has old i ∨ Has (val r) i)
    (hmono : ∀ a old v, Cov a old → Cov a (comb old v)) (hnew : ∀ old v, Cov v (comb old v))
    (hrefl : ∀ v, Cov v v) :
    ∀ (m : List (κ × ν)) (done : List α), GroupInv key val Has Cov m done →
      GroupInv key val Has Cov
        (rules.foldl (fun m x => imUpsert (key x) (val x) (fun old => comb old (val x)) m) m) (done ++ rules) := by
  induction rules with
  | nil => intro m done h; simpa using h
  | cons r rules ih =>
    intro m done ⟨h1, h2, h3⟩
    have hstep : GroupInv key val Has Cov (imUpsert (key r) (val r) (fun old => comb old (val r)) m) (done ++ [r]) := by
      refine ⟨fun e he i hi => ?_, fun r' hr' => ?_, fun e he => ?_⟩
      · rcases of_mem_imUpsert he with he | ⟨hk, hv⟩
        · obtain ⟨r', hr', e1, e2⟩ := h1 e he i hi
          exact ⟨r', List.mem_append_left _ hr', e1, e2⟩
        · rcases hv with hv | ⟨old, ho, hv⟩
          · rw [hv] at hi; exact ⟨r, by simp, hk.symm, hi⟩
          · rw [hv] at hi
            rcases hHas r (by simp) old i hi with hi | hi
            · obtain ⟨r', hr', e1, e2⟩ := h1 _ ho i hi
              exact ⟨r', List.mem_append_left _ hr', by rw [e1, hk], e2⟩
            · exact ⟨r, by simp, hk.symm, hi⟩
      · rcases List.mem_append.1 hr' with hr' | hr'
        · obtain ⟨v, hv, hc⟩ := h2 r' hr'
          rcases imUpsert_keeps (k := key r) (ins := val r) (upd := fun old => comb old (val r)) hv with hk | ⟨hk1, hk2⟩
          · exact ⟨v, hk, hc⟩
          · exact ⟨comb v (val r), by rw [show key r' = key r from hk1]; exact hk2, hmono _ _ _ hc⟩
        · rw [List.mem_singleton.1 hr']
          obtain ⟨v, hv, hcase⟩ := imUpsert_has (k := key r) (ins := val r) (upd := fun old => comb old (val r)) (m := m)
          refine ⟨v, hv, ?_⟩
          rcases hcase with rfl | ⟨old, _, rfl⟩
          · exact hrefl _
          · exact hnew _ _
      · rcases of_mem_imUpsert he with he | ⟨hk, hv⟩
        · obtain ⟨r', hr', e1, e2⟩ := h3 e he
          exact ⟨r', List.mem_append_left _ hr', e1, e2⟩
        · refine ⟨r, by simp, hk.symm, ?_⟩
          rcases hv with hv | ⟨old, _, hv⟩
          · rw [hv]; exact hrefl _
          · rw [hv]; exact hnew _ _
    have := ih (fun r' hr' => hHas r' (List.mem_cons_of_mem _ hr')) _ _ hstep
    simpa using this
end

section
variable {ρ : Type} (ops : RankOps ρ)

theorem stepRule_eq_foldl (n : Nat) (m : BoxMap ρ) (i : Nat) (reg : Region) :
    stepRule ops n m i reg =
      m.foldl (fun acc x => reg.foldl (stepBox ops (ops.single i) x.1 x.2) acc) (initMap ops n) :=
  rfl

theorem overlayLoop_append (n : Nat) (rs rs' : List Region) (i : Nat) (m : BoxMap ρ) :
    overlayLoop ops n (rs ++ rs') i m = overlayLoop ops n rs' (i + rs.length) (overlayLoop ops n rs i m) := by
  induction rs generalizing i m with
  | nil => rfl
  | cons r rs ih =>
    simp only [List.cons_append, overlayLoop, ih, List.length_cons]
    congr 1
    omega

/-- what one `stepBox` adds to the map, in the order of the code -/
def stepAdds (cur : ρ) (box : NBox) (rank : ρ) (c : NBox) : List (NBox × ρ) :=
  ((overlayOnto c box).1.map fun i => (i, ops.or rank cur)).toList ++
    ((overlayOnto c box).2.map fun r => (r, rank)).toList

/-- all adds of one iteration of the outer loop, in the order the code makes them -/
def ruleAdds (m : BoxMap ρ) (i : Nat) (reg : Region) : List (NBox × ρ) :=
  m.flatMap fun e => reg.flatMap fun c => stepAdds ops (ops.single i) e.1 e.2 c

theorem stepRule_eq_adds (n : Nat) (m : BoxMap ρ) (i : Nat) (reg : Region) :
    stepRule ops n m i reg = (ruleAdds ops m i reg).foldl (fun a x => boxmapAdd ops a x.1 x.2) (initMap ops n) := by
  have hbox : ∀ cur box rank acc c, stepBox ops cur box rank acc c =
      (stepAdds ops cur box rank c).foldl (fun a x => boxmapAdd ops a x.1 x.2) acc := by
    intro cur box rank acc c
    unfold stepBox stepAdds
    rcases overlayOnto c box with ⟨_ | i, _ | r⟩ <;> rfl
  simp only [ruleAdds, List.foldl_flatMap, ← hbox]
  rfl

variable {ops}

theorem mem_ruleAdds {m : BoxMap ρ} {i : Nat} {reg : Region} {x : NBox × ρ} :
    x ∈ ruleAdds ops m i reg ↔ ∃ e ∈ m, ∃ c ∈ reg, x ∈ stepAdds ops (ops.single i) e.1 e.2 c := by
  simp only [ruleAdds, List.mem_flatMap]

theorem mem_stepAdds {cur : ρ} {box : NBox} {rank : ρ} {c : NBox} {x : NBox × ρ} :
    x ∈ stepAdds ops cur box rank c ↔
      ((overlayOnto c box).1 = some x.1 ∧ x.2 = ops.or rank cur) ∨ ((overlayOnto c box).2 = some x.1 ∧ x.2 = rank) := by
  obtain ⟨b, r⟩ := x
  simp only [stepAdds, List.mem_append, Option.mem_toList, Option.map_eq_some_iff, Prod.mk.injEq]
  constructor
  · rintro (⟨i, h, rfl, rfl⟩ | ⟨i, h, rfl, rfl⟩)
    · exact Or.inl ⟨h, rfl⟩
    · exact Or.inr ⟨h, rfl⟩
  · rintro (⟨h, rfl⟩ | ⟨h, rfl⟩)
    · exact Or.inl ⟨b, h, rfl, rfl⟩
    · exact Or.inr ⟨b, h, rfl, rfl⟩
end

/-- every set bit of the rank `a` is a rule number in `A` -/
def BitsIn (a : Nat) (A : Nat → Prop) : Prop := ∀ j, a.testBit j = true → A j

theorem built_spec (n : Nat) (adds : List (NBox × Nat)) :
    let m := adds.foldl (fun a x => boxmapAdd natOps a x.1 x.2) (initMap natOps n)
    (∀ e ∈ m, e.1 = emptyBox n ∨ ∃ x ∈ adds, x.1 = e.1) ∧
    (∀ e ∈ m, BitsIn e.2 fun j => ∃ x ∈ adds, x.1 = e.1 ∧ x.2.testBit j = true) ∧
    (∀ x ∈ adds, ∃ v, (x.1, v) ∈ m ∧ BitsIn x.2 fun j => v.testBit j = true) := by
  have hadd : (fun (a : BoxMap Nat) (x : NBox × Nat) => boxmapAdd natOps a x.1 x.2) =
      fun a x => imUpsert x.1 x.2 (fun old => old ||| x.2) a := by
    funext a x
    show imUpsert x.1 (0 ||| x.2) _ a = _
    rw [Nat.zero_or]
    rfl
  obtain ⟨h1, h2, h3⟩ := groupInv_fold (key := fun x : NBox × Nat => x.1) (val := fun x : NBox × Nat => x.2)
    (comb := fun a b => a ||| b) (Has := fun v j => v.testBit j = true)
    (Cov := fun a v => BitsIn a fun j => v.testBit j = true) adds
    (fun _ _ old j h => by rwa [Nat.testBit_or, Bool.or_eq_true] at h)
    (fun _ old v h j hj => by show (old ||| v).testBit j = true; rw [Nat.testBit_or, h j hj, Bool.true_or])
    (fun old v j hj => by show (old ||| v).testBit j = true; rw [Nat.testBit_or, hj, Bool.or_true]) (fun _ _ hj => hj)
    (initMap natOps n) [(emptyBox n, 0)]
    ⟨fun e he _ hj => ⟨e, he, rfl, hj⟩, fun r hr => ⟨r.2, hr, fun _ hj => hj⟩, fun e he => ⟨e, he, rfl, fun _ hj => hj⟩⟩
  rw [hadd]
  refine ⟨fun e he => ?_, fun e he j hj => ?_, fun x hx => h2 x (List.mem_cons_of_mem _ hx)⟩
  · obtain ⟨r, hr, hk, _⟩ := h3 e he
    rcases List.mem_cons.1 hr with rfl | hr
    · exact Or.inl hk.symm
    · exact Or.inr ⟨r, hr, hk⟩
  · obtain ⟨r, hr, hk, hb⟩ := h1 e he j hj
    rcases List.mem_cons.1 hr with rfl | hr
    · rw [Nat.zero_testBit] at hb; cases hb
    · exact ⟨r, hr, hk, hb⟩

/-- every box of the map has `n` axes and clamped ranges, and every rank only bits below `N` -/
def Shape (N n : Nat) (m : BoxMap Nat) : Prop := ∀ e ∈ m, (e.1.length = n ∧ BoxOk e.1) ∧ BitsIn e.2 (· < N)

/-- every box of the map that contains `p` carries only rules in `A` -/
def SoundAt (p : Point) (A : Nat → Prop) (m : BoxMap Nat) : Prop := ∀ e ∈ m, contains e.1 p = true → BitsIn e.2 A

/-- some box of the map is good for `p` and carries exactly the rules in `A` -/
def HasWit (L H : Bnd) (p : Point) (A : Nat → Prop) (m : BoxMap Nat) : Prop :=
  ∃ e ∈ m, Good L H e.1 p ∧ ∀ j, e.2.testBit j = true ↔ A j

theorem testBit_or_single (rank k j : Nat) :
    (natOps.or rank (natOps.single k)).testBit j = true ↔ rank.testBit j = true ∨ j = k := by
  show (rank ||| 1 <<< k).testBit j = true ↔ _
  rw [Nat.testBit_or, Nat.one_shiftLeft, Nat.testBit_two_pow, Bool.or_eq_true, decide_eq_true_eq, eq_comm (a := k)]

theorem initMap_shape {N n : Nat} : Shape N n (initMap natOps n) := by
  intro e he
  simp [initMap] at he
  subst he
  exact ⟨⟨by simp [emptyBox], emptyBox_ok n⟩, fun j hj => by simp [natOps] at hj⟩

section
variable {N n k : Nat} {reg : Region}

theorem stepAdds_shape (hk : k < N) {box : NBox} {rank : Nat} {c : NBox} (hc : c.length = n ∧ BoxOk c)
    (hbox : (box.length = n ∧ BoxOk box) ∧ BitsIn rank (· < N)) :
    ∀ x ∈ stepAdds natOps (natOps.single k) box rank c, (x.1.length = n ∧ BoxOk x.1) ∧ BitsIn x.2 (· < N) := by
  have hl : c.length = box.length := by rw [hc.1, hbox.1.1]
  intro x hx
  rcases mem_stepAdds.1 hx with ⟨hi, hr⟩ | ⟨hr, hx2⟩
  · rw [overlayOnto_fst_eq_some hi]
    refine ⟨⟨by rw [length_interBox hl, hbox.1.1], interBox_ok hc.2 hbox.1.2⟩, fun j hj => ?_⟩
    rw [hr, testBit_or_single] at hj
    rcases hj with h | rfl
    · exact hbox.2 j h
    · exact hk
  · obtain ⟨rl, rok, _⟩ := overlayOnto_rem_shape hc.2 hbox.1.2 hl hr
    rw [hx2]
    exact ⟨⟨by rw [rl, hbox.1.1], rok⟩, hbox.2⟩

theorem stepRule_shape (hk : k < N) (hreg : ∀ c ∈ reg, c.length = n ∧ BoxOk c) {m : BoxMap Nat} (hs : Shape N n m) :
    Shape N n (stepRule natOps n m k reg) := by
  rw [stepRule_eq_adds]
  obtain ⟨h1, h2, _⟩ := built_spec n (ruleAdds natOps m k reg)
  have hadds : ∀ x ∈ ruleAdds natOps m k reg, (x.1.length = n ∧ BoxOk x.1) ∧ BitsIn x.2 (· < N) := fun x hx => by
    obtain ⟨e, he, c, hc, hx⟩ := mem_ruleAdds.1 hx
    exact stepAdds_shape hk (hreg c hc) (hs e he) x hx
  refine fun e he => ⟨?_, fun j hj => ?_⟩
  · rcases h1 e he with h | ⟨x, hx, hk⟩
    · rw [h]; exact ⟨by simp [emptyBox], emptyBox_ok n⟩
    · rw [← hk]; exact (hadds x hx).1
  · obtain ⟨x, hx, _, hb⟩ := h2 e he j hj
    exact (hadds x hx).2 j hb

theorem overlayLoop_shape {rs : List Rule} (hreg : ∀ r ∈ rs, ∀ c ∈ r.1, c.length = n ∧ BoxOk c) :
    ∀ (i : Nat) (m : BoxMap Nat), i + rs.length ≤ N → Shape N n m →
      Shape N n (overlayLoop natOps n (rs.map (·.1)) i m) := by
  induction rs with
  | nil => intro i m _ hs; exact hs
  | cons r rs ih =>
    intro i m hi hs
    simp only [List.map_cons, overlayLoop]
    apply ih (fun r' hr => hreg r' (List.mem_cons_of_mem _ hr)) (i + 1) _ (by simp at hi; omega)
    exact stepRule_shape (by simp at hi; omega) (hreg r (by simp)) hs
end

section
variable {N n : Nat} {L H : Bnd} {p : Point} {k : Nat} {reg : Region} {A A' : Nat → Prop}

/-- the standing assumptions of one iteration of the outer loop (rule `k`, region `reg`) at the point `p` -/
structure StepCtx (n : Nat) (L H : Bnd) (p : Point) (k : Nat) (reg : Region) (A A' : Nat → Prop) : Prop where
  hp : p.length = n
  hnt : NoTouch L H p
  hreg : ∀ c ∈ reg, c.length = n ∧ BoxOk c ∧ InB L H c
  hA' : ∀ j, A' j ↔ (A j ∨ (j = k ∧ regionContains reg p = true))

theorem stepAdds_sound (ctx : StepCtx n L H p k reg A A') {box : NBox} {rank : Nat} {c : NBox}
    (hc : c ∈ reg) (hbox : box.length = n ∧ BoxOk box) (hsound : contains box p = true → BitsIn rank A) :
    ∀ x ∈ stepAdds natOps (natOps.single k) box rank c, contains x.1 p = true → BitsIn x.2 A' := by
  obtain ⟨hcl, hcok, _⟩ := ctx.hreg c hc
  have hl : c.length = box.length := by rw [hcl, hbox.1]
  have hpl : p.length = box.length := by rw [ctx.hp, hbox.1]
  intro x hx hcx j hj
  rw [ctx.hA']
  rcases mem_stepAdds.1 hx with ⟨hi, hr⟩ | ⟨hr, hx2⟩
  · rw [overlayOnto_fst_eq_some hi, contains_inter hcok hbox.2 hl hpl, Bool.and_eq_true] at hcx
    rw [hr, testBit_or_single] at hj
    exact hj.imp (hsound hcx.2 j) fun h => ⟨h, regionContains_iff.2 ⟨c, hc, hcx.1⟩⟩
  · rw [hx2] at hj
    exact Or.inl (hsound ((overlayOnto_rem_shape hcok hbox.2 hl hr).2.2 p hcx) j hj)

/-- the add that is the new witness: the old witness box `box` overlaid with a suitable box `c` of the region (one
    containing `p` if there is one, any box otherwise) -/
theorem stepAdds_wit (ctx : StepCtx n L H p k reg A A') {box : NBox} {rank : Nat} {c : NBox}
    (hc : c ∈ reg) (hbox : box.length = n ∧ BoxOk box)
    (hg : Good L H box p) (hbits : ∀ j, rank.testBit j = true ↔ A j)
    (hcase : contains c p = true ∨ regionContains reg p = false) :
    ∃ x ∈ stepAdds natOps (natOps.single k) box rank c, Good L H x.1 p ∧ ∀ j, x.2.testBit j = true ↔ A' j := by
  obtain ⟨hcl, hcok, hcin⟩ := ctx.hreg c hc
  have hl : c.length = box.length := by rw [hcl, hbox.1]
  have hpl : p.length = box.length := by rw [ctx.hp, hbox.1]
  rcases hcase with hcp | hnone
  · -- `p` is in `c`: the intersection is the new witness
    obtain ⟨hi, hgi⟩ := step_inter hg hcp hcin ctx.hnt hcok hbox.2 hl hpl
    refine ⟨(interBox c box, natOps.or rank (natOps.single k)), mem_stepAdds.2 (Or.inl ⟨hi, rfl⟩), hgi, fun j => ?_⟩
    have hrc : regionContains reg p = true := regionContains_iff.2 ⟨c, hc, hcp⟩
    rw [ctx.hA', hrc, ← hbits j, testBit_or_single]
    simp
  · -- `p` is in no box of the region: the remainder is the new witness, and `A' = A`
    have hcp : contains c p = false := by
      cases h : contains c p with
      | false => rfl
      | true => rw [regionContains_iff.2 ⟨c, hc, h⟩] at hnone; cases hnone
    obtain ⟨r, hr, hgr⟩ := step_rem hg hcp hcok hbox.2 hl hpl
    refine ⟨(r, rank), mem_stepAdds.2 (Or.inr ⟨hr, rfl⟩), hgr, fun j => ?_⟩
    rw [ctx.hA', hnone, hbits j]
    simp

theorem stepRule_inv (ctx : StepCtx n L H p k reg A A') (hne : reg ≠ []) {m : BoxMap Nat}
    (hs : Shape N n m) (hm : SoundAt p A m) (hw : HasWit L H p A m) :
    SoundAt p A' (stepRule natOps n m k reg) ∧ HasWit L H p A' (stepRule natOps n m k reg) := by
  rw [stepRule_eq_adds]
  obtain ⟨_, h2, h3⟩ := built_spec n (ruleAdds natOps m k reg)
  have hsound : SoundAt p A' _ := fun e he hc j hj => by
    obtain ⟨x, hx, hk, hb⟩ := h2 e he j hj
    obtain ⟨e', he', c, hc', hx⟩ := mem_ruleAdds.1 hx
    exact stepAdds_sound ctx hc' (hs e' he').1 (hm e' he') x hx (hk ▸ hc) j hb
  refine ⟨hsound, ?_⟩
  obtain ⟨e, he, hg, hbits⟩ := hw
  obtain ⟨c, hc, hcase⟩ : ∃ c ∈ reg, contains c p = true ∨ regionContains reg p = false := by
    cases hrc : regionContains reg p with
    | true =>
      obtain ⟨c, hc, hcp⟩ := regionContains_iff.1 hrc
      exact ⟨c, hc, Or.inl hcp⟩
    | false =>
      cases reg with
      | nil => exact absurd rfl hne
      | cons c _ => exact ⟨c, by simp, Or.inr rfl⟩
  -- the entry of the witness add's box is above the add, and below `A'` because the map is sound
  obtain ⟨x, hx, hgx, hbx⟩ := stepAdds_wit ctx hc (hs e he).1 hg hbits hcase
  obtain ⟨v, hv, hcov⟩ := h3 x (mem_ruleAdds.2 ⟨e, he, c, hc, hx⟩)
  exact ⟨_, hv, hgx, fun j => ⟨hsound _ hv hgx.contains j, fun hj => hcov j ((hbx j).2 hj)⟩⟩
end

/-- rule `j` of `done` is active at `p` -/
def Act (done : List Rule) (p : Point) (j : Nat) : Prop :=
  ∃ h : j < done.length, regionContains done[j].1 p = true

theorem act_snoc (done : List Rule) (r : Rule) (p : Point) (j : Nat) :
    Act (done ++ [r]) p j ↔ (Act done p j ∨ (j = done.length ∧ regionContains r.1 p = true)) := by
  unfold Act
  constructor
  · rintro ⟨h, hq⟩
    by_cases hj : j < done.length
    · rw [List.getElem_append_left hj] at hq
      exact Or.inl ⟨hj, hq⟩
    · have : j = done.length := by simp at h; omega
      subst this
      exact Or.inr ⟨rfl, by simpa using hq⟩
  · rintro (⟨h, hq⟩ | ⟨rfl, hq⟩)
    · exact ⟨by simp; omega, by rwa [List.getElem_append_left h]⟩
    · exact ⟨by simp, by simpa using hq⟩

section
variable {N n : Nat} {L H : Bnd} {p : Point}

/-- the invariant along the loop: `done` are the rules overlaid so far, `rs` the ones to come -/
theorem overlayLoop_inv (hp : p.length = n) (hnt : NoTouch L H p) :
    ∀ (rs done : List Rule) (m : BoxMap Nat), (done ++ rs).length ≤ N →
      (∀ r ∈ rs, r.1 ≠ [] ∧ ∀ c ∈ r.1, c.length = n ∧ BoxOk c ∧ InB L H c) →
      Shape N n m → SoundAt p (Act done p) m → HasWit L H p (Act done p) m →
      SoundAt p (Act (done ++ rs) p) (overlayLoop natOps n (rs.map (·.1)) done.length m) ∧
        HasWit L H p (Act (done ++ rs) p) (overlayLoop natOps n (rs.map (·.1)) done.length m) := by
  intro rs
  induction rs with
  | nil =>
    intro done m _ _ _ hm hw
    simpa [overlayLoop] using ⟨hm, hw⟩
  | cons r rs ih =>
    intro done m hN hall hs hm hw
    have hr := hall r (by simp)
    have ctx : StepCtx n L H p done.length r.1 (Act done p) (Act (done ++ [r]) p) :=
      { hp := hp, hnt := hnt, hreg := hr.2, hA' := act_snoc done r p }
    obtain ⟨s2, s3⟩ := stepRule_inv ctx hr.1 hs hm hw
    have s1 := stepRule_shape (N := N) (k := done.length) (by simp at hN; omega) (fun c hc => ⟨(hr.2 c hc).1, (hr.2 c hc).2.1⟩) hs
    have := ih (done ++ [r]) _ (by simpa using hN) (fun r' hr' => hall r' (List.mem_cons_of_mem _ hr')) s1 s2 s3
    simpa [overlayLoop] using this
end

end Fontc.FeatVars
