/-
  C11 glue: if the lookups of the tables correspond, in order, to the lookups of the source and act
  alike on every string, and the same ones are active, then `shape` and `interp` agree.
  Also: the two left-to-right passes are the same function, and a form of it that evaluates.
-/
import FontcModel.FeaCompile

namespace Fontc.FeaCompile

theorem OT.pass_eq_src (ign : Glyph → Bool) (st : Step) (rev suf : List Glyph) :
    OT.pass ign st rev suf = Src.pass ign st rev suf := by
  fun_induction OT.pass ign st rev suf <;> rw [Src.pass] <;> simp_all <;> (intro h; omega)

theorem OT.ppass_eq_src (ign : Glyph → Bool) (st : PStep) (rev suf : List PGlyph) :
    OT.ppass ign st rev suf = Src.ppass ign st rev suf := by
  fun_induction OT.ppass ign st rev suf <;> rw [Src.ppass] <;> simp_all <;> (intro h; omega)

/-- `Src.pass` by recursion on a bound `n` for the length of the rest of the string (with `n` too small it stops
    and leaves the rest as it is).  `Src.pass` itself is defined by well-founded recursion, which the kernel does
    not unfold; this one it evaluates. -/
def passN (ign : Glyph → Bool) (st : Step) : Nat → List Glyph → List Glyph → List Glyph
  | _, rev, [] => rev.reverse
  | 0, rev, suf => rev.reverse ++ suf
  | n + 1, rev, g :: suf' =>
    if ign g then passN ign st n (g :: rev) suf'
    else
      match st rev g suf' with
      | none => passN ign st n (g :: rev) suf'
      | some (out, rest) =>
        if rest.length < (g :: suf').length then passN ign st n (out.reverse ++ rev) rest
        else rev.reverse ++ out ++ rest

theorem pass_eq_passN {ign : Glyph → Bool} {st : Step} {rev suf : List Glyph} {n : Nat} (h : suf.length ≤ n) :
    Src.pass ign st rev suf = passN ign st n rev suf := by
  induction n generalizing rev suf with
  | zero => cases suf <;> simp_all [Src.pass, passN]
  | succ n ih =>
    cases suf with
    | nil => simp [Src.pass, passN]
    | cons g suf' =>
      have h' : suf'.length ≤ n := by simpa using h
      rw [Src.pass, passN]
      cases ign g with
      | true => exact ih h'
      | false =>
        cases st rev g suf' with
        | none => exact ih h'
        | some r =>
          by_cases hlt : r.2.length < (g :: suf').length
          · simp only [if_pos hlt]
            exact ih (by simp at hlt; omega)
          · simp only [if_neg hlt]
            rfl

theorem Src.applyGsub_eq_passN (gdef : List (Glyph × Nat)) (alt : Nat) (env : String → Option Src.Lookup) (l : Src.Lookup)
    (s : List Glyph) :
    Src.applyGsub gdef alt env l s = passN (Src.ignored gdef l.flag) (Src.lookupStep gdef alt env l) s.length [] s :=
  pass_eq_passN (Nat.le_refl _)

/-- an equation between functions: `shape` hands `OT.applyGsub t alt` to `OT.applyAtIdx` without arguments -/
theorem OT.applyGsub_eq_passN (t : OT.Tables) (alt : Nat) :
    OT.applyGsub t alt = fun l s =>
      passN (l.ign t.gdef) (OT.lookupStep t.gdef alt t.gsub.lookups OT.nestingDepth l) s.length [] s :=
  funext fun _ => funext fun _ => (OT.pass_eq_src ..).trans (pass_eq_passN (Nat.le_refl _))

theorem applyGsub_eq_src {t : OT.Tables} {alt : Nat} {L : OT.Lookup} {gdefSrc : List (Glyph × Nat)}
    {env : String → Option Src.Lookup} {l : Src.Lookup}
    (hi : ∀ g, L.ign t.gdef g = Src.ignored gdefSrc l.flag g)
    (hs : ∀ rev g suf, OT.lookupStep t.gdef alt t.gsub.lookups OT.nestingDepth L rev g suf
      = Src.lookupStep gdefSrc alt env l rev g suf)
    (str : List Glyph) : OT.applyGsub t alt L str = Src.applyGsub gdefSrc alt env l str := by
  have h2 : OT.lookupStep t.gdef alt t.gsub.lookups OT.nestingDepth L = Src.lookupStep gdefSrc alt env l := by
    funext rev g suf; exact hs rev g suf
  rw [OT.applyGsub, Src.applyGsub, OT.pass_eq_src, funext hi, h2]

theorem applyGpos_eq_src {t : OT.Tables} {L : OT.Lookup} {gdefSrc : List (Glyph × Nat)} {l : Src.Lookup}
    (hi : ∀ g, L.ign t.gdef g = Src.ignored gdefSrc l.flag g)
    (hs : ∀ rev x suf, OT.posLookupStep t.gdef L rev x suf = Src.posStep gdefSrc l rev x suf)
    (str : List PGlyph) : OT.applyGpos t L str = Src.applyGpos gdefSrc l str := by
  have h2 : OT.posLookupStep t.gdef L = Src.posStep gdefSrc l := by
    funext rev g suf; exact hs rev g suf
  rw [OT.applyGpos, Src.applyGpos, OT.ppass_eq_src, funext hi, h2]

theorem foldl_lookups_eq {α β L : Type} (lookups : List L) (applyT : L → β → β) (applyS : α → β → β)
    (pairs : List (α × Nat))
    (h : ∀ x ∈ pairs, ∃ l, lookups[x.2]? = some l ∧ ∀ s, applyT l s = applyS x.1 s) (s : β) :
    (pairs.map (·.2)).foldl (OT.applyAtIdx lookups applyT) s
      = (pairs.map (·.1)).foldl (fun s e => applyS e s) s := by
  induction pairs generalizing s with
  | nil => rfl
  | cons x xs ih =>
    obtain ⟨l, hl, hs⟩ := h x (by simp)
    simp only [List.map_cons, List.foldl_cons, OT.applyAtIdx, hl, hs]
    exact ih (fun y hy => h y (by simp [hy])) _

/-- `gs` / `ps` pair every substitution / positioning lookup of the source that is active
    for the request with the index of its image in the GSUB / GPOS lookup list. -/
theorem shape_eq_interp_of {p : Program} {t : OT.Tables} {script lang : Tag} {feats : List Tag} {alt : Nat}
    (gs ps : List (Src.Entry × Nat))
    (hgs : gs.map (·.1) = ((Src.entries p).filter (·.active script lang feats)).filter (!·.lookup.isPos))
    (hps : ps.map (·.1) = ((Src.entries p).filter (·.active script lang feats)).filter (·.lookup.isPos))
    (hga : OT.activeLookups t.gsub script lang feats = gs.map (·.2))
    (hpa : OT.activeLookups t.gpos script lang feats = ps.map (·.2))
    (hg : ∀ x ∈ gs, ∃ l, t.gsub.lookups[x.2]? = some l ∧
      ∀ s, OT.applyGsub t alt l s = Src.applyGsub p.gdef alt (Src.envOf (Src.entries p)) x.1.lookup s)
    (hp : ∀ x ∈ ps, ∃ l, t.gpos.lookups[x.2]? = some l ∧
      ∀ s, OT.applyGpos t l s = Src.applyGpos p.gdef x.1.lookup s)
    (s : List Glyph) :
    shape t script lang feats alt s = interp p script lang feats alt s := by
  simp only [shape, interp, hga, hpa]
  rw [foldl_lookups_eq t.gsub.lookups (OT.applyGsub t alt)
      (fun (e : Src.Entry) s => Src.applyGsub p.gdef alt (Src.envOf (Src.entries p)) e.lookup s) gs hg,
    foldl_lookups_eq t.gpos.lookups (OT.applyGpos t)
      (fun (e : Src.Entry) s => Src.applyGpos p.gdef e.lookup s) ps hp, hgs, hps]

end Fontc.FeaCompile
