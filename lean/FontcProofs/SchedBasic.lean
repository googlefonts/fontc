/-
  The operations of the scheduler model (FontcModel/Sched.lean) return `Option State`.  For each of them a `_spec`
  lemma turns `op … = some s'` into the guard that held and `s'` written as an update of `s`; every later proof about
  a step that was taken goes through these instead of unfolding the operation.  For completions the lemma is an
  equivalence (`complete_eq_some`): that they succeed is itself a theorem (SchedSafety: `receive_isSome`, `skip_isSome`).
  `Inserts` sums up what insertions do to the history variables.
-/
import FontcProofs.SchedSpec

namespace Fontc.Sched

theorem ctrGet_ctrInc (cs : Counters) (d d' : String) :
    ctrGet (ctrInc cs d) d' = ctrGet cs d' + (if d = d' then 1 else 0) := by
  fun_induction ctrInc cs d <;> grind [ctrGet]

theorem ctrDec_some {cs cs' : Counters} {d : String} (h : ctrDec cs d = some cs') (d' : String) :
    ctrGet cs' d' + (if d = d' then 1 else 0) = ctrGet cs d' := by
  fun_induction ctrDec cs d generalizing cs' <;> grind [ctrGet, Option.map_eq_some_iff]

theorem ctrDec_isSome {cs : Counters} {d : String} (h : 1 ≤ ctrGet cs d) : ∃ cs', ctrDec cs d = some cs' := by
  fun_induction ctrDec cs d <;> grind [ctrGet, Option.map_eq_some_iff]

theorem ctrDecAll_some {ds : List String} {cs cs' : Counters} (h : ctrDecAll cs ds = some cs') (d' : String) :
    ctrGet cs' d' + ds.count d' = ctrGet cs d' := by
  fun_induction ctrDecAll cs ds generalizing cs' <;> grind [ctrDec_some, Option.bind_eq_some_iff]

theorem ctrDecAll_isSome {ds : List String} {cs : Counters} (h : ∀ d', ds.count d' ≤ ctrGet cs d') :
    ∃ cs', ctrDecAll cs ds = some cs' := by
  induction ds generalizing cs with
  | nil => exact ⟨cs, rfl⟩
  | cons d ds ih =>
    obtain ⟨c1, hc1⟩ := ctrDec_isSome (cs := cs) (d := d) (by
      have := h d
      simp at this
      omega)
    obtain ⟨c2, hc2⟩ := ih (cs := c1) fun d' => by
      have := ctrDec_some hc1 d'
      have := h d'
      grind
    exact ⟨c2, by simp [ctrDecAll, hc1, hc2]⟩

theorem isPending_iff {s : State} {id : Id} : s.isPending id = true ↔ ∃ e ∈ s.pending, e.id = id := by
  simp [State.isPending]

theorem entry?_some {s : State} {id : Id} {e : Entry} (h : s.entry? id = some e) : e ∈ s.pending ∧ e.id = id := by
  unfold State.entry? at h
  have := List.find?_some h
  have := List.mem_of_find?_eq_some h
  simp_all

theorem entry?_none {s : State} {id : Id} (h : s.entry? id = none) : ∀ e ∈ s.pending, e.id ≠ id := by
  unfold State.entry? at h
  simpa using h

/-- the entry `State.bookAlso` books for the also-completes id `a` of `parent` -/
def placeholder (parent : Id) (reads : Access) (a : Id) : Entry :=
  { id := a, kind := .alsoComplete, reads := reads, writes := .none, running := false, owner := parent }

theorem book_spec {s s' : State} {e : Entry} (h : s.book e = some s') :
    s.isPending e.id = false ∧
    s' = { s with jobCount := s.jobCount + 1, counters := ctrInc s.counters e.id.disc, pending := e :: s.pending, inserted := e.id :: s.inserted } := by
  unfold State.book at h
  split at h <;> simp_all

theorem bookAlso_spec {al : List Id} {s s' : State} {p : Id} {r : Access} (h : s.bookAlso p r al = some s') :
    ∃ cs, s' = { s with jobCount := s.jobCount + al.length, counters := cs, pending := (al.map (placeholder p r)).reverse ++ s.pending, inserted := al.reverse ++ s.inserted } ∧
      (∀ d, ctrGet cs d = ctrGet s.counters d + (al.map (·.disc)).count d) ∧
      al.Nodup ∧ (∀ a ∈ al, s.isPending a = false) := by
  induction al generalizing s with
  | nil => simp [State.bookAlso] at h; subst h; exact ⟨s.counters, by simp⟩
  | cons a al ih =>
    obtain ⟨s1, hb, h⟩ := Option.bind_eq_some_iff.1 (show (s.book (placeholder p r a)).bind _ = _ from h)
    obtain ⟨hp, rfl⟩ := book_spec hb
    obtain ⟨cs, rfl, hc, hnd, hnp⟩ := ih h
    refine ⟨cs, ?_, ?_, ?_, ?_⟩
    · simp [placeholder, Nat.add_assoc, Nat.add_comm 1]
    · intro d
      rw [hc d, ctrGet_ctrInc]
      simp [placeholder, List.count_cons]
      by_cases e : a.disc = d <;> simp [e] <;> omega
    · simp only [List.nodup_cons]
      refine ⟨?_, hnd⟩
      intro hmem
      have := hnp a hmem
      simp [State.isPending, placeholder] at this
    · intro x hx
      simp at hx
      rcases hx with rfl | hx
      · exact hp
      · have := hnp x hx
        simp [State.isPending] at this ⊢
        exact this.2

/-- the entry `State.insertJob` books for the job itself -/
def jobEntry (j : Job) : Entry :=
  { id := j.id, kind := j.kind, reads := j.reads, writes := j.writes, running := false, owner := j.id }

theorem insertJob_spec {s s' : State} {j : Job} (h : s.insertJob j = some s') :
    j.kind ≠ .alsoComplete ∧
    ∃ cs, s' = { s with jobCount := s.jobCount + j.also.length + 1, counters := cs, pending := jobEntry j :: ((j.also.map (placeholder j.id j.reads)).reverse ++ s.pending), inserted := j.id :: (j.also.reverse ++ s.inserted), also := if j.also.isEmpty then s.also else (j.id, j.also) :: s.also } ∧
      (∀ d, ctrGet cs d = ctrGet s.counters d + (j.ids.map (·.disc)).count d) ∧
      j.ids.Nodup ∧ (∀ a ∈ j.ids, s.isPending a = false) := by
  unfold State.insertJob at h
  split at h
  · simp at h
  · rename_i hk
    refine ⟨hk, ?_⟩
    obtain ⟨s1, hb, h⟩ := Option.bind_eq_some_iff.1 h
    obtain ⟨cs, rfl, hc, hnd, hnp⟩ := bookAlso_spec hb
    -- the two branches differ in `also` only, which `book` does not look at
    rw [show (if j.also.isEmpty then _ else _) = ({ s with jobCount := s.jobCount + j.also.length, counters := cs, pending := (j.also.map (placeholder j.id j.reads)).reverse ++ s.pending, inserted := j.also.reverse ++ s.inserted, also := if j.also.isEmpty then s.also else (j.id, j.also) :: s.also } : State) by split <;> rfl] at h
    obtain ⟨hp, rfl⟩ := book_spec h
    simp only [State.isPending, List.any_append, List.any_reverse, List.any_map, Bool.or_eq_false_iff,
      List.any_eq_false, Function.comp_apply, placeholder, decide_eq_true_eq] at hp
    refine ⟨ctrInc cs j.id.disc, by simp [jobEntry, Nat.add_assoc], ?_, ?_, ?_⟩
    · intro d
      rw [ctrGet_ctrInc, hc d]
      simp [Job.ids, List.count_cons]
      by_cases e : j.id.disc = d <;> simp [e] <;> omega
    · exact List.nodup_cons.2 ⟨fun hmem => hp.1 j.id hmem (by simp), hnd⟩
    · intro a ha
      rcases List.mem_cons.1 ha with rfl | ha
      · simpa [State.isPending] using hp.2
      · exact hnp a ha

theorem insertJob_pending {s s' : State} {j : Job} (h : s.insertJob j = some s') {P : Entry → Prop} :
    (∀ e ∈ s'.pending, P e) ↔
      P (jobEntry j) ∧ (∀ a ∈ j.also, P (placeholder j.id j.reads a)) ∧ ∀ e ∈ s.pending, P e := by
  obtain ⟨_, cs, rfl, _⟩ := insertJob_spec h
  simp [or_imp, forall_and]

theorem launch_spec {s s' : State} {id : Id} (h : s.launch id = some s') :
    ∃ e, s' = { s with pending := s.pending.map (setRunning id), launched := (id, e.reads) :: s.launched } ∧
      e ∈ s.pending ∧ e.id = id ∧ s.launchable e = true := by
  unfold State.launch at h
  split at h
  · simp at h
  · rename_i e he
    obtain ⟨hm, hid⟩ := entry?_some he
    split at h
    · rename_i hl
      simp at h
      exact ⟨e, h.symm, hm, hid, hl⟩
    · simp at h

theorem launchable_iff {s : State} {e : Entry} :
    s.launchable e = true ↔ e.kind ≠ .alsoComplete ∧ e.running = false ∧ s.canRun e = true := by
  simp [State.launchable, and_assoc]

theorem launch_canRun {s s' : State} {j : Id} (h : s.launch j = some s') :
    ∃ e ∈ s.pending, e.id = j ∧ e.kind ≠ .alsoComplete ∧ e.running = false ∧ s.canRun e = true ∧
      s'.launched = (j, e.reads) :: s.launched := by
  obtain ⟨e, rfl, he, hid, hl⟩ := launch_spec h
  obtain ⟨hk, hr, hc⟩ := launchable_iff.1 hl
  exact ⟨e, he, hid, hk, hr, hc, rfl⟩

theorem finish_spec {s s' : State} {id : Id} (h : s.finish id = some s') :
    ∃ e cs, s' = { s with counters := cs, inflight := id :: s.inflight, finished := id :: s.finished } ∧
      e ∈ s.pending ∧ e.id = id ∧ e.running = true ∧ id ∉ s.inflight ∧
      ctrDecAll s.counters (s.counterDiscs id) = some cs := by
  unfold State.finish at h
  split at h
  · simp at h
  · rename_i e he
    obtain ⟨hm, hid⟩ := entry?_some he
    split at h
    · rename_i hc
      simp at hc
      cases hd : ctrDecAll s.counters (s.counterDiscs id) with
      | none => simp [hd] at h
      | some cs =>
        simp [hd] at h
        exact ⟨e, cs, h.symm, hm, hid, hc.1, hc.2, rfl⟩
    · simp at h

theorem completeOne_eq_some {s s' : State} {id : Id} :
    s.completeOne id = some s' ↔
      s' = { s with pending := s.pending.filter (·.id ≠ id), success := id :: s.success } ∧
      s.isPending id = true ∧ id ∉ s.success := by
  unfold State.completeOne
  split <;> simp [*, @eq_comm _ s', and_comm]

theorem completeAll_eq_some {l : List Id} {s s' : State} :
    s.completeAll l = some s' ↔
      s' = { s with pending := s.pending.filter (fun e => e.id ∉ l), success := l.reverse ++ s.success } ∧
      l.Nodup ∧ (∀ a ∈ l, s.isPending a = true ∧ a ∉ s.success) := by
  induction l generalizing s with
  | nil => simp [State.completeAll, @eq_comm _ s, List.filter_eq_self.2]
  | cons a l ih =>
    -- once `a` is complete, the others are pending and not complete iff they were before and differ from `a`
    have key : ∀ b, ({ s with pending := s.pending.filter (·.id ≠ a), success := a :: s.success } : State).isPending b = true ∧
        b ∉ a :: s.success ↔ b ≠ a ∧ s.isPending b = true ∧ b ∉ s.success := by
      intro b
      simp only [isPending_iff, List.mem_filter, List.mem_cons, not_or, decide_eq_true_eq]
      exact ⟨fun ⟨⟨e, he, h⟩, hb⟩ => ⟨hb.1, ⟨e, he.1, h⟩, hb.2⟩, fun ⟨hb, ⟨e, he, h⟩, hs⟩ => ⟨⟨e, ⟨he, h ▸ hb⟩, h⟩, hb, hs⟩⟩
    rw [State.completeAll, Option.bind_eq_some_iff]
    constructor
    · rintro ⟨s1, h1, h2⟩
      obtain ⟨rfl, hp, hs⟩ := completeOne_eq_some.1 h1
      obtain ⟨rfl, hnd, hall⟩ := ih.1 h2
      simp only [key] at hall
      exact ⟨by simp [Bool.and_comm], List.nodup_cons.2 ⟨fun h => (hall a h).1 rfl, hnd⟩,
        List.forall_mem_cons.2 ⟨⟨hp, hs⟩, fun b hb => (hall b hb).2⟩⟩
    · rintro ⟨rfl, hnd, hall⟩
      obtain ⟨ha, hnd⟩ := List.nodup_cons.1 hnd
      obtain ⟨hpa, hall⟩ := List.forall_mem_cons.1 hall
      exact ⟨_, completeOne_eq_some.2 ⟨rfl, hpa⟩,
        ih.2 ⟨by simp [Bool.and_comm], hnd, fun b hb => (key b).2 ⟨fun e => ha (e ▸ hb), hall b hb⟩⟩⟩

theorem complete_eq_some {s s' : State} {id : Id} :
    s.complete id = some s' ↔
      s' = { s with pending := s.pending.filter (fun e => e.id ∉ id :: s.alsoOf id), success := (id :: s.alsoOf id).reverse ++ s.success } ∧
      (id :: s.alsoOf id).Nodup ∧ (∀ a ∈ id :: s.alsoOf id, s.isPending a = true ∧ a ∉ s.success) :=
  completeAll_eq_some (l := id :: s.alsoOf id)

theorem rewrite_spec {s s' : State} {id : Id} {a : Access} {must : Bool} (h : s.rewrite id a must = some s') :
    s' = { s with pending := s.pending.map (setReads id a) } := by
  unfold State.rewrite at h
  split at h
  · simp at h; exact h.symm
  · rename_i hp
    split at h
    · simp at h
    · -- `id` is not pending and the code returns silently: `setReads id a` changes no entry, so the update covers this case too
      simp at h
      subst h
      have hp : ∀ e ∈ s.pending, e.id ≠ id := by simpa [State.isPending] using hp
      have : s.pending.map (setReads id a) = s.pending :=
        (List.map_congr_left fun e he => by simp [setReads, hp e he]).trans (List.map_id _)
      simp [this]

theorem skip_spec {s s' : State} {id : Id} (h : s.skip id = some s') :
    (s.isPending id = false ∧ s' = s) ∨
    (∃ e cs, ({ s with counters := cs, skipped := id :: s.skipped } : State).complete id = some s' ∧
      e ∈ s.pending ∧ e.id = id ∧ e.running = false ∧ e.kind ≠ .alsoComplete ∧
      ctrDecAll s.counters (s.counterDiscs id) = some cs) := by
  unfold State.skip at h
  split at h
  · rename_i he
    left
    simp at h
    refine ⟨?_, h.symm⟩
    have := entry?_none he
    simp [State.isPending]
    exact this
  · rename_i e he
    obtain ⟨hm, hid⟩ := entry?_some he
    right
    split at h
    · simp at h
    · rename_i hc
      simp at hc
      cases hd : ctrDecAll s.counters (s.counterDiscs id) with
      | none => simp [hd] at h
      | some cs =>
        simp [hd] at h
        exact ⟨e, cs, h, hm, hid, hc.1, hc.2, rfl⟩

theorem receive_spec {s s' : State} {id : Id} (h : s.receive id = some s') :
    id ∈ s.inflight ∧ id ∉ s.success ∧
    ({ s with inflight := s.inflight.erase id, delivered := id :: s.delivered } : State).complete id = some s' := by
  unfold State.receive at h
  split at h
  · rename_i hc
    simp at hc
    exact ⟨hc.1, hc.2, h⟩
  · simp at h

@[simp] theorem setRunning_id (id : Id) (e : Entry) : (setRunning id e).id = e.id := by unfold setRunning; split <;> rfl
@[simp] theorem setRunning_kind (id : Id) (e : Entry) : (setRunning id e).kind = e.kind := by unfold setRunning; split <;> rfl
@[simp] theorem setRunning_owner (id : Id) (e : Entry) : (setRunning id e).owner = e.owner := by unfold setRunning; split <;> rfl
@[simp] theorem setRunning_reads (id : Id) (e : Entry) : (setRunning id e).reads = e.reads := by unfold setRunning; split <;> rfl
@[simp] theorem setReads_id (id : Id) (a : Access) (e : Entry) : (setReads id a e).id = e.id := by unfold setReads; split <;> rfl
@[simp] theorem setReads_kind (id : Id) (a : Access) (e : Entry) : (setReads id a e).kind = e.kind := by unfold setReads; split <;> rfl
@[simp] theorem setReads_owner (id : Id) (a : Access) (e : Entry) : (setReads id a e).owner = e.owner := by unfold setReads; split <;> rfl
@[simp] theorem setReads_running (id : Id) (a : Access) (e : Entry) : (setReads id a e).running = e.running := by
  unfold setReads; split <;> rfl

theorem applyEffects_nil {s s' : State} : s.applyEffects [] = some s' ↔ s' = s := by
  simp [State.applyEffects, eq_comm]

theorem applyEffects_cons {s s' : State} {e : Effect} {es : List Effect} :
    s.applyEffects (e :: es) = some s' ↔ ∃ s1, s.applyEffect e = some s1 ∧ s1.applyEffects es = some s' := by
  simp only [State.applyEffects, Option.bind_eq_some_iff]

theorem insertAll_nil {s s' : State} : s.insertAll [] = some s' ↔ s' = s := by
  simp [State.insertAll, eq_comm]

theorem insertAll_cons {s s' : State} {j : Job} {js : List Job} :
    s.insertAll (j :: js) = some s' ↔ ∃ s1, s.insertJob j = some s1 ∧ s1.insertAll js = some s' := by
  simp only [State.insertAll, Option.bind_eq_some_iff]

theorem deliver_eq_some {sc : Script} {s s' : State} {id : Id} :
    s.deliver sc id = some s' ↔ ∃ s1, s.receive id = some s1 ∧ s1.applyEffects (sc.effects id) = some s' := by
  simp only [State.deliver, Option.bind_eq_some_iff]

theorem guard_spec {s s' : State} {id : Id} {st : GuardSt} (h : s.applyEffect (.guard id st) = some s') :
    s' = s ∧ s.guardSt id = st := by
  simp only [State.applyEffect] at h
  split at h
  · rename_i hg; exact ⟨(Option.some.inj h).symm, hg⟩
  · simp at h

/-- the ids the `add` effects among `es` insert (`Script.addedIds` and `entryIds` are this function on an effect list of the script) -/
def effIds (es : List Effect) : List Id :=
  es.flatMap fun e => match e with
    | .add j => j.ids
    | _ => []

theorem addedIds_eq (sc : Script) (q : Id) : sc.addedIds q = effIds (sc.effects q) := rfl

theorem effIds_cons (e : Effect) (es : List Effect) : effIds (e :: es) = effIds [e] ++ effIds es := by
  simp [effIds]

/-- from `s` to `s'` exactly `ids` are inserted, in some order, and nothing is delivered or launched -/
structure Inserts (ids : List Id) (s s' : State) : Prop where
  inserted : ∃ l, l.Perm ids ∧ s'.inserted = l ++ s.inserted
  delivered : s'.delivered = s.delivered
  launched : s'.launched = s.launched

theorem Inserts.refl (s : State) : Inserts [] s s := ⟨⟨[], .refl _, rfl⟩, rfl, rfl⟩

theorem Inserts.trans {a b : List Id} {s t u : State} (h1 : Inserts a s t) (h2 : Inserts b t u) : Inserts (a ++ b) s u := by
  obtain ⟨l1, p1, e1⟩ := h1.inserted
  obtain ⟨l2, p2, e2⟩ := h2.inserted
  exact ⟨⟨l2 ++ l1, (p2.append p1).trans List.perm_append_comm, by rw [e2, e1, List.append_assoc]⟩,
    h2.delivered.trans h1.delivered, h2.launched.trans h1.launched⟩

theorem Inserts.mem {ids : List Id} {s s' : State} (h : Inserts ids s s') {x : Id} :
    x ∈ s'.inserted ↔ x ∈ ids ∨ x ∈ s.inserted := by
  obtain ⟨l, p, e⟩ := h.inserted
  rw [e, List.mem_append, p.mem_iff]

theorem Inserts.nodup {ids : List Id} {s s' : State} (h : Inserts ids s s') :
    s'.inserted.Nodup ↔ ids.Nodup ∧ s.inserted.Nodup ∧ ∀ x ∈ ids, x ∉ s.inserted := by
  obtain ⟨l, p, e⟩ := h.inserted
  rw [e, List.nodup_append, p.nodup_iff]
  constructor
  · exact fun ⟨h1, h2, h3⟩ => ⟨h1, h2, fun x hx hin => h3 x (p.mem_iff.2 hx) x hin rfl⟩
  · exact fun ⟨h1, h2, h3⟩ => ⟨h1, h2, fun x hx y hy hxy => h3 x (p.mem_iff.1 hx) (hxy ▸ hy)⟩

theorem insertJob_inserts {s s' : State} {j : Job} (h : s.insertJob j = some s') : Inserts j.ids s s' := by
  obtain ⟨_, cs, rfl, _⟩ := insertJob_spec h
  exact ⟨⟨j.id :: j.also.reverse, (List.reverse_perm _).cons _, rfl⟩, rfl, rfl⟩

theorem applyEffect_inserts {s s' : State} {e : Effect} (h : s.applyEffect e = some s') : Inserts (effIds [e]) s s' := by
  cases e with
  | add j => simpa [effIds] using insertJob_inserts h
  | rewrite i a m => obtain rfl := rewrite_spec h; exact ⟨⟨[], .refl _, rfl⟩, rfl, rfl⟩
  | skip i =>
    rcases skip_spec h with ⟨_, rfl⟩ | ⟨o, cs, hc, _⟩
    · exact Inserts.refl _
    · obtain ⟨rfl, _, _⟩ := complete_eq_some.1 hc; exact ⟨⟨[], .refl _, rfl⟩, rfl, rfl⟩
  | guard i st => obtain ⟨rfl, _⟩ := guard_spec h; exact Inserts.refl _

theorem applyEffects_inserts {es : List Effect} {s s' : State} (h : s.applyEffects es = some s') :
    Inserts (effIds es) s s' := by
  induction es generalizing s with
  | nil => obtain rfl := applyEffects_nil.1 h; exact Inserts.refl _
  | cons e es ih =>
    obtain ⟨s1, h1, h2⟩ := applyEffects_cons.1 h
    exact effIds_cons e es ▸ (applyEffect_inserts h1).trans (ih h2)

theorem insertAll_inserts {js : List Job} {s s' : State} (h : s.insertAll js = some s') :
    Inserts (js.flatMap Job.ids) s s' := by
  induction js generalizing s with
  | nil => obtain rfl := insertAll_nil.1 h; exact Inserts.refl _
  | cons j js ih =>
    obtain ⟨s1, h1, h2⟩ := insertAll_cons.1 h
    exact List.flatMap_cons ▸ (insertJob_inserts h1).trans (ih h2)

theorem deliver_history {sc : Script} {s s' : State} {id : Id} (h : s.deliver sc id = some s') :
    (∃ l, l.Perm (sc.addedIds id) ∧ s'.inserted = l ++ s.inserted) ∧ s'.delivered = id :: s.delivered ∧
      s'.launched = s.launched := by
  obtain ⟨s1, h1, h2⟩ := deliver_eq_some.1 h
  obtain ⟨_, _, hc⟩ := receive_spec h1
  obtain ⟨rfl, _, _⟩ := complete_eq_some.1 hc
  have i := applyEffects_inserts h2
  exact ⟨i.inserted, i.delivered, i.launched⟩

end Fontc.Sched
