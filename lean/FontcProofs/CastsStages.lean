/-
  For C19: the multi-value stages (glyf point deltas, composite totals).
-/
import FontcProofs.Casts

namespace Fontc.Casts
open Fontc

theorem encode_decode_exact {last : Int} {xs : List Int} (h : DiffsFit last xs) :
    ∃ ds, (∀ p, encodeDeltas p last xs = some ds) ∧ decodeDeltas last ds = xs := by
  induction xs generalizing last with
  | nil => exact ⟨[], fun _ => rfl, rfl⟩
  | cons x xs ih =>
    obtain ⟨h1, h2⟩ := h
    obtain ⟨ds, e1, e2⟩ := ih h2
    refine ⟨(x - last) :: ds, fun p => ?_, ?_⟩
    · simp only [encodeDeltas, if_pos h1, e1, Option.map]
    · simp only [decodeDeltas]
      have : last + (x - last) = x := by omega
      rw [this, e2]

theorem encode_debug_none_iff (last : Int) (xs : List Int) :
    encodeDeltas .debug last xs = none ↔ ¬ DiffsFit last xs := by
  induction xs generalizing last with
  | nil => simp [encodeDeltas, DiffsFit]
  | cons x xs ih =>
    simp only [encodeDeltas, DiffsFit]
    by_cases h1 : inI16 (x - last)
    · rw [if_pos h1, Option.map_eq_none_iff, ih x]
      exact ⟨fun h hh => h hh.2, fun h hh => h ⟨h1, hh⟩⟩
    · rw [if_neg h1]
      exact ⟨fun _ hh => h1 hh.1, fun _ => rfl⟩

theorem encode_release_some (last : Int) (xs : List Int) :
    ∃ ds, encodeDeltas .release last xs = some ds ∧ ds.length = xs.length := by
  induction xs generalizing last with
  | nil => exact ⟨[], rfl, rfl⟩
  | cons x xs ih =>
    obtain ⟨ds, e1, e2⟩ := ih x
    by_cases h1 : inI16 (x - last)
    · exact ⟨(x - last) :: ds, by simp only [encodeDeltas, if_pos h1, e1, Option.map], by simp [e2]⟩
    · exact ⟨wrapI16 (x - last) :: ds, by simp only [encodeDeltas, if_neg h1, e1, Option.map], by simp [e2]⟩

/-- the confirmed case, before d8817db put `check_encodable` in front of the encoder: two points 40000 apart, each in
    range; a release build stored −25536 and a reader that follows the spec sees −45536 instead of 20000 -/
theorem pointDelta_witness :
    encodeDeltas .debug 0 [-20000, 20000] = none ∧
    encodeDeltas .release 0 [-20000, 20000] = some [-20000, -25536] ∧
    decodeDeltas 0 [-20000, -25536] = [-20000, -45536] := by decide

theorem listSum_nonneg (xs : List Int) (h : ∀ x ∈ xs, 0 ≤ x) : 0 ≤ listSum xs := by
  induction xs with
  | nil => simp [listSum]
  | cons x xs ih =>
    simp only [listSum]
    have := h x (by simp)
    have := ih (fun y hy => h y (by simp [hy]))
    omega

/-- Once the accumulator has overflowed the debug build has trapped; the release build keeps wrapping, and wrapping
    commutes with the additions. -/
theorem foldAddU16_eq_addU16 (p : Profile) (acc : Int) (xs : List Int) (ha : acc ≤ 65535) (h : ∀ x ∈ xs, 0 ≤ x) :
    foldAddU16 p acc xs = addU16 p acc (listSum xs) := by
  induction xs generalizing acc with
  | nil => simp only [foldAddU16, addU16, listSum, Int.add_zero, if_pos ha]
  | cons e es ih =>
    have hs := listSum_nonneg es fun y hy => h y (List.mem_cons_of_mem _ hy)
    have ih := fun a ha => ih a ha fun y hy => h y (List.mem_cons_of_mem _ hy)
    simp only [foldAddU16, listSum]
    by_cases h1 : acc + e ≤ 65535
    · rw [if_pos h1, ih (acc + e) h1]
      simp only [addU16, Int.add_assoc]
    · rw [if_neg h1]
      cases p
      · simp only [addU16]; rw [if_neg (by omega)]
      · simp only [ih _ (wrapU16_range _).2, addU16]
        rw [if_neg (show ¬ acc + (e + listSum es) ≤ 65535 by omega)]
        split <;> (congr 2; unfold wrapU16 at *; omega)

/-- the fold over a composite's components is `addU16 0 (total)`, which is `fieldPipelineOld .compositeTotal` -/
theorem foldAddU16_eq (p : Profile) (xs : List Int) (h : ∀ x ∈ xs, 0 ≤ x) :
    foldAddU16 p 0 xs = addU16 p 0 (listSum xs) :=
  foldAddU16_eq_addU16 p 0 xs (by decide) h

theorem foldCheckedAdd_eq (acc : Int) (ovf : Bool) (xs : List Int) (ha : acc ≤ 65535) (h : ∀ x ∈ xs, 0 ≤ x) :
    foldCheckedAdd acc ovf xs =
      if ovf = true ∨ 65535 < acc + listSum xs then .err else .ok ((acc + listSum xs : Int) : Rat) := by
  induction xs generalizing acc ovf with
  | nil =>
    have e : acc + listSum [] = acc := by simp [listSum]
    simp only [foldCheckedAdd, e]
    cases ovf
    · rw [if_neg (by simp), if_neg (by simp; omega)]
    · rw [if_pos rfl, if_pos (Or.inl rfl)]
  | cons e es ih =>
    have hs := listSum_nonneg es (fun y hy => h y (by simp [hy]))
    have hsum : listSum (e :: es) = e + listSum es := rfl
    simp only [foldCheckedAdd]
    by_cases h1 : acc + e ≤ 65535
    · rw [if_pos h1, ih (acc + e) ovf h1 (fun y hy => h y (by simp [hy]))]
      have e2 : acc + e + listSum es = acc + listSum (e :: es) := by rw [hsum]; omega
      rw [e2]
    · rw [if_neg h1, ih 65535 true (by omega) (fun y hy => h y (by simp [hy]))]
      rw [if_pos (Or.inl rfl), if_pos (Or.inr (by rw [hsum]; omega))]

end Fontc.Casts
