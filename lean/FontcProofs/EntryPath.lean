/-
  C20 — entry points: the last component of a path (`Input::new` dispatches on its extension).
-/
import FontcModel.Entry
namespace Fontc.Entry

theorem fileName_append (dir name : List Char) (hn : name.all (· != '/') = true) :
    fileName (dir ++ '/' :: name) = name := by
  unfold fileName
  rw [List.reverse_append, List.reverse_cons, List.append_assoc, List.singleton_append,
    List.takeWhile_append_of_pos (by simpa using hn), List.takeWhile_cons_of_neg (by simp), List.append_nil,
    List.reverse_reverse]

end Fontc.Entry
