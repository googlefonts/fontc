/-
  C08: the emitted (F2Dot14) segment map against the exact one. Moving every record of a map by at most `ε` in each
  coordinate moves the graph of the map by at most `ε` in each coordinate (`perturbed_near`: any strictly sorted list,
  moved in any way that keeps it so); a record goes to a record (`Built.quantised_vertex`). A bound on the value at a
  given coordinate needs a Lipschitz constant `L` of the exact map besides: `ε` of argument costs `L ε`
  (`quantised_apply_bound`).
-/
import FontcProofs.PlmAxis
import FontcProofs.PlmQuant
import FontcProofs.Rounding

namespace Fontc.PlmProofs
open Fontc Fontc.Plm Fontc.Avar

/-- value of an F2Dot14-rounded rational -/
def qv (x : Rat) : Rat := f2dot14Val (f2dot14 x)
/-- the emitted (quantised) segment map, as rationals -/
def qpts (m : List (Int × Int)) : List Pt := m.map fun p => (f2dot14Val p.1, f2dot14Val p.2)

theorem qpts_segmentMap (ax : Axis) : qpts (segmentMap ax) = (segmentMapExact ax).map fun p => (qv p.1, qv p.2) := by
  simp [qpts, segmentMap, qv, List.map_map, Function.comp]

theorem mem_segmentMap {ax : Axis} {p : Pt} (hp : p ∈ segmentMapExact ax) :
    (f2dot14 p.1, f2dot14 p.2) ∈ segmentMap ax :=
  List.mem_map.mpr ⟨p, hp, rfl⟩

theorem f2dot14_neg_one : f2dot14 (-1) = -16384 := by
  have := f2dot14_exact (-16384) (by norm_num) (by norm_num)
  rwa [show (((-16384 : Int) : Rat) / 16384) = -1 by norm_num] at this
theorem f2dot14_zero : f2dot14 0 = 0 := by
  have := f2dot14_exact 0 (by norm_num) (by norm_num)
  rwa [show (((0 : Int) : Rat) / 16384) = 0 by norm_num] at this
theorem f2dot14_one : f2dot14 1 = 16384 := by
  have := f2dot14_exact 16384 (by norm_num) (by norm_num)
  rwa [show (((16384 : Int) : Rat) / 16384) = 1 by norm_num] at this

theorem qv_neg_one : qv (-1) = -1 := by simp only [qv, f2dot14_neg_one, f2dot14Val]; norm_num
theorem qv_zero : qv 0 = 0 := by simp only [qv, f2dot14_zero, f2dot14Val]; norm_num
theorem qv_one : qv 1 = 1 := by simp only [qv, f2dot14_one, f2dot14Val]; norm_num

theorem qv_mono {x y : Rat} (h : x ≤ y) : qv x ≤ qv y := by
  unfold qv f2dot14Val
  have : ((f2dot14 x : Int) : Rat) ≤ ((f2dot14 y : Int) : Rat) := by exact_mod_cast f2dot14_mono h
  exact div_le_div_of_nonneg_right this (by norm_num)

theorem qv_err {x : Rat} (h1 : -1 ≤ x) (h2 : x ≤ 1) : ratAbs (qv x - x) ≤ 1 / 32768 :=
  f2dot14_err (le_trans (by norm_num) h1) (le_trans h2 (by norm_num))

theorem qv_range {x : Rat} (h1 : -1 ≤ x) (h2 : x ≤ 1) : -1 ≤ qv x ∧ qv x ≤ 1 :=
  ⟨qv_neg_one ▸ qv_mono h1, qv_one ▸ qv_mono h2⟩

theorem ratAbs_nonneg' (x : Rat) : 0 ≤ ratAbs x := ratAbs_nonneg x

theorem StrictFrom.of_map_mono {r : Rat → Rat} (hr : ∀ {x y}, x ≤ y → r x ≤ r y) {P : List Pt}
    (h : StrictFrom (P.map fun p => (r p.1, r p.2))) : StrictFrom P :=
  (List.pairwise_map.mp h).imp fun hpq => lt_of_not_ge fun hc => not_lt.mpr (hr hc) hpq

theorem lerp_sub (a b a' b' t : Rat) : lerp a' b' t - lerp a b t = lerp (a' - a) (b' - b) t := by
  unfold lerp; ring

theorem lerp_near {a b a' b' t ε : Rat} (t0 : 0 ≤ t) (t1 : t ≤ 1) (ha : ratAbs (a' - a) ≤ ε)
    (hb : ratAbs (b' - b) ≤ ε) : ratAbs (lerp a' b' t - lerp a b t) ≤ ε := by
  rw [ratAbs_le_iff] at ha hb ⊢
  rw [lerp_sub]
  exact lerp_mem t0 t1 ha hb

theorem ratAbs_near {F : Rat → Rat} {L ε δ x x' v : Rat} (hL : 0 ≤ L)
    (hlip : ratAbs (F x - F x') ≤ L * ratAbs (x - x')) (hdx : ratAbs (x - x') ≤ ε) (hv : ratAbs (v - F x') ≤ δ) :
    ratAbs (v - F x) ≤ δ + L * ε := by
  have h2 := le_trans hlip (mul_le_mul_of_nonneg_left hdx hL)
  rw [ratAbs_le_iff] at h2 hv ⊢
  constructor <;> linarith [h2.1, h2.2, hv.1, hv.2]

/-- `x` sits at some parameter `t` in a segment of the moved map; the point `x'` at the same `t` in the original
    segment is within `ε` of `x`, and the two values at `t` are within `ε` of each other. -/
theorem perturbed_near (g : Pt → Pt) (ε : Rat) {P : List Pt} (hP : StrictFrom P) (hQ : StrictFrom (P.map g))
    (hg : ∀ p ∈ P, ratAbs ((g p).1 - p.1) ≤ ε ∧ ratAbs ((g p).2 - p.2) ≤ ε) {x : Rat} (hx : Spans (P.map g) x) :
    ∃ x', Spans P x' ∧ ratAbs (x - x') ≤ ε ∧ ratAbs (avarApply (P.map g) x - avarApply P x') ≤ ε := by
  rcases exists_param hQ hx with ⟨N, hN, rfl⟩ | ⟨A, B, t, hc, t0, t1, rfl⟩
  · obtain ⟨n, hn, rfl⟩ := List.mem_map.mp hN
    refine ⟨n.1, ⟨⟨n, hn, le_refl _⟩, n, hn, le_refl _⟩, (hg n hn).1, ?_⟩
    rw [avarApply_vertex hQ hN, avarApply_vertex hP hn]
    exact (hg n hn).2
  · obtain ⟨p, q, hcP, rfl, rfl⟩ := Consec.of_map hc
    have hp := hg p hcP.mem_left
    have hq := hg q hcP.mem_right
    have hx' := lerp_between t0 t1 (le_of_lt (hcP.lt hP))
    refine ⟨lerp p.1 q.1 t, ⟨⟨p, hcP.mem_left, hx'.1⟩, q, hcP.mem_right, hx'.2⟩, lerp_near t0 t1 hp.1 hq.1, ?_⟩
    rw [avarApply_lerp hQ hc t0 t1, avarApply_lerp hP hcP t0 t1]
    exact lerp_near t0 t1 hp.2 hq.2

/-- One `ε = 2⁻¹⁵` for the rounded to-coordinates; the point `x'` of `perturbed_near` is within `ε` of the rounded
    input and so within `2 ε` of `x`, which costs `2 L ε`. -/
theorem quantised_apply_bound {E : List Pt} (hrange : ∀ p ∈ E, -1 ≤ p.1 ∧ p.1 ≤ 1 ∧ -1 ≤ p.2 ∧ p.2 ≤ 1)
    (hQ : StrictFrom (E.map fun p => (qv p.1, qv p.2))) {L : Rat} (hL : 0 ≤ L)
    (hLip : ∀ s t, -1 ≤ s → s ≤ 1 → -1 ≤ t → t ≤ 1 → ratAbs (avarApply E s - avarApply E t) ≤ L * ratAbs (s - t))
    {x : Rat} (hx : Spans E x) :
    ratAbs (avarApply (E.map fun p => (qv p.1, qv p.2)) (qv x) - avarApply E x) ≤ 1 / 32768 * (1 + 2 * L) := by
  have hr1 : ∀ p ∈ E, -1 ≤ p.1 ∧ p.1 ≤ 1 := fun p hp => ⟨(hrange p hp).1, (hrange p hp).2.1⟩
  obtain ⟨hx1, hx2⟩ := hx.range hr1
  obtain ⟨⟨f, hf, h1⟩, z, hz, h2⟩ := hx
  obtain ⟨x', hx', hxx, hv⟩ := perturbed_near (fun p => (qv p.1, qv p.2)) (1 / 32768)
    (StrictFrom.of_map_mono qv_mono hQ) hQ
    (fun p hp => ⟨qv_err (hrange p hp).1 (hrange p hp).2.1, qv_err (hrange p hp).2.2.1 (hrange p hp).2.2.2⟩)
    ⟨⟨_, List.mem_map_of_mem hf, qv_mono h1⟩, _, List.mem_map_of_mem hz, qv_mono h2⟩
  obtain ⟨h1', h2'⟩ := hx'.range hr1
  have e : 1 / 32768 * (1 + 2 * L) = 1 / 32768 + L * (1 / 32768 + 1 / 32768) := by ring
  rw [e]
  exact ratAbs_near (F := avarApply E) hL (hLip x x' hx1 hx2 h1' h2')
    (ratAbs_sub_le ((ratAbs_sub_comm _ _).trans_le (qv_err hx1 hx2)) hxx) hv

/-- Also when the padded list was replaced by the default map: then the record is `k:k` and the emitted map the
    identity. -/
theorem Built.quantised_vertex {a : AxisDef} {ax : Axis} (B : Built a ax)
    (hQ : StrictFrom ((segmentMapExact ax).map fun p => (qv p.1, qv p.2))) {p : Pt} (hp : p ∈ padded (rawOfAxis a)) :
    avarApply ((segmentMapExact ax).map fun p => (qv p.1, qv p.2)) (qv p.1) = qv p.2 := by
  rcases B.exact_cases with ⟨e, hall⟩ | e <;> rw [e] at hQ ⊢
  · rw [hall p hp]
    exact avarApply_ident (List.forall_mem_map.mpr fun q hq =>
      congrArg qv ((by decide : ∀ q ∈ defaultSegmentMap, q.1 = q.2) q hq))
  · exact avarApply_vertex hQ (List.mem_map_of_mem (f := fun p : Pt => (qv p.1, qv p.2)) hp)

end Fontc.PlmProofs
