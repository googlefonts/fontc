/-
  Bridge between the independent OpenType-spec evaluator (FontcModel/Ivs.lean, used by the end-to-end oracles)
  and the model of fontc's own scalar computation (VarModel.scalarAt): on the regions the variation model builds
  they are the same function.
-/
import FontcModel.Ivs
import FontcModel.VarModel
import FontcProofs.VarModelGeom

namespace Fontc.VarModel
open Fontc Fontc.VarModel.Geom

/-- The two evaluators test "outside the support" differently (`<` in the specification, `≤` in fontc) and write the
    falling ramp with opposite signs.  On a valid tent neither matters: a ramp is 0 at its end.  The sign of the peak
    plays no part; what is needed besides validity is that a tent with peak 0 is all 0 (the specification ignores such
    an axis, fontc only the all-zero tent). -/
theorem axisScalar_eq_tentFactor {t : Tent} (hval : t.validate = true)
    (h0 : t.peak = 0 → t.min = 0 ∧ t.max = 0) (v : Rat) :
    Ivs.axisScalar t.min t.peak t.max v = tentFactor t v := by
  obtain ⟨v1, v2, v3⟩ := (validate_iff t).1 hval
  have e1 : (t.min - t.min) / (t.peak - t.min) = 0 := by rw [Rat.sub_self, Rat.div_def, Rat.zero_mul]
  have e2 : (t.max - t.max) / (t.peak - t.max) = 0 := by rw [Rat.sub_self, Rat.div_def, Rat.zero_mul]
  have e3 : (t.max - v) / (t.max - t.peak) = (v - t.max) / (t.peak - t.max) := by
    rw [← neg_div_neg, Rat.neg_sub, Rat.neg_sub]
  unfold Ivs.axisScalar tentFactor
  simp only [hval]
  grind

/-- A tent as the (start, peak, end) triple `Ivs.regionScalar` takes for an axis. -/
def tentTriple (t : Tent) : Rat × Rat × Rat := (t.min, t.peak, t.max)

theorem regionScalar_eq_scalarAt {r : Region} (h : ∀ t ∈ r, TentOrd t) (loc : Loc) :
    Ivs.regionScalar (r.map tentTriple) loc = scalarAt r loc := by
  induction r generalizing loc with
  | nil => simp [Ivs.regionScalar, scalarAt]
  | cons t ts ih =>
    have ht := h t (by simp)
    have hts : ∀ t' ∈ ts, TentOrd t' := fun t' ht' => h t' (by simp [ht'])
    cases loc with
    | nil => simp [Ivs.regionScalar, scalarAt, tentTriple, axisScalar_eq_tentFactor ht.validate ht.1, ih hts]
    | cons v vs => simp [Ivs.regionScalar, scalarAt, tentTriple, axisScalar_eq_tentFactor ht.validate ht.1, ih hts]

theorem spec_scalar_eq_model {locs : List Loc} {r : Region} (hr : r ∈ masterInfluence (regionsFor locs)) (loc : Loc) :
    Ivs.regionScalar (r.map tentTriple) loc = scalarAt r loc :=
  regionScalar_eq_scalarAt (masterInfluence_tentOrd hr) loc

end Fontc.VarModel
