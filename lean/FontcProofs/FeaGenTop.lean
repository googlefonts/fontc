/-
  C11 simulation: the invariant between the entries of the source and the state of
  the compilation context, between top-level statements; feature blocks and lookup blocks preserve it.
-/
import FontcProofs.FeaSim
import FontcProofs.FeaActive
import FontcProofs.FeaTables

namespace Fontc.FeaCompile
open Cmp

/-- The invariant between top-level statements.  `es`: the entries of the source so far, `ids`: their lookup ids
    in the same order, `used`: the lookup names defined, `dls`: the language systems the source declares, `U`: the
    family the mark attachment classes come from.  Nothing is open (`closed`); `idsInv`, `attachU`, `len` … `below`,
    `namedKeys`, `namedEnt` are the fields of `Defs` (`TopInvG.defs`); the feature map holds under a key the ids of
    the entries registered for it (`feats`; a key of the map is `(feature, language, script)`, a registration `(feature, script, language)`). -/
structure TopInvG (fx : Fixes) (U : List (List Glyph)) (dls : List Sys) (es : List Src.Entry) (s : St)
    (ids : List LookupId) (used : List String) : Prop where
  closed : s.cur = none ∧ s.curName = none ∧ s.script = none ∧ s.active = none ∧ s.flag = (0, none)
  dlsOk : ∀ sys, sys ∈ s.defaultSystems ↔ sys ∈ dls
  idsInv : IdsInv s
  attachU : ∀ c ∈ s.attachIds, c ∈ U
  len : es.length = ids.length
  ents : ∀ l id, (l, id) ∈ entPairs es ids →
    ∃ ls, CompiledRun fx s.attachIds s.filterIds l.flag l.rules id ls ∧ Placed s.gsub s.gpos id ls
  ordered : ids.Pairwise idLt
  below : ∀ id ∈ ids, idBelow s id
  featKeys : (s.features.map (·.1)).Nodup
  feats : ∀ tag lang script id, id ∈ (s.features.lookup (tag, lang, script)).getD [] ↔
    ∃ e, (e, id) ∈ es.zip ids ∧ (tag, script, lang) ∈ e.regs
  namedKeys : ∀ n, (s.named.lookup n).isSome = true ↔ n ∈ used
  namedEnt : ∀ n id, s.named.lookup n = some id ↔ ∃ l, (l, id) ∈ entPairs es ids ∧ l.name = some n

theorem TopInvG.defs {fx : Fixes} {U : List (List Glyph)} {dls : List Sys} {es : List Src.Entry} {s : St} {ids : List LookupId}
    {used : List String} (h : TopInvG fx U dls es s ids used) : Defs fx U es ids s used :=
  ⟨h.idsInv, h.attachU, h.len, h.ents, h.ordered, h.below, h.namedKeys, h.namedEnt⟩

/-- no `language dflt;` statement: `Src.langStmts` would list it, while among the language systems the compilation
    context enters (`stmtSys`) it could not be told from a `script` statement (`langOf`) -/
def NoLangDflt (body : List Stmt) : Prop := ∀ l ex, Stmt.language l ex ∈ body → l ≠ "dflt"

theorem langOf_stmtSys {body : List Stmt} (h : NoLangDflt body) (c : Option Tag) :
    langOf (stmtSys (c.getD "DFLT") body) = Src.langStmts c body := by
  induction body generalizing c with
  | nil => rfl
  | cons st body ih =>
    have hb : NoLangDflt body := fun l ex hm => h l ex (List.mem_cons_of_mem _ hm)
    simp only [stmtSys, langOf, List.filter_append, List.map_append]
    cases st with
    | script t =>
      simp only [stmtSys1, scriptAfterStmt, Src.langStmts]
      rw [← ih hb (some t)]
      simp [langOf]
    | language l ex =>
      have hl : l ≠ "dflt" := h l ex (by simp)
      simp only [stmtSys1, scriptAfterStmt, Src.langStmts]
      rw [← ih hb c]
      simp [langOf, hl]
    | _ => simp only [stmtSys1, scriptAfterStmt, Src.langStmts]; rw [← ih hb c]; simp [langOf]

theorem mem_allPairs {ls : List (Tag × Tag)} {body : List Stmt} {sc lg : Tag} :
    (sc, lg) ∈ Src.allPairs ls body ↔ (sc, lg) ∈ ls ∨ ∃ ex, (sc, lg, ex) ∈ Src.langStmts none body := by
  simp only [Src.allPairs, List.mem_eraseDups, List.mem_append, List.mem_map]
  constructor
  · rintro (h | ⟨⟨a, b, ex⟩, hm, he⟩)
    · exact Or.inl h
    · simp only [Prod.mk.injEq] at he
      obtain ⟨rfl, rfl⟩ := he
      exact Or.inr ⟨ex, hm⟩
  · rintro (h | ⟨ex, hm⟩)
    · exact Or.inl h
    · exact Or.inr ⟨(sc, lg, ex), hm, rfl⟩

theorem mem_regsFor {ls : List (Tag × Tag)} {tag : Tag} {body : List Stmt} {reg : Src.Reg} {tag' sc lg : Tag} :
    (tag', sc, lg) ∈ Src.regsFor ls tag body reg ↔
      tag' = tag ∧ (sc, lg) ∈ Src.allPairs ls body ∧ Src.registered ls body reg sc lg = true := by
  simp only [Src.regsFor, List.mem_map, List.mem_filter]
  constructor
  · rintro ⟨⟨a, b⟩, ⟨hm, hr⟩, he⟩
    simp only [Prod.mk.injEq] at he
    obtain ⟨rfl, rfl, rfl⟩ := he
    exact ⟨rfl, hm, hr⟩
  · rintro ⟨rfl, hm, hr⟩
    exact ⟨(sc, lg), ⟨hm, hr⟩, rfl⟩

theorem registered_declared {dls : List Sys} {evs : List Ev} (hA : EvsWf dls evs) {r : Src.Reg}
    {id : LookupId} {sc lg : Tag} (hitem : itemAt evs r id)
    (hreg : registeredWith dls (langOf (sysEvs evs)) r sc lg = true) : (sc, lg) ∈ dls := by
  cases r with
  | root =>
    simp only [registeredWith, Bool.and_eq_true, List.contains_eq_mem, decide_eq_true_eq] at hreg
    exact hreg.1
  | script S =>
    simp only [registeredWith, Bool.and_eq_true, Bool.or_eq_true, beq_iff_eq] at hreg
    obtain ⟨rfl, h2⟩ := hreg
    rcases h2 with rfl | h2
    · exact hA.seenDls _ (itemAt_script_seen hitem)
    · have := any_langOf_false.mp h2
      exact hA.seenDls _ (List.mem_map.mpr ⟨_, this.1, rfl⟩)
  | lang S L =>
    simp only [registeredWith, Bool.and_eq_true, beq_iff_eq] at hreg
    obtain ⟨rfl, rfl⟩ := hreg
    exact hA.seenDls _ (itemAt_lang_seen hitem)

/-- `add_feature` is `featureStart`, the statements of the block, `featureTail` (`feature_eq`).  `start_feature`: a fresh
    `ActiveFeature` with the declared language systems, the flags cleared -/
def featureStart (s : St) (tag : Tag) : St :=
  ({ s with active := some { tag := tag, defaults := s.defaultSystems } }).clearFlags

/-- `end_feature`: the current lookup is finished and added, `add_to_features` folds the lookups of `ActiveFeature` into the
    feature map, the feature in progress, the script and the flags are cleared -/
def featureTail (s2 : St) : St :=
  ({ (match s2.finishAndAdd.active with
      | some a => { s2.finishAndAdd with features := a.finish.foldl (fun fs ((script, lang), ls) => featInsert (a.tag, lang, script) ls fs) s2.finishAndAdd.features }
      | none => s2.finishAndAdd) with active := none, script := none }).clearFlags

theorem feature_eq (fx : Fixes) (s : St) (tag : Tag) (body : List Stmt) :
    s.feature fx tag body = featureTail (body.foldl (St.stmt fx) (featureStart s tag)) := rfl

theorem featureTail_eq {s2 : St} {a : Active} (hn : s2.curName = none) (ha : s2.flush.active = some a) :
    featureTail s2 = { s2.flush with
      features := a.finish.foldl (fun fs (x : Sys × List LookupId) => featInsert (a.tag, x.1.2, x.1.1) x.2 fs) s2.flush.features,
      active := none, script := none, flag := (0, none) } := by
  rw [← finishAndAdd_eq s2 fun _ => hn] at ha ⊢
  simp only [featureTail, ha, St.clearFlags]

/-- A feature block: `FSim` holds at `featureStart`; `sim_body` and the closing flush carry it to the end of the block, where
    `ASpec.fold` says what `ActiveFeature` holds and `featureTail_eq` what goes into the feature map. -/
theorem top_feature_gen {fx : Fixes} {U : List (List Glyph)} {dls : List Sys}
    {es : List Src.Entry} {s : St} {ids : List LookupId} {used : List String} (tag : Tag) {body : List Stmt}
    (hinv : TopInvG fx U dls es s ids used) (hbody : BodyOk U {} used body)
    (hsys : sysOk dls none [] (stmtSys "DFLT" body) = true) (hnld : NoLangDflt body) :
    ∃ ids', TopInvG fx U dls (Src.addItems dls tag body es (Src.featureItems body)) (s.feature fx tag body) ids'
      (namesAfter used body) := by
  obtain ⟨c1, c2, c3, _, _⟩ := hinv.closed
  have hinit : FSim { fx, U, tag, body, ls := dls, dls := s.defaultSystems, es0 := es, ids0 := ids, s0 := s } {}
      (featureStart s tag) [] ids used := {
    rel := ⟨flagCode_empty, by simp [featureStart, St.clearFlags, c1]⟩
    normFlag := ⟨by simp, by simp⟩
    normCur := by simp
    reg := rfl
    curReg := by simp
    script := by simp [featureStart, St.clearFlags, c3, regScript]
    curName := c2
    o := {
      defs := hinv.defs.frame (Grew.refl s) rfl hinv.idsInv hinv.attachU
      ctx := ⟨rfl, rfl⟩
      active := rfl
      regs := fun key id => by simp [Src.addItems, itemAt_nil] } }
  rw [feature_eq]
  obtain ⟨evs2, ids2, h2, hs2⟩ := sim_body hinit hbody
  generalize body.foldl (St.stmt fx) (featureStart s tag) = s2 at h2 ⊢
  obtain ⟨evs, ids', h3, hs3⟩ := sim_flush h2
  have hsysE : sysEvs evs = stmtSys "DFLT" body := by rw [hs3, hs2]; simp [regScript, sysEvs]
  have hA : ASpec dls evs (evs.foldl evStep (a0 tag s.defaultSystems)) := by
    simpa using ASpec.fold evs [] (a0 tag s.defaultSystems) (ASpec.init tag hinv.dlsOk) (hsysE ▸ hsys)
  have hreg : ∀ r sc lg, Src.registered dls body r sc lg = registeredWith dls (langOf (sysEvs evs)) r sc lg := fun r sc lg => by
    rw [registered_eq, ← langOf_stmtSys hnld none, hsysE]; rfl
  rw [featureTail_eq h2.curName h3.o.active, tag_fold, h3.o.ctx.2]
  have hd := h3.o.defs.frame (s' := { s2.flush with
      features := (evs.foldl evStep (a0 tag s.defaultSystems)).finish.foldl
        (fun fs (x : Sys × List LookupId) => featInsert (tag, x.1.2, x.1.1) x.2 fs) s.features,
      active := none, script := none, flag := (0, none) }) (Grew.refl _) rfl h3.o.defs.idsInv h3.o.defs.attachU
  rw [Src.featureItems]
  exact ⟨ids', { hd with
    closed := ⟨flush_cur, h3.curName, rfl, rfl, rfl⟩
    dlsOk := fun sys => by
      rw [show St.defaultSystems _ = s.defaultSystems by simp [St.defaultSystems, h3.o.ctx.1]]
      exact hinv.dlsOk sys
    featKeys := featKeys_foldl tag hinv.featKeys
    -- under a key the map gains what `ActiveFeature` hands over (`finish_spec`), the entries gain `regsFor` of the
    -- positions of their items (`h3.o.regs`): by `hreg` the same ids
    feats := fun tag' lang script id => by
      show id ∈ (List.lookup _ (List.foldl _ s.features _)).getD [] ↔ _
      rw [lookup_foldl_featInsert, List.mem_append, hinv.feats, h3.o.regs (tag', script, lang) id]
      apply or_congr Iff.rfl
      have hfin := finish_spec hA script lang id
      simp only [List.mem_flatMap, List.mem_filter, decide_eq_true_eq, Prod.mk.injEq]
      constructor
      · rintro ⟨⟨⟨sc', lg'⟩, l⟩, ⟨hm, rfl, rfl, rfl⟩, hid⟩
        obtain ⟨r, hit, hr⟩ := hfin.mp ⟨l, hm, hid⟩
        exact ⟨r, hit, mem_regsFor.mpr ⟨rfl,
          mem_allPairs.mpr (Or.inl (registered_declared hA.ev hit hr)), (hreg ..).trans hr⟩⟩
      · rintro ⟨r, hit, hk⟩
        obtain ⟨rfl, _, hr⟩ := mem_regsFor.mp hk
        obtain ⟨l, hm, hid⟩ := hfin.mpr ⟨r, hit, (hreg ..).symm.trans hr⟩
        exact ⟨((script, lang), l), ⟨hm, rfl, rfl, rfl⟩, hid⟩ }⟩

/-- A top-level lookup block: `block_run`, then `Defs.flush` under the name of the block; no feature is in progress, so the
    feature map is left as it is. -/
theorem top_lookup_gen {fx : Fixes} {U : List (List Glyph)} {dls : List Sys}
    {es : List Src.Entry} {s : St} {ids : List LookupId} {used : List String} {n : String} {body : List BStmt}
    (hinv : TopInvG fx U dls es s ids used) (hblock : BlockOk U body) (hname : n ∉ used) :
    ∃ ids', TopInvG fx U dls (es ++ [⟨⟨some n, Src.blockFlag {} body, Src.blockRules body⟩, []⟩]) (s.lookupBlock fx n body) ids'
      (n :: used) := by
  obtain ⟨c1, c2, c3, c4, _⟩ := hinv.closed
  obtain ⟨hrun, hi, hu, hg, same⟩ :=
    block_run (fx := fx) (s := { s.clearFlags with curName := some n }) hblock ⟨flagCode_empty, c1⟩ hinv.idsInv hinv.attachU .root
  generalize hs2 : body.foldl (St.blockStmt fx) { s.clearFlags with curName := some n } = s2 at hrun hi hu hg same
  have hact : s2.flush.active = none := flush_active_none (same.active.trans c4)
  have hstate : s.lookupBlock fx n body = s2.flush.clearFlags := by
    have e0 : s.finishAndAdd = s := by rw [finishAndAdd_eq s fun _ => c2, flush_of_cur_none c1]
    simp only [lookupBlock_eq, e0, c4, Option.isNone_none, ↓reduceIte]
    rw [hs2, finishAndAdd_eq s2 fun e => absurd e hrun.cur_ne, if_neg]
    rw [hact]; simp
  rw [hstate]
  have hd := (hinv.defs.frame hg same.named hi hu).flush hrun same.curName (fun _ e => by cases e; exact hname) []
  have hc := flush_sameCtx s2
  have hfe : s2.flush.clearFlags.features = s.features := hc.features.trans same.features
  generalize nextId s2 (headKind (Src.blockRules body)).isPos = id at hd
  have hzip : (es ++ [(⟨⟨some n, Src.blockFlag {} body, Src.blockRules body⟩, []⟩ : Src.Entry)]).zip (ids ++ [id]) =
      es.zip ids ++ [((⟨⟨some n, Src.blockFlag {} body, Src.blockRules body⟩, []⟩ : Src.Entry), id)] := by
    rw [List.zip_append hinv.len]; rfl
  exact ⟨ids ++ [id], { hd with
    closed := ⟨flush_cur, flush_curName s2 fun e => absurd e hrun.cur_ne, hc.script.trans (same.script.trans c3), hact, rfl⟩
    dlsOk := fun sys => by
      have hls : s2.flush.clearFlags.langsys = s.langsys := hc.langsys.trans same.langsys
      unfold St.defaultSystems
      rw [hls]; exact hinv.dlsOk sys
    featKeys := by rw [hfe]; exact hinv.featKeys
    feats := fun tag lang script id' => by
      rw [hfe, hinv.feats, hzip]
      simp only [List.mem_append, List.mem_singleton, Prod.mk.injEq]
      constructor
      · rintro ⟨e, hm, hk'⟩; exact ⟨e, Or.inl hm, hk'⟩
      · rintro ⟨e, (hm | ⟨rfl, _⟩), hk'⟩
        · exact ⟨e, hm, hk'⟩
        · simp at hk' }⟩

/-- what the top-level statements after the `languagesystem` statements have to satisfy, `used` being the lookup
    names defined before them -/
def TopsOk (U : List (List Glyph)) (dls : List Sys) : List String → List Top → Prop
  | _, [] => True
  | _, .langsys .. :: _ => False
  | used, .lookup n body :: rest => n ∉ used ∧ BlockOk U body ∧ TopsOk U dls (n :: used) rest
  | used, .feature _ body :: rest =>
    BodyOk U {} used body ∧ sysOk dls none [] (stmtSys "DFLT" body) = true ∧ NoLangDflt body ∧
    TopsOk U dls (namesAfter used body) rest

theorem tops_fold {fx : Fixes} {U : List (List Glyph)} {dls : List Sys} {rest : List Top} :
    ∀ {es : List Src.Entry} {s : St} {ids : List LookupId} {used : List String}, TopInvG fx U dls es s ids used →
    TopsOk U dls used rest →
    ∃ ids' used', TopInvG fx U dls (Src.entriesOf dls es rest) (rest.foldl (St.top fx) s) ids' used' := by
  induction rest with
  | nil => intro es s ids used h _; exact ⟨ids, used, h⟩
  | cons t rest ih =>
    intro es s ids used hinv hok
    cases t with
    | langsys a b => simp [TopsOk] at hok
    | lookup n body =>
      obtain ⟨hname, hblock, hrest⟩ := hok
      obtain ⟨ids1, h1⟩ := top_lookup_gen hinv hblock hname
      simp only [List.foldl_cons, Src.entriesOf, St.top]
      exact ih h1 hrest
    | feature tag body =>
      obtain ⟨hbody, hsys, hnld, hrest⟩ := hok
      obtain ⟨ids1, h1⟩ := top_feature_gen tag hinv hbody hsys hnld
      simp only [List.foldl_cons, Src.entriesOf, St.top]
      exact ih h1 hrest

end Fontc.FeaCompile
