/-
  C11 simulation: `ActiveFeature`.  The language systems a lookup of a feature block
  ends up registered for, after any sequence of `script` / `language` statements in the modelled
  subset, are those the source semantics (`Src.registered`) names (`finish_spec`).  `ASpec` says what the two
  maps of `ActiveFeature` hold after a list of events, key by key, as equations between lists.
-/
import FontcProofs.FeaItems
import FontcProofs.FeaMap

namespace Fontc.FeaCompile
open Cmp

/-- the key under which `ActiveFeature` keeps the lookups added before any `script` statement -/
def DD : Sys := ("DFLT", "dflt")

/-- The conditions on the `script` / `language` statements of a feature block, on the list of language systems
    they enter (`cur`: the script in force, `seen`: the systems entered before): each is a declared one and is
    entered once; `S/dflt` is entered without `exclude_dflt`, a language of `S` only while `S` is in force (so not
    before the first `script` statement). -/
def sysOk (dls : List Sys) : Option Tag → List Sys → List (Sys × Bool) → Bool
  | _, _, [] => true
  | cur, seen, (s, ex) :: rest =>
    !seen.contains s && dls.contains s && (if s.2 == "dflt" then !ex else cur == some s.1) &&
    sysOk dls (some s.1) (seen ++ [s]) rest

/-- the `language` statements among the language systems entered, as `Src.langStmts` lists them -/
def langOf (l : List (Sys × Bool)) : List (Tag × Tag × Bool) :=
  (l.filter (·.1.2 != "dflt")).map fun x => (x.1.1, x.1.2, x.2)

/-- `Src.registered` with the `language` statements of the block given as a list -/
def registeredWith (langsys : List (Tag × Tag)) (stmts : List (Tag × Tag × Bool)) (reg : Src.Reg) (script lang : Tag) : Bool :=
  match reg with
  | .root => langsys.contains (script, lang) && !(stmts.any fun (s, l, ex) => s == script && l == lang && ex)
  | .script s =>
    s == script && (lang == "dflt" || stmts.any fun (s', l, ex) => s' == s && l == lang && !ex)
  | .lang s l => s == script && l == lang

theorem registered_eq (langsys : List (Tag × Tag)) (body : List Stmt) (reg : Src.Reg) (script lang : Tag) :
    Src.registered langsys body reg script lang = registeredWith langsys (Src.langStmts none body) reg script lang := by
  cases reg <;> rfl

theorem any_langOf (l : List (Sys × Bool)) (sc lg : Tag) (b : Bool) :
    ((langOf l).any fun (s, l', ex) => s == sc && l' == lg && (ex == b)) = true ↔ ((sc, lg), b) ∈ l ∧ lg ≠ "dflt" := by
  simp only [langOf, List.any_eq_true, List.mem_map, List.mem_filter, bne_iff_ne, ne_eq, Bool.and_eq_true, beq_iff_eq]
  constructor
  · rintro ⟨⟨s, l', ex⟩, ⟨⟨⟨s0, l0⟩, ex0⟩, ⟨hm, hne⟩, he⟩, ⟨h1, h2⟩, h3⟩
    simp only [Prod.mk.injEq] at he
    obtain ⟨rfl, rfl, rfl⟩ := he
    simp only at h1 h2 h3 hne
    subst h1 h2 h3
    exact ⟨hm, hne⟩
  · rintro ⟨hm, hne⟩
    exact ⟨(sc, lg, b), ⟨((sc, lg), b), ⟨hm, hne⟩, rfl⟩, ⟨rfl, rfl⟩, rfl⟩

theorem any_langOf_true {l : List (Sys × Bool)} {sc lg : Tag} :
    ((langOf l).any fun (s, l', ex) => s == sc && l' == lg && ex) = true ↔ ((sc, lg), true) ∈ l ∧ lg ≠ "dflt" := by
  have := any_langOf l sc lg true
  simpa using this

theorem any_langOf_false {l : List (Sys × Bool)} {sc lg : Tag} :
    ((langOf l).any fun (s, l', ex) => s == sc && l' == lg && !ex) = true ↔ ((sc, lg), false) ∈ l ∧ lg ≠ "dflt" := by
  have := any_langOf l sc lg false
  simpa using this

theorem exists_registered {evs : List Ev} {id : LookupId} {dls : List Sys} {st : List (Tag × Tag × Bool)} {sc lg : Tag} :
    (∃ r, itemAt evs r id ∧ registeredWith dls st r sc lg = true) ↔
      (itemAt evs .root id ∧ registeredWith dls st .root sc lg = true) ∨
      (itemAt evs (.script sc) id ∧ registeredWith dls st (.script sc) sc lg = true) ∨ itemAt evs (.lang sc lg) id := by
  constructor
  · rintro ⟨r, h1, h2⟩
    cases r with
    | root => exact Or.inl ⟨h1, h2⟩
    | script S =>
      obtain rfl : S = sc := by simp only [registeredWith, Bool.and_eq_true, beq_iff_eq] at h2; exact h2.1
      exact Or.inr (Or.inl ⟨h1, h2⟩)
    | lang S L =>
      simp only [registeredWith, Bool.and_eq_true, beq_iff_eq] at h2
      obtain ⟨rfl, rfl⟩ := h2
      exact Or.inr (Or.inr h1)
  · rintro (h | h | h)
    · exact ⟨_, h⟩
    · exact ⟨_, h⟩
    · exact ⟨_, h, by simp [registeredWith]⟩

/-- what `sysOk` guarantees of the language systems entered so far: each is declared and entered once,
    a script is entered by its `script` statement, before any of its languages -/
structure EvsWf (dls : List Sys) (evs : List Ev) : Prop where
  noLangYet : ∀ S, curOf evs = some (S, "dflt") → ∀ L, (S, L) ∈ seenOf evs → L = "dflt"
  scriptSeen : ∀ S L, (S, L) ∈ seenOf evs → (S, "dflt") ∈ seenOf evs
  seenNodup : (seenOf evs).Nodup
  seenDls : ∀ s ∈ seenOf evs, s ∈ dls

theorem EvsWf.nil {dls : List Sys} : EvsWf dls [] := by
  constructor <;> simp [seenOf, sysEvs, curOf]

theorem EvsWf.item {dls : List Sys} {evs : List Ev} (h : EvsWf dls evs) {id : LookupId} : EvsWf dls (evs ++ [.item id]) := by
  constructor <;> rw [seenOf_snoc_item]
  · rw [curOf_snoc_item]; exact h.noLangYet
  · exact h.scriptSeen
  · exact h.seenNodup
  · exact h.seenDls

theorem EvsWf.sys {dls : List Sys} {evs : List Ev} (h : EvsWf dls evs) {s : Sys} (ex : Bool)
    (hs1 : s ∉ seenOf evs) (hs2 : s ∈ dls) (hs3 : s.2 ≠ "dflt" → (curOf evs).map (·.1) = some s.1) :
    EvsWf dls (evs ++ [.sys s ex]) := by
  obtain ⟨S, L⟩ := s
  have hSseen : (S, "dflt") ∈ seenOf evs ++ [(S, L)] := by
    by_cases hL : L = "dflt"
    · simp [hL]
    · obtain ⟨⟨S0, l0⟩, hcur, rfl⟩ := Option.map_eq_some_iff.mp (hs3 hL)
      exact List.mem_append_left _ (h.scriptSeen S0 l0 (curOf_mem_seen hcur))
  constructor <;> rw [seenOf_snoc_sys]
  · intro S' hS' L' hm
    rw [curOf_snoc_sys] at hS'
    cases hS'
    rcases List.mem_append.mp hm with hm | hm
    · exact absurd (h.scriptSeen S L' hm) hs1
    · simpa using hm
  · intro S' L' hm
    rcases List.mem_append.mp hm with hm | hm
    · exact List.mem_append_left _ (h.scriptSeen S' L' hm)
    · cases List.mem_singleton.mp hm; exact hSseen
  · exact nodup_snoc h.seenNodup hs1
  · intro s' hs'
    rcases List.mem_append.mp hs' with h1 | h1
    · exact h.seenDls s' h1
    · cases List.mem_singleton.mp h1; exact hs2

theorem lookup_sysEvs_isSome {evs : List Ev} {k : Sys} : ((sysEvs evs).lookup k).isSome ↔ k ∈ seenOf evs := by
  rw [lookup_isSome_iff]; simp [seenOf]

theorem lookup_sysEvs_none {evs : List Ev} {k : Sys} (h : k ∉ seenOf evs) : (sysEvs evs).lookup k = none := by
  rwa [← Option.not_isSome_iff_eq_none, lookup_sysEvs_isSome]

/-- what `lookups` holds under a key other than `DD`: nothing until `language L` is entered in script `S`; from
    then on what was inherited at that moment, followed by the lookups added under it.  The inherited part is read
    off all the events: once a language of `S` is entered, nothing more is added at the root or under `S/dflt`
    (`EvsWf.noLangYet`). -/
def langVal (evs : List Ev) (k : Sys) : Option (List LookupId) :=
  if k.2 = "dflt" then none else
    ((sysEvs evs).lookup k).map fun ex =>
      (if ex then [] else idsAt evs .root ++ idsAt evs (.script k.1)) ++ idsAt evs (.lang k.1 k.2)

/-- The two maps of `ActiveFeature` after the events `evs`, key by key, as lists: lookups are kept in the
    order they were added.  `dls` are the language systems as the source declares them; the compilation context
    drops a repeated `languagesystem` statement, hence `defaults` by members. -/
structure ASpec (dls : List Sys) (evs : List Ev) (a : Active) : Prop where
  ev : EvsWf dls evs
  defaults : ∀ x, x ∈ a.defaults ↔ x ∈ dls
  cur : a.curSys = curOf evs
  sdKeys : (a.scriptDefault.map (·.1)).Nodup
  lkKeys : (a.lookups.map (·.1)).Nodup
  root : (a.lookups.lookup DD).getD [] = idsAt evs .root
  script : ∀ S, (a.scriptDefault.lookup S).getD [] = idsAt evs (.script S)
  lang : ∀ k, k ≠ DD → a.lookups.lookup k = langVal evs k

theorem ASpec.init (tag : Tag) {d dls : List Sys} (hd : ∀ x, x ∈ d ↔ x ∈ dls) :
    ASpec dls [] { tag := tag, defaults := d } := by
  refine ⟨.nil, hd, rfl, by simp, by simp, rfl, fun S => rfl, fun k _ => ?_⟩
  simp [langVal, sysEvs]

theorem addLookup_eq (a : Active) (id : LookupId) :
    a.addLookup id = match regOfCur a.curSys with
      | .root => { a with lookups := assocPush DD id a.lookups }
      | .script S => { a with scriptDefault := assocPush S id a.scriptDefault }
      | .lang S L => { a with lookups := assocPush (S, L) id a.lookups } := by
  unfold Active.addLookup regOfCur
  cases a.curSys with
  | none => rfl
  | some s =>
    obtain ⟨S, L⟩ := s
    simp only [regOfSys]
    by_cases hL : (L == "dflt") = true <;> simp [hL]

/-- By the position the events lead to (`addLookup_eq`): the lookup goes under `DD`, under the script in `scriptDefault`, or
    under the language system in force. -/
theorem ASpec.item {dls : List Sys} {evs : List Ev} {a : Active} (h : ASpec dls evs a) (id : LookupId) :
    ASpec dls (evs ++ [.item id]) (a.addLookup id) := by
  have hsys := sysEvs_snoc_item evs id
  have hreg : regAfter .root evs = regOfCur a.curSys := by rw [regAfter_root, h.cur]
  have hcurOf := (curOf_snoc_item evs id).symm ▸ h.cur
  rw [addLookup_eq]
  cases hc : regOfCur a.curSys with
  | root =>
    have hnil : sysEvs evs = [] :=
      List.getLast?_eq_none_iff.mp (by simpa [curOf] using h.cur.symm.trans (regOfCur_eq_root hc))
    exact {
      ev := h.ev.item, defaults := h.defaults, cur := hcurOf, sdKeys := h.sdKeys
      lkKeys := assocPush_keys_nodup h.lkKeys
      root := by simp [lookup_assocPush, idsAt_snoc_item, hreg, hc, h.root]
      script := fun S => by simp [idsAt_snoc_item, hreg, hc, h.script]
      lang := fun k hk => by simp [lookup_assocPush, hk, h.lang k hk, langVal, hsys, hnil] }
  | script S =>
    have hcur : curOf evs = some (S, "dflt") := h.cur.symm.trans (regOfCur_eq_script hc)
    exact {
      ev := h.ev.item, defaults := h.defaults, cur := hcurOf, lkKeys := h.lkKeys
      sdKeys := assocPush_keys_nodup h.sdKeys
      root := by simp [idsAt_snoc_item, hreg, hc, h.root]
      script := fun S' => by
        simp only [lookup_assocPush, idsAt_snoc_item, hreg, hc, h.script, Src.Reg.script.injEq]
        by_cases hS : S' = S
        · subst hS; simp
        · simp [hS, Ne.symm hS, h.script]
      lang := fun k hk => by
        simp only [h.lang k hk, langVal, hsys, idsAt_snoc_item, hreg, hc, reduceCtorEq, ↓reduceIte, List.append_nil,
          Src.Reg.script.injEq]
        split
        · rfl
        · rename_i hk2
          by_cases hS : S = k.1
          -- no language of the script has been entered yet
          · rw [lookup_sysEvs_none fun hm => hk2 (h.ev.noLangYet S hcur k.2 (by rw [hS]; exact hm))]; rfl
          · simp [hS] }
  | lang S L =>
    obtain ⟨hcs, hL⟩ := regOfCur_eq_lang hc
    have hcur : curOf evs = some (S, L) := h.cur.symm.trans hcs
    have hneDD : (S, L) ≠ DD := by simp [DD, hL]
    obtain ⟨ex, hex⟩ := Option.isSome_iff_exists.mp (lookup_sysEvs_isSome.mpr (curOf_mem_seen hcur))
    exact {
      ev := h.ev.item, defaults := h.defaults, cur := hcurOf, sdKeys := h.sdKeys
      lkKeys := assocPush_keys_nodup h.lkKeys
      root := by
        have : (DD == (S, L)) = false := by simpa using hneDD.symm
        simp [lookup_assocPush, this, idsAt_snoc_item, hreg, hc, h.root]
      script := fun S' => by simp [idsAt_snoc_item, hreg, hc, h.script]
      lang := fun k hk => by
        simp only [lookup_assocPush, h.lang k hk, langVal, hsys, idsAt_snoc_item, hreg, hc, reduceCtorEq, ↓reduceIte,
          List.append_nil, Src.Reg.lang.injEq]
        by_cases hkk : k = (S, L)
        · subst hkk
          simp [h.lang _ hneDD, langVal, hL, hex]
        · have : (k == (S, L)) = false := by simpa using hkk
          have : ¬ (S = k.1 ∧ L = k.2) := fun ⟨e1, e2⟩ => hkk (Prod.ext e1.symm e2.symm)
          simp [*] }

theorem ASpec.sys {dls : List Sys} {evs : List Ev} {a : Active} (h : ASpec dls evs a) {s : Sys} (ex : Bool)
    (hs1 : s ∉ seenOf evs) (hs2 : s ∈ dls) (hs3 : s.2 ≠ "dflt" → (curOf evs).map (·.1) = some s.1) :
    ASpec dls (evs ++ [.sys s ex]) (a.setSystem s ex) := by
  have hev := h.ev.sys ex hs1 hs2 hs3
  obtain ⟨S, L⟩ := s
  have hsys := sysEvs_snoc_sys evs (S, L) ex
  -- `set_system` leaves `scriptDefault` as it is, and `lookups` gains at most the new key
  have hstep : ∀ a' : Active, (∀ x, x ∈ a'.defaults ↔ x ∈ dls) → a'.curSys = some (S, L) → a'.scriptDefault = a.scriptDefault →
      (a'.lookups.map (·.1)).Nodup → (a'.lookups.lookup DD).getD [] = idsAt evs .root →
      (∀ k, k ≠ DD → a'.lookups.lookup k = langVal (evs ++ [.sys (S, L) ex]) k) → ASpec dls (evs ++ [.sys (S, L) ex]) a' :=
    fun a' h1 h2 h3 h4 h5 h6 => {
      ev := hev, defaults := h1, lkKeys := h4, lang := h6
      cur := by rw [curOf_snoc_sys]; exact h2
      sdKeys := h3 ▸ h.sdKeys
      root := by rw [idsAt_snoc_sys]; exact h5
      script := fun S' => by rw [idsAt_snoc_sys, h3]; exact h.script S' }
  by_cases hL : L = "dflt"
  · subst hL
    refine hstep { a with curSys := some (S, "dflt") } h.defaults rfl rfl h.lkKeys h.root fun k hk => ?_
    simp only [h.lang k hk, langVal, hsys, idsAt_snoc_sys, List.lookup_append, lookup_cons_ite, List.lookup_nil]
    by_cases hk2 : k.2 = "dflt"
    · simp [hk2]
    · have : (k == (S, "dflt")) = false := by rw [beq_eq_false_iff_ne]; rintro rfl; exact hk2 rfl
      simp [hk2, this]
  · have hneDD : (S, L) ≠ DD := by simp [DD, hL]
    have hnone := lookup_sysEvs_none hs1
    have hnokey : a.lookups.lookup (S, L) = none := by rw [h.lang _ hneDD, langVal, hnone]; simp
    have hany : a.lookups.any (·.1 == (S, L)) = false := by rw [← lookup_isSome_eq_any, hnokey]; rfl
    have hLb : (L != "dflt") = true := by simp [hL]
    have hdl : a.defaults.contains (S, L) = true := by simpa using (h.defaults _).mpr hs2
    have hnoitem : idsAt evs (.lang S L) = [] :=
      List.eq_nil_iff_forall_not_mem.mpr fun id hm => hs1 (itemAt_lang_seen (mem_idsAt.mp hm))
    have ha : a.setSystem (S, L) ex =
        { a with curSys := some (S, L),
                 lookups := a.lookups ++ [((S, L), if ex then [] else (a.lookups.lookup DD).getD [] ++ (a.scriptDefault.lookup S).getD [])] } := by
      simp only [Active.setSystem, hLb, ↓reduceIte, hany, Bool.false_eq_true, hdl, Bool.true_or, assocGet, DD]
    rw [ha]
    refine hstep _ h.defaults rfl rfl ?_ ?_ fun k hk => ?_
    · rw [List.map_append]
      exact nodup_snoc h.lkKeys (not_mem_keys_of_any_false (by simp [hany]))
    · have : (DD == (S, L)) = false := by simpa using hneDD.symm
      simp [List.lookup_append, lookup_cons_ite, this, h.root]
    · simp only [h.lang k hk, h.root, h.script, langVal, hsys, idsAt_snoc_sys, List.lookup_append, lookup_cons_ite,
        List.lookup_nil]
      by_cases hk2 : k.2 = "dflt"
      · have : (k == (S, L)) = false := by rw [beq_eq_false_iff_ne]; rintro rfl; exact hL hk2
        simp [hk2, this]
      · by_cases hkk : k = (S, L)
        · subst hkk; simp [hL, hnone, hnoitem]
        · have : (k == (S, L)) = false := by simpa using hkk
          simp [hk2, this]

theorem ASpec.fold {dls : List Sys} : ∀ (rest pre : List Ev) (a : Active), ASpec dls pre a →
    sysOk dls ((curOf pre).map (·.1)) (seenOf pre) (sysEvs rest) = true → ASpec dls (pre ++ rest) (rest.foldl evStep a) := by
  intro rest
  induction rest with
  | nil => intro pre a h _; simpa using h
  | cons e rest ih =>
    intro pre a h hok
    rw [show pre ++ e :: rest = (pre ++ [e]) ++ rest by simp]
    cases e with
    | item id =>
      exact ih _ _ (h.item id) (by rw [curOf_snoc_item, seenOf_snoc_item]; exact hok)
    | sys s ex =>
      simp only [sysEvs, sysOk, Bool.and_eq_true, Bool.not_eq_true', List.contains_eq_mem, decide_eq_false_iff_not,
        decide_eq_true_eq] at hok
      obtain ⟨⟨⟨h1, h2⟩, h3⟩, h4⟩ := hok
      refine ih _ _ (h.sys ex h1 h2 fun hne => ?_) (by rw [curOf_snoc_sys, seenOf_snoc_sys]; exact h4)
      simpa [hne] using h3

/-- one step of the first loop of `add_to_features` (`Active.finish_eq`): the entry `p` of `scriptDefault` replaces what stands
    under `p.1/dflt`, after the root lookups `D` if that language system is declared -/
def sdStep (dls : List Sys) (D : List LookupId) (ls : List (Sys × List LookupId)) (p : Tag × List LookupId) :
    List (Sys × List LookupId) :=
  (ls.filter (·.1 != (p.1, "dflt"))) ++ [((p.1, "dflt"), if dls.contains (p.1, "dflt") then D ++ p.2 else p.2)]

/-- one step of the second loop: a declared language system without an entry gets the root lookups `D` -/
def dlStep (D : List LookupId) (ls : List (Sys × List LookupId)) (sys : Sys) : List (Sys × List LookupId) :=
  if ls.any (·.1 == sys) then ls else ls ++ [(sys, D)]

theorem Cmp.Active.finish_eq (a : Active) :
    a.finish = a.defaults.foldl (dlStep ((a.lookups.lookup DD).getD []))
      (a.scriptDefault.foldl (sdStep a.defaults ((a.lookups.lookup DD).getD [])) (a.lookups.filter (·.1 != DD))) := rfl

theorem mem_fold_sdStep {dls : List Sys} {D : List LookupId} {sd : List (Tag × List LookupId)}
    (hnd : (sd.map (·.1)).Nodup) {acc : List (Sys × List LookupId)} {sys : Sys} {l : List LookupId} :
    (sys, l) ∈ sd.foldl (sdStep dls D) acc ↔
      ((sys, l) ∈ acc ∧ ∀ p ∈ sd, sys ≠ (p.1, "dflt")) ∨
      ∃ p ∈ sd, sys = (p.1, "dflt") ∧ l = (if dls.contains (p.1, "dflt") then D ++ p.2 else p.2) := by
  induction sd generalizing acc with
  | nil => simp
  | cons q sd ih =>
    simp only [List.map_cons, List.nodup_cons] at hnd
    simp only [List.foldl_cons]
    rw [ih hnd.2]
    simp only [sdStep, List.mem_append, List.mem_filter, Prod.mk.injEq, bne_iff_ne, ne_eq,
      List.mem_cons, forall_eq_or_imp, exists_eq_or_imp, List.not_mem_nil, or_false]
    constructor
    · rintro (⟨(⟨h1, h2⟩ | ⟨h1, h2⟩), h3⟩ | h4)
      · exact Or.inl ⟨h1, h2, h3⟩
      · exact Or.inr (Or.inl ⟨h1, h2⟩)
      · exact Or.inr (Or.inr h4)
    · rintro (⟨h1, h2, h3⟩ | ⟨h1, h2⟩ | h4)
      · exact Or.inl ⟨Or.inl ⟨h1, h2⟩, h3⟩
      · refine Or.inl ⟨Or.inr ⟨h1, h2⟩, ?_⟩
        intro p hp e
        rw [h1] at e
        simp only [Prod.mk.injEq, and_true] at e
        exact hnd.1 (e ▸ List.mem_map_of_mem hp)
      · exact Or.inr h4

theorem mem_fold_dlStep {D : List LookupId} {dls : List Sys} {acc : List (Sys × List LookupId)} {sys : Sys} {l : List LookupId} :
    (sys, l) ∈ dls.foldl (dlStep D) acc ↔ (sys, l) ∈ acc ∨ (sys ∈ dls ∧ (∀ l', (sys, l') ∉ acc) ∧ l = D) := by
  induction dls generalizing acc with
  | nil => simp
  | cons s0 dls ih =>
    simp only [List.foldl_cons]
    rw [ih]
    unfold dlStep
    by_cases hany : acc.any (·.1 == s0) = true
    · simp only [hany, ↓reduceIte, List.mem_cons]
      obtain ⟨q, hq, hqe⟩ := List.any_eq_true.mp hany
      have hqe' : q.1 = s0 := by simpa using hqe
      constructor
      · rintro (h | ⟨h1, h2, h3⟩)
        · exact Or.inl h
        · exact Or.inr ⟨Or.inr h1, h2, h3⟩
      · rintro (h | ⟨h1 | h1, h2, h3⟩)
        · exact Or.inl h
        · exfalso; subst h1; exact h2 q.2 (by rw [← hqe']; exact hq)
        · exact Or.inr ⟨h1, h2, h3⟩
    · simp only [hany, Bool.false_eq_true, ↓reduceIte, List.mem_append, Prod.mk.injEq, List.mem_cons,
        List.not_mem_nil, or_false]
      have hno : ∀ l', (s0, l') ∉ acc := by
        intro l' hm; exact hany (List.any_eq_true.mpr ⟨_, hm, by simp⟩)
      constructor
      · rintro ((h | ⟨rfl, rfl⟩) | ⟨h1, h2, h3⟩)
        · exact Or.inl h
        · exact Or.inr ⟨Or.inl rfl, hno, rfl⟩
        · refine Or.inr ⟨Or.inr h1, fun l' hm => h2 l' (Or.inl hm), h3⟩
      · rintro (h | ⟨h1 | h1, h2, h3⟩)
        · exact Or.inl (Or.inl h)
        · exact Or.inl (Or.inr ⟨h1, h3⟩)
        · by_cases he : sys = s0
          · exact Or.inl (Or.inr ⟨he, h3⟩)
          · refine Or.inr ⟨h1, ?_, h3⟩
            rintro l' (hm | ⟨e, _⟩)
            · exact h2 l' hm
            · exact he e

/-- `add_to_features`, by key.  `hnd`: the only key of `lookups` with the default language is `DD`. -/
theorem mem_finish {a : Active} (hsd : (a.scriptDefault.map (·.1)).Nodup) (hlk : (a.lookups.map (·.1)).Nodup)
    (hnd : ∀ S l, (S, "dflt") ≠ DD → a.lookups.lookup (S, "dflt") ≠ some l) (sc lg : Tag) (id : LookupId) :
    (∃ l, ((sc, lg), l) ∈ a.finish ∧ id ∈ l) ↔
      if lg = "dflt" then id ∈ (a.scriptDefault.lookup sc).getD [] ∨ ((sc, "dflt") ∈ a.defaults ∧ id ∈ (a.lookups.lookup DD).getD [])
      else match a.lookups.lookup (sc, lg) with
        | some l0 => id ∈ l0
        | none => (sc, lg) ∈ a.defaults ∧ id ∈ (a.lookups.lookup DD).getD [] := by
  rw [Active.finish_eq]
  generalize (a.lookups.lookup DD).getD [] = D
  simp only [mem_fold_dlStep, mem_fold_sdStep hsd, List.mem_filter, bne_iff_ne, ne_eq,
    ← lookup_eq_some_iff_of_nodup hlk, Prod.mk.injEq, List.contains_eq_mem, decide_eq_true_eq]
  -- `S/dflt`: the entry of `scriptDefault` (first loop), or without one the root lookups if `S/dflt` is declared (second loop);
  -- any other key: its entry of `lookups`, or without one the root lookups if it is declared
  by_cases hlg : lg = "dflt"
  · subst hlg
    simp only [↓reduceIte, and_true]
    cases hq : a.scriptDefault.lookup sc with
    | none =>
      have hno : ∀ p ∈ a.scriptDefault, ¬ sc = p.1 := fun p hp e => by
        have := (lookup_eq_some_iff_of_nodup hsd).mpr hp
        rw [← e, hq] at this; cases this
      constructor
      · rintro ⟨l, ((⟨⟨h1, h2⟩, _⟩ | ⟨p, hp, e, _⟩) | ⟨h1, _, rfl⟩), hid⟩
        · exact absurd h1 (hnd sc l h2)
        · exact absurd e (hno p hp)
        · exact Or.inr ⟨h1, hid⟩
      · rintro (h | ⟨h1, hid⟩)
        · simp at h
        · refine ⟨D, Or.inr ⟨h1, fun l' => ?_, rfl⟩, hid⟩
          rintro (⟨⟨h2, h3⟩, _⟩ | ⟨p, hp, e, _⟩)
          · exact hnd sc l' h3 h2
          · exact hno p hp e
    | some l0 =>
      have hin : (sc, l0) ∈ a.scriptDefault := (lookup_eq_some_iff_of_nodup hsd).mp hq
      have huniq : ∀ p ∈ a.scriptDefault, sc = p.1 → p.2 = l0 := fun p hp e =>
        Option.some.inj (((lookup_eq_some_iff_of_nodup hsd).mpr hp).symm.trans (e ▸ hq))
      simp only [Option.getD_some]
      constructor
      · rintro ⟨l, ((⟨⟨h1, h2⟩, _⟩ | ⟨p, hp, e, rfl⟩) | ⟨_, hno, _⟩), hid⟩
        · exact absurd h1 (hnd sc l h2)
        · rw [huniq p hp e] at hid
          split at hid
          · rename_i hd
            rcases List.mem_append.mp hid with h | h
            · exact Or.inr ⟨by rwa [← e] at hd, h⟩
            · exact Or.inl h
          · exact Or.inl hid
        · exact absurd (Or.inr ⟨(sc, l0), hin, rfl, rfl⟩) (hno _)
      · intro h
        refine ⟨_, Or.inl (Or.inr ⟨(sc, l0), hin, rfl, rfl⟩), ?_⟩
        split
        · rcases h with h | ⟨_, h⟩
          · exact List.mem_append_right _ h
          · exact List.mem_append_left _ h
        · rename_i hd
          rcases h with h | ⟨h1, _⟩
          · exact h
          · exact absurd h1 hd
  · simp only [hlg, ↓reduceIte, and_false, exists_false, or_false, false_and]
    have hne : ¬ (sc, lg) = DD := by simp [DD, hlg]
    cases hq : a.lookups.lookup (sc, lg) with
    | none =>
      simp only [hne, reduceCtorEq, false_and, false_or]
      exact ⟨fun ⟨l, ⟨h, _, e⟩, hid⟩ => ⟨h, e ▸ hid⟩, fun ⟨h, hid⟩ => ⟨D, ⟨h, fun _ => not_false, rfl⟩, hid⟩⟩
    | some l0 =>
      simp only [Option.some.injEq, hne, not_false_eq_true, and_true]
      constructor
      · rintro ⟨l, (⟨rfl, _⟩ | ⟨_, hno, _⟩), hid⟩
        · exact hid
        · exact absurd ⟨rfl, fun _ _ => trivial⟩ (hno l0)
      · exact fun hid => ⟨l0, Or.inl ⟨rfl, fun _ _ => trivial⟩, hid⟩

theorem finish_spec {dls : List Sys} {evs : List Ev} {a : Active} (h : ASpec dls evs a) (sc lg : Tag) (id : LookupId) :
    (∃ l, ((sc, lg), l) ∈ a.finish ∧ id ∈ l) ↔
      ∃ r, itemAt evs r id ∧ registeredWith dls (langOf (sysEvs evs)) r sc lg = true := by
  have hnd : ∀ S l, (S, "dflt") ≠ DD → a.lookups.lookup (S, "dflt") ≠ some l := fun S l hne => by
    rw [h.lang _ hne, langVal]; simp
  -- the one `language` statement for `(sc, lg)` decides both tests of `registered`
  have hany : ∀ b, ((sc, lg), b) ∈ sysEvs evs ↔ (sysEvs evs).lookup (sc, lg) = some b := fun b =>
    (lookup_eq_some_iff_of_nodup h.ev.seenNodup).symm
  rw [mem_finish h.sdKeys h.lkKeys hnd, exists_registered, h.root, h.script]
  simp only [h.defaults, registeredWith, Bool.and_eq_true, Bool.or_eq_true, beq_iff_eq, Bool.not_eq_true', List.contains_eq_mem,
    decide_eq_true_eq, mem_idsAt, Bool.eq_false_iff, ne_eq, any_langOf_true, any_langOf_false, hany, true_and]
  by_cases hlg : lg = "dflt"
  · subst hlg
    have hno : ¬ itemAt evs (.lang sc "dflt") id := fun h1 => itemAt_lang_ne_dflt h1 rfl
    simp [hno, and_comm, or_comm]
  · have hneDD : (sc, lg) ≠ DD := by simp [DD, hlg]
    simp only [hlg, ↓reduceIte, false_or, h.lang _ hneDD, langVal, not_false_eq_true, and_true]
    cases hq : (sysEvs evs).lookup (sc, lg) with
    | none =>
      have hno : ¬ itemAt evs (.lang sc lg) id := fun h1 =>
        absurd (lookup_sysEvs_isSome.mpr (itemAt_lang_seen h1)) (by simp [hq])
      simp [hno, and_comm]
    | some ex =>
      have hseen : (sc, lg) ∈ seenOf evs := lookup_sysEvs_isSome.mp (by rw [hq]; rfl)
      cases ex <;> simp [h.ev.seenDls _ hseen, mem_idsAt]

/-- what the fields of `ActiveFeature` hold after the events `evs`, element by element (`ASpec.toAInv`; `finish_spec`
    and the modules that follow work with `ASpec`) -/
structure AInv (dls : List Sys) (evs : List Ev) (a : Active) : Prop where
  defaults : a.defaults = dls
  cur : a.curSys = curOf evs
  rootIds : ∀ id, id ∈ (a.lookups.lookup DD).getD [] ↔ itemAt evs .root id
  scriptIds : ∀ S id, id ∈ (a.scriptDefault.lookup S).getD [] ↔ itemAt evs (.script S) id
  sdKeys : (a.scriptDefault.map (·.1)).Nodup
  sdSeen : ∀ S, (a.scriptDefault.lookup S).isSome = true → (S, "dflt") ∈ seenOf evs
  lkKeys : (a.lookups.map (·.1)).Nodup
  lkSome : ∀ k, k ≠ DD → ((a.lookups.lookup k).isSome = true ↔ k ∈ seenOf evs ∧ k.2 ≠ "dflt")
  langIds : ∀ S L ex, ((S, L), ex) ∈ sysEvs evs → L ≠ "dflt" → ∀ id, id ∈ (a.lookups.lookup (S, L)).getD [] ↔
      itemAt evs (.lang S L) id ∨ (ex = false ∧ (itemAt evs .root id ∨ itemAt evs (.script S) id))
  noLangYet : ∀ S, a.curSys = some (S, "dflt") → ∀ L ex, ((S, L), ex) ∈ sysEvs evs → L = "dflt"
  scriptSeen : ∀ S L ex, ((S, L), ex) ∈ sysEvs evs → (S, "dflt") ∈ seenOf evs
  seenNodup : (seenOf evs).Nodup
  seenDls : ∀ s ∈ seenOf evs, s ∈ dls

/-- `ASpec` read element by element; `hsd` is the one field `ASpec` does not record, and `ASpec` has the default
    language systems up to their members (`hd`) -/
theorem ASpec.toAInv {dls : List Sys} {evs : List Ev} {a : Active} (h : ASpec dls evs a) (hd : a.defaults = dls)
    (hsd : ∀ S, (a.scriptDefault.lookup S).isSome = true → (S, "dflt") ∈ seenOf evs) : AInv dls evs a where
  defaults := hd
  cur := h.cur
  rootIds := fun id => by rw [h.root, mem_idsAt]
  scriptIds := fun S id => by rw [h.script, mem_idsAt]
  sdKeys := h.sdKeys
  sdSeen := hsd
  lkKeys := h.lkKeys
  lkSome := fun k hk => by
    rw [h.lang k hk, langVal, ← lookup_sysEvs_isSome]
    split <;> simp [*]
  langIds := fun S L ex hm hL id => by
    have hq := (lookup_eq_some_iff_of_nodup h.ev.seenNodup).mpr hm
    rw [h.lang _ (by simp [DD, hL]), langVal]
    cases ex <;> simp [hL, hq, mem_idsAt, or_comm, or_left_comm]
  noLangYet := fun S hS L ex hm => h.ev.noLangYet S (h.cur ▸ hS) L (List.mem_map.mpr ⟨_, hm, rfl⟩)
  scriptSeen := fun S L ex hm => h.ev.scriptSeen S L (List.mem_map.mpr ⟨_, hm, rfl⟩)
  seenNodup := h.ev.seenNodup
  seenDls := h.ev.seenDls

end Fontc.FeaCompile
