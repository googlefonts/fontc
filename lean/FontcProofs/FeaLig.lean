/-
  C11, ligature lookups: the `LigatureSubBuilder` (first glyph ↦ ligatures in insertion order, written out
  longest first) against "the longest matching rule, the first of equally long ones".  A sequence of classes
  matches (`matchFwd`: against the buffer, skipping ignored glyphs) iff one of its enumerated literal sequences
  does, and the matched glyphs determine the literal sequence.
-/
import FontcProofs.FeaMap

namespace Fontc.FeaCompile
open Cmp

/-- the literal sequence `seq` as the predicates `matchFwd` takes: position `i` accepts the glyph `seq[i]` only -/
def eqPreds (seq : List Glyph) : List (Glyph → Bool) := seq.map fun a y => a == y

theorem matchFwd_cons_eq_some {ign : Glyph → Bool} {p : Glyph → Bool} {ps : List (Glyph → Bool)} {g : Glyph}
    {buf : List Glyph} {off : Nat} {out : List Nat} :
    matchFwd ign (p :: ps) (g :: buf) off = some out ↔
      (ign g = true ∧ matchFwd ign (p :: ps) buf (off + 1) = some out) ∨
      (ign g = false ∧ p g = true ∧ ∃ out', matchFwd ign ps buf (off + 1) = some out' ∧ off :: out' = out) := by
  rw [matchFwd]
  cases ign g <;> cases p g <;> simp

theorem matchFwd_positions (ign : Glyph → Bool) :
    ∀ (buf : List Glyph) (p1 p2 : List (Glyph → Bool)) (off : Nat) (ps1 ps2 : List Nat),
    p1.length = p2.length → matchFwd ign p1 buf off = some ps1 → matchFwd ign p2 buf off = some ps2 → ps1 = ps2 := by
  intro buf
  induction buf with
  | nil =>
    intro p1 p2 off ps1 ps2 hl h1 h2
    cases p1 <;> cases p2 <;> simp_all [matchFwd]
  | cons g buf ih =>
    intro p1 p2 off ps1 ps2 hl h1 h2
    match p1, p2, hl with
    | [], [], _ => simp_all [matchFwd]
    | a :: p1, b :: p2, hl =>
      rcases matchFwd_cons_eq_some.mp h1 with ⟨hi, h1'⟩ | ⟨hi, _, q1, h1', rfl⟩ <;>
        rcases matchFwd_cons_eq_some.mp h2 with ⟨hi', h2'⟩ | ⟨hi', _, q2, h2', rfl⟩
      · exact ih _ _ _ _ _ hl h1' h2'
      · rw [hi] at hi'; cases hi'
      · rw [hi] at hi'; cases hi'
      · rw [ih p1 p2 _ q1 q2 (by simpa using hl) h1' h2']

theorem matchFwd_literal_unique (ign : Glyph → Bool) :
    ∀ (buf : List Glyph) (r1 r2 : List Glyph) (off : Nat) (ps1 ps2 : List Nat),
    r1.length = r2.length → matchFwd ign (eqPreds r1) buf off = some ps1 →
    matchFwd ign (eqPreds r2) buf off = some ps2 → r1 = r2 := by
  intro buf
  induction buf with
  | nil =>
    intro r1 r2 off ps1 ps2 hl h1 h2
    cases r1 <;> cases r2 <;> simp_all [matchFwd, eqPreds]
  | cons g buf ih =>
    intro r1 r2 off ps1 ps2 hl h1 h2
    match r1, r2, hl with
    | [], [], _ => rfl
    | a :: r1, b :: r2, hl =>
      rcases matchFwd_cons_eq_some.mp h1 with ⟨hi, h1'⟩ | ⟨hi, ha, q1, h1', rfl⟩ <;>
        rcases matchFwd_cons_eq_some.mp h2 with ⟨hi', h2'⟩ | ⟨hi', hb, q2, h2', rfl⟩
      · exact ih (a :: r1) (b :: r2) _ _ _ hl h1' h2'
      · rw [hi] at hi'; cases hi'
      · rw [hi] at hi'; cases hi'
      · rw [eq_of_beq ha, eq_of_beq hb, ih r1 r2 _ q1 q2 (by simpa using hl) h1' h2']

theorem mem_enumerate_cons {t : GC} {ts : List GC} {seq : List Glyph} :
    seq ∈ enumerate (t :: ts) ↔ ∃ a rest, seq = a :: rest ∧ a ∈ t.glyphs ∧ rest ∈ enumerate ts := by
  simp only [enumerate, List.mem_flatMap, List.mem_map]
  constructor
  · rintro ⟨a, ha, rest, hr, rfl⟩; exact ⟨a, rest, rfl, ha, hr⟩
  · rintro ⟨a, rest, rfl, ha, hr⟩; exact ⟨a, ha, rest, hr, rfl⟩

theorem matchFwd_enum (ign : Glyph → Bool) :
    ∀ (buf : List Glyph) (ts : List GC) (off : Nat) (ps : List Nat),
    matchFwd ign (ts.map GC.has) buf off = some ps ↔
      ∃ rest ∈ enumerate ts, matchFwd ign (eqPreds rest) buf off = some ps := by
  -- along the buffer: `matchFwd_cons_eq_some` splits either side into "glyph skipped" and "glyph matched", and a glyph
  -- matched by the class `t` is the head of the literal sequence (`mem_enumerate_cons`)
  intro buf
  induction buf with
  | nil =>
    intro ts off ps
    cases ts with
    | nil => simp [matchFwd, enumerate, eqPreds]
    | cons t ts =>
      refine ⟨fun h => by simp [matchFwd] at h, ?_⟩
      rintro ⟨rest, hr, hm⟩
      obtain ⟨a, rest', rfl, _, _⟩ := mem_enumerate_cons.mp hr
      simp [eqPreds, matchFwd] at hm
  | cons g buf ih =>
    intro ts off ps
    cases ts with
    | nil => simp [matchFwd, enumerate, eqPreds]
    | cons t ts =>
      constructor
      · intro h
        rcases matchFwd_cons_eq_some.mp h with ⟨hi, h'⟩ | ⟨hi, hg, q, h', rfl⟩
        · obtain ⟨rest, hr, hm⟩ := (ih (t :: ts) _ _).mp h'
          obtain ⟨a, rest', rfl, _, _⟩ := mem_enumerate_cons.mp hr
          exact ⟨_, hr, matchFwd_cons_eq_some.mpr (.inl ⟨hi, hm⟩)⟩
        · obtain ⟨rest', hr', hm'⟩ := (ih ts _ _).mp h'
          exact ⟨g :: rest', mem_enumerate_cons.mpr ⟨g, rest', rfl, by simpa [GC.has] using hg, hr'⟩,
            matchFwd_cons_eq_some.mpr (.inr ⟨hi, beq_self_eq_true g, q, hm', rfl⟩)⟩
      · rintro ⟨rest, hr, hm⟩
        obtain ⟨a, rest', rfl, ha, hr'⟩ := mem_enumerate_cons.mp hr
        rcases matchFwd_cons_eq_some.mp hm with ⟨hi, hm'⟩ | ⟨hi, hag, q, hm', rfl⟩
        · exact matchFwd_cons_eq_some.mpr (.inl ⟨hi, (ih (t :: ts) _ _).mpr ⟨_, hr, hm'⟩⟩)
        · obtain rfl : a = g := eq_of_beq hag
          exact matchFwd_cons_eq_some.mpr
            (.inr ⟨hi, by simpa [GC.has] using ha, q, (ih ts _ _).mpr ⟨rest', hr', hm'⟩, rfl⟩)

/-- `(component sequence, ligature)` pairs of a ligature rule, in enumeration order -/
def ligPairs : Rule → List (List Glyph × Glyph)
  | .ligature ts x => (enumerate ts).map (·, x)
  | _ => []

theorem ligCanAdd_new {m : LigMap} {f : Glyph} {rest : List Glyph} {x : Glyph}
    (h : ∀ y, (rest, y) ∉ (m.lookup f).getD []) : ligCanAdd m (f :: rest) x = true := by
  simp only [ligCanAdd]
  cases hq : m.lookup f with
  | none => rfl
  | some ligs =>
    simp only [hq, Option.getD_some] at h
    simp only [Bool.not_eq_true', List.any_eq_false, Bool.and_eq_true, beq_iff_eq, bne_iff_ne, not_and, Prod.forall]
    rintro s t hst rfl
    exact absurd hst (h t)

theorem mem_ligInsert (m : LigMap) (f : Glyph) (rest : List Glyph) (x : Glyph) (g : Glyph) (c : List Glyph × Glyph) :
    c ∈ ((ligInsert m (f :: rest) x).lookup g).getD [] ↔ c ∈ (m.lookup g).getD [] ∨ (g = f ∧ c = (rest, x)) := by
  simp only [ligInsert, mapUpdate, lookup_mapInsert]
  by_cases hg : g = f
  · subst hg
    simp only [↓reduceIte, Option.getD_some, true_and]
    split
    · rename_i hany
      obtain ⟨⟨s, t⟩, hst, he⟩ := List.any_eq_true.mp hany
      simp only [Bool.and_eq_true, beq_iff_eq] at he
      obtain ⟨rfl, rfl⟩ := he
      exact ⟨Or.inl, fun h => h.elim id fun e => e ▸ hst⟩
    · simp
  · simp [hg]

/-- With no component sequence given twice `ligCanAdd` never refuses; `done` are the pairs added before. -/
theorem ligMap_fold (pairs : List (List Glyph × Glyph)) :
    ∀ (m : LigMap) (done : List (List Glyph × Glyph)),
    (∀ g rest x, (rest, x) ∈ (m.lookup g).getD [] ↔ (g :: rest, x) ∈ done) →
    ((done ++ pairs).map (·.1)).Nodup →
    ∀ g rest x, (rest, x) ∈ ((pairs.foldl (fun m (p : List Glyph × Glyph) => if ligCanAdd m p.1 p.2 then ligInsert m p.1 p.2 else m) m).lookup g).getD []
      ↔ (g :: rest, x) ∈ done ++ pairs := by
  induction pairs with
  | nil => intro m done h _ g rest x; simpa using h g rest x
  | cons p pairs ih =>
    intro m done hm hnd
    obtain ⟨seq, x⟩ := p
    cases seq with
    | nil =>
      -- an empty sequence is never added, and begins with no glyph
      rw [List.append_cons] at hnd ⊢
      exact ih m _ (fun g rest y => by simp [hm g rest y]) hnd
    | cons f rest =>
      have hnew : ∀ y, (rest, y) ∉ (m.lookup f).getD [] := by
        intro y hy
        rw [hm f] at hy
        rw [List.map_append, List.nodup_append] at hnd
        exact hnd.2.2 (f :: rest) (List.mem_map.mpr ⟨_, hy, rfl⟩) (f :: rest) (by simp) rfl
      rw [List.foldl_cons, ligCanAdd_new hnew, if_pos rfl]
      rw [List.append_cons] at hnd ⊢
      exact ih _ _ (fun g r y => by simp [mem_ligInsert, hm g r y, eq_comm, and_assoc]) hnd

theorem sortLigs_spec :
    InsertionSort (fun x y : List Glyph × Glyph => decide (y.1.length ≤ x.1.length)) insertLig sortLigs :=
  ⟨fun _ => rfl, fun _ _ _ => by simp [insertLig], rfl, fun _ _ => rfl⟩

theorem mem_sortLigs (a : List Glyph × Glyph) (l : List (List Glyph × Glyph)) : a ∈ sortLigs l ↔ a ∈ l :=
  sortLigs_spec.mem_sort

theorem sortLigs_sorted (l : List (List Glyph × Glyph)) : (sortLigs l).Pairwise fun a b => b.1.length ≤ a.1.length :=
  sortLigs_spec.pairwise_sort (R := fun a b => b.1.length ≤ a.1.length) (fun h1 h2 => Nat.le_trans h2 h1)
    (fun _ _ => of_decide_eq_true) (fun _ _ h => Nat.le_of_not_le (of_decide_eq_false h)) l

theorem bestLig_spec (l : List (Nat × Glyph × List Nat)) :
    (Src.bestLig l = none → l = []) ∧ ∀ b, Src.bestLig l = some b → b ∈ l ∧ ∀ c ∈ l, c.1 ≤ b.1 := by
  fun_induction Src.bestLig l with
  | case1 => simp
  | case2 c cs hn ih =>
    obtain rfl := ih.1 hn
    simp
  | case3 c cs b hb hgt ih =>
    obtain ⟨hm, hmax⟩ := ih.2 b hb
    refine ⟨nofun, ?_⟩
    rintro _ ⟨⟩
    exact ⟨List.mem_cons_of_mem _ hm, List.forall_mem_cons.mpr ⟨Nat.le_of_lt hgt, hmax⟩⟩
  | case4 c cs b hb hgt ih =>
    obtain ⟨hm, hmax⟩ := ih.2 b hb
    refine ⟨nofun, ?_⟩
    rintro _ ⟨⟩
    exact ⟨List.mem_cons_self, List.forall_mem_cons.mpr
      ⟨Nat.le_refl _, fun e he => Nat.le_trans (hmax e he) (Nat.le_of_not_lt hgt)⟩⟩

theorem findSome_sorted_eq_bestLig {α : Type} (key : α → Nat) {m : α → Option (Nat × Glyph × List Nat)} {C : List α}
    (hs : C.Pairwise fun a b => key b ≤ key a) (hkey : ∀ c t, m c = some t → t.1 = key c)
    {L : List (Nat × Glyph × List Nat)} (hL : ∀ t, t ∈ L ↔ ∃ c ∈ C, m c = some t)
    (hU : ∀ t ∈ L, ∀ t' ∈ L, t.1 = t'.1 → t = t') : C.findSome? m = Src.bestLig L := by
  cases hA : C.findSome? m with
  | none =>
    obtain rfl : L = [] := List.eq_nil_iff_forall_not_mem.mpr fun t ht => by
      obtain ⟨c, hc, hm⟩ := (hL t).mp ht
      rw [List.findSome?_eq_none_iff.mp hA c hc] at hm
      cases hm
    rfl
  | some t =>
    obtain ⟨l₁, c, l₂, rfl, hc, hnone⟩ := List.findSome?_eq_some_iff.mp hA
    have htL : t ∈ L := (hL t).mpr ⟨c, by simp, hc⟩
    cases hb : Src.bestLig L with
    | none => rw [(bestLig_spec L).1 hb] at htL; cases htL
    | some b =>
      obtain ⟨hbL, hbmax⟩ := (bestLig_spec L).2 b hb
      obtain ⟨c', hc', hm'⟩ := (hL b).mp hbL
      -- the best match comes from a candidate that is not before `c` (nothing matches there), so it is not longer
      have hle : key c' ≤ key c := by
        rcases List.mem_append.mp hc' with h | h
        · rw [hnone c' h] at hm'; cases hm'
        · rcases List.mem_cons.mp h with rfl | h
          · exact Nat.le_refl _
          · exact List.rel_of_pairwise_cons (List.pairwise_append.mp hs).2.1 h
      have := hbmax t htL
      rw [hkey c t hc, hkey c' b hm'] at this
      exact congrArg some (hU t htL b hbL (by rw [hkey c t hc, hkey c' b hm']; omega))

theorem enumerate_length (ts : List GC) : ∀ seq ∈ enumerate ts, seq.length = ts.length := by
  induction ts with
  | nil => intro seq h; simp [enumerate] at h; subst h; rfl
  | cons t ts ih =>
    intro seq h
    obtain ⟨a, rest, rfl, _, hr⟩ := mem_enumerate_cons.mp h
    simp [ih rest hr]

/-- a candidate `(remaining components, ligature)` tried after its first glyph, as `Src.ligMatch` reports a match -/
def candMatch (ign : Glyph → Bool) (suf : List Glyph) (c : List Glyph × Glyph) : Option (Nat × Glyph × List Nat) :=
  (matchFwd ign (eqPreds c.1) suf 1).map fun ps => (c.1.length + 1, c.2, 0 :: ps)

theorem ligMatch_ligature {ign : Glyph → Bool} {ts : List GC} {x : Glyph} {g : Glyph} {suf : List Glyph}
    {t : Nat × Glyph × List Nat} :
    Src.ligMatch ign (.ligature ts x) g suf = some t ↔
      ∃ rest, g :: rest ∈ enumerate ts ∧ candMatch ign suf (rest, x) = some t := by
  cases ts with
  | nil => simp [Src.ligMatch, enumerate]
  | cons c ts =>
    simp only [Src.ligMatch, candMatch, mem_enumerate_cons, List.cons.injEq, GC.has, List.contains_iff_mem]
    constructor
    · intro h
      split at h
      · rename_i hg
        obtain ⟨ps, hq, rfl⟩ := Option.map_eq_some_iff.mp h
        obtain ⟨rest, hrest, hm⟩ := (matchFwd_enum ign suf ts 1 ps).mp hq
        exact ⟨rest, ⟨g, rest, ⟨rfl, rfl⟩, hg, hrest⟩, by rw [hm, enumerate_length ts rest hrest]; rfl⟩
      · cases h
    · rintro ⟨rest, ⟨a, rest', ⟨rfl, rfl⟩, ha, hr⟩, h⟩
      obtain ⟨ps, hm, rfl⟩ := Option.map_eq_some_iff.mp h
      rw [if_pos ha, (matchFwd_enum ign suf ts 1 ps).mpr ⟨rest, hr, hm⟩, enumerate_length ts rest hr]
      rfl

theorem mem_ligMatches {ign : Glyph → Bool} {rs : List Rule} (hk : ∀ r ∈ rs, r.kind = .ligature)
    {g : Glyph} {suf : List Glyph} {t : Nat × Glyph × List Nat} :
    t ∈ rs.filterMap (Src.ligMatch ign · g suf) ↔
      ∃ rest x, (g :: rest, x) ∈ rs.flatMap ligPairs ∧ candMatch ign suf (rest, x) = some t := by
  simp only [List.mem_filterMap, List.mem_flatMap]
  constructor
  · rintro ⟨r, hr, h⟩
    have hkr := hk r hr
    cases r <;> try cases hkr
    obtain ⟨rest, hm, h⟩ := ligMatch_ligature.mp h
    exact ⟨rest, _, ⟨_, hr, List.mem_map.mpr ⟨_, hm, rfl⟩⟩, h⟩
  · rintro ⟨rest, x, ⟨r, hr, hp⟩, h⟩
    have hkr := hk r hr
    cases r <;> try cases hkr
    obtain ⟨seq, hseq, e⟩ := List.mem_map.mp hp
    cases e
    exact ⟨_, hr, ligMatch_ligature.mpr ⟨rest, hseq, h⟩⟩

/-- `C`: the ligature set of `g`, in whatever order it was filled -/
theorem lig_core {ign : Glyph → Bool} {rs : List Rule} (hk : ∀ r ∈ rs, r.kind = .ligature)
    (hnd : ((rs.flatMap ligPairs).map (·.1)).Nodup) {g : Glyph} {suf : List Glyph} {C : List (List Glyph × Glyph)}
    (hC : ∀ rest x, (rest, x) ∈ C ↔ (g :: rest, x) ∈ rs.flatMap ligPairs) :
    (sortLigs C).findSome? (candMatch ign suf) = Src.bestLig (rs.filterMap (Src.ligMatch ign · g suf)) := by
  refine findSome_sorted_eq_bestLig (·.1.length + 1) ((sortLigs_sorted _).imp Nat.succ_le_succ)
    (fun c t h => by obtain ⟨_, _, rfl⟩ := Option.map_eq_some_iff.mp h; rfl)
    (fun t => by simp only [mem_ligMatches hk, mem_sortLigs, Prod.exists, hC]) fun t ht t' ht' he => ?_
  -- two matches of one length: the same components (they lie in the buffer), so the same rule
  obtain ⟨rest, x, hc, h⟩ := (mem_ligMatches hk).mp ht
  obtain ⟨rest', x', hc', h'⟩ := (mem_ligMatches hk).mp ht'
  obtain ⟨ps, hm, rfl⟩ := Option.map_eq_some_iff.mp h
  obtain ⟨ps', hm', rfl⟩ := Option.map_eq_some_iff.mp h'
  obtain rfl := matchFwd_literal_unique ign suf rest rest' 1 ps ps' (by simpa using he) hm hm'
  obtain rfl : x = x' := functional_of_nodup hnd _ hc _ hc' rfl
  cases hm.symm.trans hm'
  rfl

theorem ligPairs_keys (r : Rule) : ((ligPairs r).map (·.1)).Sublist (Wf.ligSeqs r) := by
  cases r <;> simp [ligPairs, Wf.ligSeqs, Function.comp_def]

theorem lig_lookup_correct {fx : Fixes} {root : Nat} {named : String → LookupId} {rs : List Rule}
    (hk : ∀ r ∈ rs, r.kind = .ligature) (hnd : (rs.flatMap Wf.ligSeqs).Nodup)
    (ign : Glyph → Bool) (alt : Nat) (rev : List Glyph) (g : Glyph) (suf : List Glyph) :
    (buildSubtables (rs.foldl (Builder.add fx root named) (.ligature []))).findSome?
        (fun st => OT.simpleSubtableStep ign alt st rev g suf)
      = Src.ligStep ign rs rev g suf := by
  have hnd' : ((rs.flatMap ligPairs).map (·.1)).Nodup := (flatMap_map_sublist ligPairs_keys rs).nodup hnd
  -- all `lig_core` asks of the builder: its ligature set for `g` holds exactly the rules' pairs that begin with `g`
  have hmap := ligMap_fold (rs.flatMap ligPairs) [] [] (by simp) (by simpa using hnd') g
  rw [List.nil_append] at hmap
  rw [foldl_add_flatMap .ligature
      (fun m (p : List Glyph × Glyph) => if ligCanAdd m p.1 p.2 then ligInsert m p.1 p.2 else m) ligPairs
      (fun r hr m => by
        cases r with
        | ligature ts x => simp only [Builder.add, ligPairs, List.foldl_map]
        | single t r => cases hk _ hr
        | _ => rfl)]
  rw [buildSubtables, findSome_unless_empty buildLig rfl, Src.ligStep, ← lig_core hk hnd' hmap]
  simp only [OT.simpleSubtableStep, buildLig]
  rw [lookup_map_snd (fun _ ligs => (sortLigs ligs).map fun x => (x.2, x.1))]
  cases List.lookup g _ with
  | none => rfl
  | some ligs =>
    simp only [Option.map_some, Option.getD_some, List.findSome?_map, List.map_findSome?, candMatch, Function.comp_def,
      Option.map_map]
    rfl

end Fontc.FeaCompile
