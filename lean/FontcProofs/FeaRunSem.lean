/-
  C11: from "the lookups of a run sit at its id" to "applying that lookup to a string is applying the
  source lookup" for every lookup type whose correctness is proved, and a decidable form of the
  conditions.
-/
import FontcProofs.FeaChainCorrect
import FontcProofs.FeaLig
import FontcProofs.FeaGlue
import FontcProofs.FeaSimRun

namespace Fontc.FeaCompile
open Cmp

/-- kinds whose lookups are keyed by the glyph at the current position -/
def Kind.isMapGsub : Kind → Bool
  | .single => true
  | .multiple => true
  | .alternate => true
  | _ => false

/-- a substitution lookup of the source for which the per-lookup correctness is proved -/
def GsubRunOk (rules : List Rule) : Prop :=
  ((headKind rules).isMapGsub = true ∧ (rules.flatMap Wf.targets).Nodup) ∨
  (headKind rules = .ligature ∧ (rules.flatMap Wf.ligSeqs).Nodup) ∨
  (headKind rules = .chain ∧ (∀ r ∈ rules, inlineShapeOk r) ∧ SingleOk rules [])

/-- a positioning lookup of the source for which the per-lookup correctness is proved -/
def GposRunOk (rules : List Rule) : Prop :=
  headKind rules = .spos ∧ (rules.flatMap Wf.targets).Nodup

theorem GsubRunOk.isPos_eq_false {rules : List Rule} (h : GsubRunOk rules) : (headKind rules).isPos = false := by
  rcases h with ⟨hm, _⟩ | ⟨hl, _⟩ | ⟨hl, _⟩
  · generalize headKind rules = k at hm
    cases k <;> simp [Kind.isMapGsub, Kind.isPos] at hm ⊢
  · rw [hl]; rfl
  · rw [hl]; rfl

/-- `hplaced` is only about contextual lookups (other builders have no anonymous lookups). -/
theorem run_step_correct (fx : Fixes) (root : Nat) (named : String → LookupId) {rules : List Rule}
    (hne : rules ≠ []) (hk : ∀ r ∈ rules, r.kind = headKind rules) (hok : GsubRunOk rules)
    {gdefSrc : List (Glyph × Nat)} (env : String → Option Src.Lookup) {f : Flag} (name : Option String)
    {gdef : OT.Gdef} {cf : CFlag} (hign : ∀ g, OT.ignored gdef cf.1 cf.2 g = Src.ignored gdefSrc f g)
    (alt : Nat) (lookups : List OT.Lookup) (d : Nat)
    (hplaced : ∀ j a, (rules.foldl (Builder.add fx root named) (Builder.new (headKind rules))).anons[j]? = some a →
      lookups[root + j + 1]? = some (buildAnonLookup cf a))
    (rev : List Glyph) (g : Glyph) (suf : List Glyph) :
    OT.lookupStep gdef alt lookups (d + 1)
        (buildLookup cf (rules.foldl (Builder.add fx root named) (Builder.new (headKind rules)))) rev g suf
      = Src.lookupStep gdefSrc alt env ⟨name, f, rules⟩ rev g suf := by
  have hkind := Builder.foldl_add_kind fx root named (Builder.new (headKind rules)) rules
  rw [Builder.new_kind] at hkind
  rcases hok with ⟨hmap, hnd⟩ | ⟨hl, hnd⟩ | ⟨hch, hshape, hsok⟩
  · rw [lookupStep_homogeneous hne hk,
      lookupStep_nonchain (by rw [hkind]; intro e; rw [e] at hmap; cases hmap)]
    generalize headKind rules = k at *
    cases k with
    | single => exact single_lookup_correct hk (functional_of_targets singlePairsOf_keys hnd) _ alt rev g suf
    | multiple => exact multiple_lookup_correct (functional_of_targets substPairs_keys hnd) _ alt rev g suf
    | alternate => exact alternate_lookup_correct (functional_of_targets altPairs_keys hnd) _ alt rev g suf
    | _ => cases hmap
  · rw [hl] at hk hkind ⊢
    rw [lookupStep_homogeneous hne hk, lookupStep_nonchain (by rw [hkind]; exact Kind.noConfusion),
      funext hign]
    exact lig_lookup_correct hk hnd _ alt rev g suf
  · rw [hch] at hk hplaced ⊢
    rw [Builder.new, foldl_add_chain hk] at hplaced
    exact chain_lookup_correct hne hk hshape hsok hign hplaced name rev g suf

theorem run_applyGsub_correct {fx : Fixes} {gdefSrc : List (Glyph × Nat)} {aIds fIds : List (List Glyph)}
    {f : Flag} {rules : List Rule} {n : Nat} {ls : List OT.Lookup} (t : OT.Tables)
    (hc : CompiledRun fx aIds fIds f rules (.gsub n) ls) (hp : Placed t.gsub.lookups t.gpos.lookups (.gsub n) ls)
    (hgdef : t.gdef = gdefOf gdefSrc aIds fIds)
    (hok : GsubRunOk rules ∨ GposRunOk rules)
    (hg : (gdefSrc.map (·.1)).Nodup) (ha : (aIds.flatMap id).Nodup)
    (alt : Nat) (env : String → Option Src.Lookup) (name : Option String) :
    ∃ L, t.gsub.lookups[n]? = some L ∧
      ∀ str, OT.applyGsub t alt L str = Src.applyGsub gdefSrc alt env ⟨name, f, rules⟩ str := by
  obtain ⟨hne, hk, hid, cf, named, root, hcf, hroot, hls⟩ := hc
  obtain rfl : root = n := hroot hid.symm
  have hok : GsubRunOk rules := hok.resolve_right fun h => by rw [h.1] at hid; cases hid
  have hign : ∀ g, OT.ignored t.gdef cf.1 cf.2 g = Src.ignored gdefSrc f g := fun g =>
    hgdef ▸ ignored_correct hg ha hcf g
  rw [builtLookups_eq] at hls
  subst hls
  -- `OT.applyGsub` starts `OT.lookupStep` at `OT.nestingDepth = 5 + 1`
  exact ⟨_, hp.getElem (j := 0) rfl, applyGsub_eq_src hign
    (run_step_correct fx root named hne hk hok env name hign alt _ 5
      fun j a hja => hp.getElem (j := j + 1) (by simp [hja]))⟩

theorem run_applyGpos_correct {fx : Fixes} {gdefSrc : List (Glyph × Nat)} {aIds fIds : List (List Glyph)}
    {f : Flag} {rules : List Rule} {n : Nat} {ls : List OT.Lookup} (t : OT.Tables)
    (hc : CompiledRun fx aIds fIds f rules (.gpos n) ls) (hp : Placed t.gsub.lookups t.gpos.lookups (.gpos n) ls)
    (hgdef : t.gdef = gdefOf gdefSrc aIds fIds)
    (hok : GsubRunOk rules ∨ GposRunOk rules)
    (hg : (gdefSrc.map (·.1)).Nodup) (ha : (aIds.flatMap id).Nodup) (name : Option String) :
    ∃ L, t.gpos.lookups[n]? = some L ∧
      ∀ str, OT.applyGpos t L str = Src.applyGpos gdefSrc ⟨name, f, rules⟩ str := by
  obtain ⟨hne, hk, hid, cf, named, root, hcf, _, hls⟩ := hc
  obtain ⟨hkind, hnd⟩ : GposRunOk rules := hok.resolve_left fun h => by rw [h.isPos_eq_false] at hid; cases hid
  rw [hkind, builtLookups_eq] at hls
  subst hls
  refine ⟨_, hp.head_gpos, applyGpos_eq_src (fun g =>
    hgdef ▸ ignored_correct hg ha hcf g) fun rev x suf => ?_⟩
  have hsk : Src.Lookup.kind ⟨name, f, rules⟩ = .spos := hkind
  simp only [Src.posStep, hsk, OT.posLookupStep, buildLookup]
  exact spos_lookup_correct (functional_of_targets sposPairs_keys hnd) _ rev x suf

/-- Part of `runOkB` (and, as `hne`, of `C11.compile_correct_lookup_ligature`) that no proof needs: a ligature rule
    without components adds nothing to the builder (`ligCanAdd m [] r = false`) and matches nothing in the source
    (`Src.ligMatch`), which `lig_lookup_correct` covers. -/
def ligHasComps : Rule → Bool
  | .ligature [] _ => false
  | _ => true

/-- `PairsFunctional` as a computation -/
def pairsFunctionalB (pairs : List (Glyph × Glyph)) : Bool :=
  pairs.all fun p => pairs.all fun q => p.1 != q.1 || p.2 == q.2

theorem all_agree_iff (ps qs : List (Glyph × Glyph)) :
    (ps.all fun p => qs.all fun q => p.1 != q.1 || p.2 == q.2) = true ↔ ∀ p ∈ ps, ∀ q ∈ qs, p.1 = q.1 → p.2 = q.2 := by
  simp only [List.all_eq_true, Bool.or_eq_true, bne_iff_ne, ne_eq, beq_iff_eq, ← Decidable.imp_iff_not_or]

theorem pairsFunctional_of_B {pairs : List (Glyph × Glyph)} (h : pairsFunctionalB pairs = true) : PairsFunctional pairs :=
  (all_agree_iff pairs pairs).mp h

/-- `inlineShapeOk` as a computation -/
def inlineShapeOkB : Rule → Bool
  | .chain _ [(t, [])] _ (.single by_) =>
    t.glyphs.all fun g => (singlePairs (normSingle t by_).1 (normSingle t by_).2).any (·.1 == g)
  | .chain _ [(.g _, [])] _ (.multi _) => true
  | .chain _ input _ .none => !input.isEmpty && input.all (·.2.isEmpty)
  | .ignore alts => alts.all (!·.2.1.isEmpty)
  | _ => false

theorem inlineShapeOk_of_B {r : Rule} (h : inlineShapeOkB r = true) : inlineShapeOk r := by
  unfold inlineShapeOkB at h
  split at h
  · refine ⟨_, rfl, fun g hg => ?_⟩
    simp only [List.all_eq_true, List.any_eq_true, beq_iff_eq] at h
    obtain ⟨⟨a, b⟩, hm, rfl⟩ := h g hg
    exact ⟨b, hm⟩
  · exact ⟨_, rfl⟩
  · simpa [inlineShapeOk] using h
  · simpa [inlineShapeOk] using h
  · cases h

/-- `SingleOk` as a computation -/
def singleOkB : List Rule → List (Glyph × Glyph) → Bool
  | [], _ => true
  | r :: rs, earlier =>
    match inlineSinglePairs r with
    | some (c2g, pairs) =>
      pairsFunctionalB pairs && (!c2g || pairs.all fun p => earlier.all fun q => p.1 != q.1 || p.2 == q.2) &&
      singleOkB rs (earlier ++ pairs)
    | none => singleOkB rs earlier

theorem singleOk_of_B : ∀ (rs : List Rule) (earlier : List (Glyph × Glyph)), singleOkB rs earlier = true → SingleOk rs earlier := by
  intro rs
  induction rs with
  | nil => intro _ _; trivial
  | cons r rs ih =>
    intro earlier h
    simp only [singleOkB] at h
    simp only [SingleOk]
    cases hq : inlineSinglePairs r with
    | none => rw [hq] at h; exact ih earlier h
    | some x =>
      rw [hq] at h
      simp only [Bool.and_eq_true, Bool.or_eq_true, Bool.not_eq_true', all_agree_iff] at h
      exact ⟨pairsFunctional_of_B h.1.1, fun hc => h.1.2.resolve_left (by simp [hc]), ih _ h.2⟩

/-- the lookup is of a type, and satisfies the conditions, for which correctness is proved -/
def runOkB (rules : List Rule) : Bool :=
  ((headKind rules).isMapGsub && decide (rules.flatMap Wf.targets).Nodup)
  || (headKind rules == .ligature && decide (rules.flatMap Wf.ligSeqs).Nodup && rules.all ligHasComps)
  || (headKind rules == .chain && rules.all inlineShapeOkB && singleOkB rules [])
  || (headKind rules == .spos && decide (rules.flatMap Wf.targets).Nodup)

theorem runOk_of_runOkB {rules : List Rule} (h : runOkB rules = true) : GsubRunOk rules ∨ GposRunOk rules := by
  simp only [runOkB, Bool.or_eq_true, Bool.and_eq_true, decide_eq_true_eq, beq_iff_eq, List.all_eq_true] at h
  rcases h with ((⟨h1, h2⟩ | ⟨⟨h1, h2⟩, _⟩) | ⟨⟨h1, h2⟩, h3⟩) | ⟨h1, h2⟩
  · exact Or.inl (Or.inl ⟨h1, h2⟩)
  · exact Or.inl (Or.inr (Or.inl ⟨h1, h2⟩))
  · exact Or.inl (Or.inr (Or.inr ⟨h1, fun r hr => inlineShapeOk_of_B (h2 r hr), singleOk_of_B rules [] h3⟩))
  · exact Or.inr ⟨h1, h2⟩

end Fontc.FeaCompile
