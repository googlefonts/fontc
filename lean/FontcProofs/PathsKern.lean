/-
  Decimal and two-decimal formatting, and the kerning-instance file name for any coordinate printer: the entries of a
  name can be read back (`readLoc_join`), so the name determines what the printed texts determine (`kernName_key`).
-/
import FontcProofs.PathsStf

namespace Fontc.Paths

/-- `usize as Display` prints what `Nat.repr` prints: the facts about decimal text are core's -/
theorem decDigits_eq (n : Nat) : decDigits n = (Nat.toDigits 10 n).map Char.toNat := by
  induction n using decDigits.induct with
  | case1 n h =>
    rw [decDigits.eq_1 n, if_pos h, Nat.toDigits_of_lt_base h, List.map_singleton, Nat.toNat_digitChar_of_lt_ten h]
  | case2 n h ih =>
    rw [decDigits.eq_1 n, if_neg h, ih, Nat.toDigits_of_base_le (n := n) (by decide) (by omega), List.map_append,
      List.map_singleton, Nat.toNat_digitChar_of_lt_ten (by omega)]

theorem decDigits_ne_nil {n : Nat} : decDigits n ≠ [] := by
  simp [decDigits_eq]

theorem decDigits_digits (n : Nat) : ∀ x ∈ decDigits n, 0x30 ≤ x ∧ x ≤ 0x39 := by
  intro x hx
  rw [decDigits_eq, List.mem_map] at hx
  obtain ⟨c, hc, rfl⟩ := hx
  simpa [Char.isDigit, UInt32.le_iff_toNat_le] using Nat.isDigit_of_mem_toDigits (by decide) (by decide) hc

theorem decDigits_inj : Function.Injective decDigits := by
  intro a b h
  rw [decDigits_eq, decDigits_eq] at h
  simpa using congrArg (Nat.ofDigitChars 10 · 0) ((List.map_inj_right fun _ _ => Char.toNat_inj.1).1 h)

/-- an optional '-', a number, then a character that is no digit: all three can be read off the front -/
theorem signed_decDigits_inj {p q : Prop} [Decidable p] [Decidable q] {a b c : Nat} {u v : List Nat}
    (hc : c < 0x30 ∨ 0x39 < c)
    (h : (if p then [0x2D] else []) ++ decDigits a ++ c :: u = (if q then [0x2D] else []) ++ decDigits b ++ c :: v) :
    (p ↔ q) ∧ a = b ∧ u = v := by
  have hs : p ↔ q := by
    cases ha : decDigits a with
    | nil => exact absurd ha decDigits_ne_nil
    | cons x xs =>
      cases hb : decDigits b with
      | nil => exact absurd hb decDigits_ne_nil
      | cons y ys =>
        have hx := decDigits_digits a x (by rw [ha]; simp)
        have hy := decDigits_digits b y (by rw [hb]; simp)
        rw [ha, hb] at h
        -- with one sign only, the first character is '-' on one side and a digit on the other
        by_cases hp : p <;> by_cases hq : q <;> simp [hp, hq] at h ⊢ <;> omega
  have nd : ∀ m, c ∉ decDigits m := fun m hm => by have := decDigits_digits m _ hm; omega
  simp only [hs, List.append_assoc] at h
  obtain ⟨hd, ht⟩ := split_at_opt_sep (nd _) (nd _) (Or.inr ⟨_, rfl⟩) (Or.inr ⟨_, rfl⟩)
    (List.append_cancel_left h)
  exact ⟨hs, decDigits_inj hd, (List.cons.inj ht).2⟩

theorem fmtRound2_inj {r r' : Bool × Nat} (h : fmtRound2 r = fmtRound2 r') : r = r' := by
  obtain ⟨s, n⟩ := r
  obtain ⟨s', n'⟩ := r'
  unfold fmtRound2 at h
  obtain ⟨hs, hn, ht⟩ := signed_decDigits_inj (by omega) h
  simp only [List.cons.injEq] at hs hn ht
  rw [Bool.eq_iff_iff.mpr hs, show n = n' by omega]

theorem mem_fmt2 {q : Rat} {x : Nat} (h : x ∈ fmt2 q) :
    x = 0x2D ∨ x = 0x2E ∨ (0x30 ≤ x ∧ x ≤ 0x39) := by
  simp only [fmt2, fmtRound2, List.mem_append, List.mem_cons, List.not_mem_nil, or_false] at h
  rcases h with (h | h) | h
  · split at h <;> simp at h
    exact Or.inl h
  · exact Or.inr (Or.inr (decDigits_digits _ _ h))
  · omega

theorem fmt2_noUnderscore : PrintNoUnderscore fmt2 := by
  intro q h
  rcases mem_fmt2 h with h | h | h <;> omega

theorem render_printable {t : Tag} (h : t.printable) : t.render = [t.b0, t.b1, t.b2, t.b3] := by
  obtain ⟨h0, h1, h2, h3⟩ := h
  simp [Tag.render, tagByte, h0, h1, h2, h3]

/-- every axis tag is printable ASCII, as `Tag::from_str` makes them: it is then printed as its four bytes -/
def Loc.printable (l : Loc) : Prop := ∀ e ∈ l, e.1.printable

/-- reads the entries of a kerning-instance name back: four bytes of tag, '_', the coordinate text up to the
    next '_' -/
def readLoc : List Nat → List (Tag × List Nat)
  | a :: b :: c :: d :: _ :: t => (⟨a, b, c, d⟩, t.takeWhile (· != 0x5F)) :: readLoc (t.dropWhile (· != 0x5F)).tail
  | _ => []
termination_by s => s.length
decreasing_by
  have := (List.dropWhile_sublist (l := t) (· != 0x5F)).length_le
  simp only [List.length_cons, List.length_tail]
  omega

theorem readLoc_nil : readLoc [] = [] := by
  rw [readLoc]
  nofun

theorem kernName_nil (pr : Rat → List Nat) : kernName pr [] = lit "kern_" := by
  simp [kernName, joinUnderscore]

theorem kernName_cons (pr : Rat → List Nat) (e : Tag × Rat) (r : Loc) :
    ∃ u, kernName pr (e :: r) = lit "kern_" ++ (kernEntry pr e ++ u) := by
  cases r with
  | nil => exact ⟨[], by simp [kernName, joinUnderscore]⟩
  | cons e' r' => exact ⟨0x5F :: joinUnderscore ((e' :: r').map (kernEntry pr)), by simp [kernName, joinUnderscore]⟩

section
variable {κ : Type} (pr : Rat → List Nat) (k : Rat → κ) (hk : ∀ x y, pr x = pr y → k x = k y)
  (hu : PrintNoUnderscore pr)
include hu
variable {pr}

theorem readLoc_entry (e : Tag × Rat) (he : e.1.printable) {u : List Nat} (hu' : u = [] ∨ ∃ t, u = 0x5F :: t) :
    readLoc (kernEntry pr e ++ u) = (e.1, pr e.2) :: readLoc u.tail := by
  have hpr : ∀ c ∈ pr e.2, (c != 0x5F) = true := fun c hc => by simpa using fun h : c = 0x5F => hu e.2 (h ▸ hc)
  rw [kernEntry, render_printable he]
  simp only [List.cons_append, List.nil_append]
  rw [readLoc, List.takeWhile_append_of_pos hpr, List.dropWhile_append_of_pos hpr]
  rcases hu' with rfl | ⟨t, rfl⟩ <;> simp

theorem readLoc_join {l : Loc} (p : l.printable) :
    readLoc (joinUnderscore (l.map (kernEntry pr))) = l.map fun e => (e.1, pr e.2) := by
  induction l with
  | nil => exact readLoc_nil
  | cons e r ih =>
    have ih := ih fun x hx => p x (List.mem_cons_of_mem _ hx)
    cases r with
    | nil =>
      rw [List.map_singleton, joinUnderscore, ← List.append_nil (kernEntry pr e),
        readLoc_entry hu e (p e (by simp)) (Or.inl rfl), List.tail_nil, readLoc_nil]
      rfl
    | cons e' r' =>
      rw [List.map_cons, List.map_cons, joinUnderscore, readLoc_entry hu e (p e (by simp)) (Or.inr ⟨_, rfl⟩),
        List.tail_cons, ← List.map_cons, ih]
      rfl

include hk

/-- The name (before `string_to_filename`) determines the axes and, of each coordinate, whatever its
    printed text determines: everything for the printer of the current code, two decimals before. -/
theorem kernName_key {l1 l2 : Loc} (p1 : l1.printable) (p2 : l2.printable)
    (h : kernName pr l1 = kernName pr l2) :
    l1.map (fun e => (e.1, k e.2)) = l2.map (fun e => (e.1, k e.2)) := by
  have h := congrArg readLoc (List.append_cancel_left h)
  rw [readLoc_join hu p1, readLoc_join hu p2] at h
  refine map_congr_of_map_eq (fun a b hab => ?_) l1 l2 h
  simp only [Prod.mk.injEq] at hab ⊢
  exact ⟨hab.1, hk _ _ hab.2⟩

end

theorem kernName_inj {pr : Rat → List Nat} (hi : PrintInjective pr) (hu : PrintNoUnderscore pr)
    {l1 l2 : Loc} (p1 : l1.printable) (p2 : l2.printable) (h : kernName pr l1 = kernName pr l2) : l1 = l2 := by
  simpa using kernName_key id hi hu p1 p2 h

theorem kernName_ne_locations {pr : Rat → List Nat} {l : Loc} (p : l.printable) :
    kernName pr l ≠ lit "kern_locations" := by
  intro h
  cases l with
  | nil =>
    rw [kernName_nil] at h
    simp -index only [lit_ofList] at h
    revert h
    decide
  | cons e r =>
    obtain ⟨u, hu⟩ := kernName_cons pr e r
    rw [hu] at h
    unfold kernEntry at h
    rw [render_printable (p e (by simp))] at h
    simp -index only [lit_ofList] at h
    simp at h

/-! ### the file name of the current code: the name through `string_to_filename`, which is injective and
    produces no '/' -/

theorem kernFileName_prefix {pr : Rat → List Nat} {l : Loc} : lit "kern_" <+: kernFileName pr l :=
  stf_plain_prefix (by decide)

theorem kern_locations_as_stf :
    lit "kern_locations.yml" = stringToFilename (lit "kern_locations") (lit ".yml") := by
  simp -index only [lit_ofList]
  decide +kernel

theorem kernFileName_ne_locations {pr : Rat → List Nat} {l : Loc} (p : l.printable) :
    kernFileName pr l ≠ lit "kern_locations.yml" := by
  intro h
  rw [kern_locations_as_stf, kernFileName] at h
  exact kernName_ne_locations p (stf_inj h)

theorem kernFileName_no_slash (pr : Rat → List Nat) (l : Loc) : 0x2F ∉ kernFileName pr l :=
  stf_no_slash (by decide)

/-! ### the file name before 75d720d: the same name printed with two decimals, plus ".yml" -/

/-- what two decimals keep of a location -/
def Loc.key (l : Loc) : List (Tag × (Bool × Nat)) := l.map fun e => (e.1, round2 e.2)

theorem kernFileNameOld_eq (l : Loc) : kernFileNameOld l = kernName fmt2 l ++ lit ".yml" := rfl

theorem kernFileNameOld_key {l1 l2 : Loc} (p1 : l1.printable) (p2 : l2.printable)
    (h : kernFileNameOld l1 = kernFileNameOld l2) : l1.key = l2.key :=
  kernName_key round2 (fun _ _ => fmtRound2_inj) fmt2_noUnderscore p1 p2
    (List.append_cancel_right h)

theorem kernFileNameOld_of_key {l1 l2 : Loc} (h : l1.key = l2.key) : kernFileNameOld l1 = kernFileNameOld l2 := by
  have e : ∀ l : Loc, l.map kernEntryOld = l.key.map fun p => p.1.render ++ 0x5F :: fmtRound2 p.2 :=
    fun l => by simp [Loc.key, kernEntryOld, fmt2]
  rw [kernFileNameOld, kernFileNameOld, e, e, h]

theorem kernFileNameOld_ne_locations (l : Loc) (p : l.printable) : kernFileNameOld l ≠ lit "kern_locations.yml" := by
  rw [kernFileNameOld_eq, show lit "kern_locations.yml" = lit "kern_locations" ++ lit ".yml" by
    simp -index only [lit_ofList]; rfl]
  exact fun h => kernName_ne_locations p (List.append_cancel_right h)

theorem mem_joinUnderscore {xs : List (List Nat)} {x : Nat} (h : x ∈ joinUnderscore xs) :
    x = 0x5F ∨ ∃ y ∈ xs, x ∈ y := by
  induction xs with
  | nil => simp [joinUnderscore] at h
  | cons a r ih =>
    cases r with
    | nil =>
      simp only [joinUnderscore] at h
      exact Or.inr ⟨a, by simp, h⟩
    | cons b r' =>
      simp only [joinUnderscore, List.mem_append, List.mem_cons] at h
      rcases h with h | h | h
      · exact Or.inr ⟨a, by simp, h⟩
      · exact Or.inl h
      · rcases ih h with h | ⟨y, hy, hxy⟩
        · exact Or.inl h
        · exact Or.inr ⟨y, by simp [hy], hxy⟩

/-- none of the four bytes of the tag is '/' -/
def Tag.noSlash (t : Tag) : Prop := t.b0 ≠ 0x2F ∧ t.b1 ≠ 0x2F ∧ t.b2 ≠ 0x2F ∧ t.b3 ≠ 0x2F

theorem kernFileNameOld_no_slash {l : Loc} (p : l.printable) (hn : ∀ e ∈ l, e.1.noSlash) :
    0x2F ∉ kernFileNameOld l := by
  intro h
  simp only [kernFileNameOld, List.mem_append] at h
  rcases h with (h | h) | h
  · revert h; decide
  · rcases mem_joinUnderscore h with h | ⟨y, hy, hxy⟩
    · omega
    · rw [List.mem_map] at hy
      obtain ⟨e, he, rfl⟩ := hy
      simp only [kernEntryOld, List.mem_append, List.mem_cons] at hxy
      rcases hxy with hxy | hxy | hxy
      · rw [render_printable (p e he)] at hxy
        obtain ⟨h0, h1, h2, h3⟩ := hn e he
        simp at hxy
        omega
      · omega
      · rcases mem_fmt2 hxy with h | h | h <;> omega
  · revert h; decide

/-! ### a printer with the assumed properties exists (non-vacuity only; not the real printer) -/

def prWitness (x : Rat) : List Nat :=
  (if x < 0 then [0x2D] else []) ++ decDigits x.num.natAbs ++ 0x2F :: decDigits x.den

theorem prWitness_noUnderscore : PrintNoUnderscore prWitness := by
  intro x h
  simp only [prWitness, List.mem_append, List.mem_cons] at h
  rcases h with (h | h) | h | h
  · split at h <;> simp at h
  · have := decDigits_digits _ _ h; omega
  · omega
  · have := decDigits_digits _ _ h; omega

theorem prWitness_injective : PrintInjective prWitness := by
  intro x y h
  unfold prWitness at h
  obtain ⟨hs, hn, hd⟩ := signed_decDigits_inj (by omega) h
  have key : ∀ q : Rat, q.num < 0 ↔ q < 0 := by
    intro q
    rw [← Int.not_le, Rat.num_nonneg, Rat.not_le]
  have hsn : x.num < 0 ↔ y.num < 0 := by rw [key, key]; exact hs
  apply Rat.ext
  · by_cases hx : x.num < 0
    · have := hsn.mp hx; omega
    · have : ¬ y.num < 0 := fun hh => hx (hsn.mpr hh)
      omega
  · exact decDigits_inj hd

end Fontc.Paths
