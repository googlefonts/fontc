/-
  C08: from an `AxisDef` (what the source says) through `CoordConverter::new` to `Built` (the maps of the axis fontc
  builds and the `Sorted` facts of its nodes), and what that gives for the exact segment map `segmentMapExact ax`.
-/
import FontcProofs.PlmAvar

namespace Fontc.PlmProofs
open Fontc Fontc.Plm Fontc.Avar

variable {a : AxisDef}

theorem designMin_eq {m : Rat} (hm : m ∈ a.mappings.map (·.2)) (hle : ∀ d ∈ a.mappings.map (·.2), m ≤ d) :
    a.designMin = m := by
  unfold AxisDef.designMin
  cases hl : a.mappings.map (·.2) with
  | nil => rw [hl] at hm; simp at hm
  | cons d0 ds => exact listMin_eq (hl ▸ hm) (hl ▸ hle)

theorem designMax_eq {m : Rat} (hm : m ∈ a.mappings.map (·.2)) (hle : ∀ d ∈ a.mappings.map (·.2), d ≤ m) :
    a.designMax = m := by
  unfold AxisDef.designMax
  cases hl : a.mappings.map (·.2) with
  | nil => rw [hl] at hm; simp at hm
  | cons d0 ds => exact listMax_eq (hl ▸ hm) (hl ▸ hle)

theorem wf_sorted (h : a.WellFormed) :
    Sorted a.nodes a.min a.default a.max a.designMin a.designDefault a.designMax := by
  obtain ⟨dd, hdd⟩ := h.defaultNode
  obtain ⟨dlo, hlo⟩ := h.minFirst
  obtain ⟨dhi, hhi⟩ := h.maxLast
  have hmem : (a.default, dd) ∈ a.nodes := by
    simp only [AxisDef.nodes, Plm.new, mem_sortPts]
    exact List.mem_of_getElem? hdd
  have hS : Sorted a.nodes a.min a.default a.max dlo dd dhi := ⟨h.sorted, hmem, hlo, hhi⟩
  have e2 : a.designDefault = dd := by simp [AxisDef.designDefault, hdd]
  have hmemd : ∀ d, d ∈ a.mappings.map (·.2) ↔ ∃ n ∈ a.nodes, n.2 = d := by
    intro d
    simp only [AxisDef.nodes, Plm.new, mem_sortPts, List.mem_map]
  have e1 : a.designMin = dlo := by
    refine designMin_eq ((hmemd dlo).mpr ⟨_, hS.head_mem, rfl⟩) fun d hd => ?_
    obtain ⟨n, hn, rfl⟩ := (hmemd d).mp hd
    exact (hS.bounds n hn).2.2.1
  have e3 : a.designMax = dhi := by
    refine designMax_eq ((hmemd dhi).mpr ⟨_, hS.last_mem, rfl⟩) fun d hd => ?_
    obtain ⟨n, hn, rfl⟩ := (hmemd d).mp hd
    exact (hS.bounds n hn).2.2.2
  rw [e1, e2, e3]; exact hS

/-- What `CoordConverter::new` builds from a well-formed axis definition, with the `Sorted` facts of its nodes. -/
structure Built (a : AxisDef) (ax : Axis) : Prop where
  min : ax.min = a.min
  default : ax.default = a.default
  max : ax.max = a.max
  u2d : ax.conv.userToDesign = ⟨a.nodes⟩
  d2u : ax.conv.designToUser = Plm.reverse ⟨a.nodes⟩
  d2n : ax.conv.designToNormalized = ⟨normExamples a.designMin a.designDefault a.designMax⟩
  sorted : Sorted a.nodes a.min a.default a.max a.designMin a.designDefault a.designMax

theorem wf_axis (h : a.WellFormed) : ∃ ax, a.axis? = some ax ∧ Built a ax := by
  obtain ⟨dd, hdd⟩ := h.defaultNode
  obtain ⟨d0, ds, c, hm, hc, hu, hr, hn⟩ := conv_new_ok hdd
  refine ⟨⟨a.min, a.default, a.max, c⟩, ?_, rfl, rfl, rfl, ?_, ?_, ?_, wf_sorted h⟩
  · simp [AxisDef.axis?, hc]
  · simp only [hu, AxisDef.nodes]
  · simp only [hr, AxisDef.nodes]
  · simp only [hn, AxisDef.designMin, AxisDef.designMax, AxisDef.designDefault, hm, hdd]
    rfl

theorem wf_built (h : a.WellFormed) {ax : Axis} (hax : a.axis? = some ax) : Built a ax := by
  obtain ⟨ax', hax', hB⟩ := wf_axis h
  rw [hax] at hax'
  rw [Option.some.inj hax']
  exact hB

/-- `rawOf` at the nodes, the user bounds and the design extremes of the axis definition `a` -/
abbrev rawOfAxis (a : AxisDef) : List Pt :=
  rawOf a.nodes a.min a.default a.max a.designMin a.designDefault a.designMax

variable {ax : Axis} (B : Built a ax)
include B

theorem Built.toNormalized_eq {u : Rat} (hu1 : a.min ≤ u) (hu2 : u ≤ a.max) :
    ax.conv.toNormalized u = designNormalize a.designMin a.designDefault a.designMax (ax.conv.toDesign u) := by
  have hr := B.sorted.map_range hu1 hu2
  unfold Conv.toNormalized Conv.designToNorm Conv.toDesign
  rw [B.d2n, B.u2d]
  exact d2n_closed hr.1 hr.2

theorem Built.raw_eq : rawMappings ax = rawOfAxis a := by
  obtain ⟨o1, o2, _, _⟩ := B.sorted.order
  unfold rawMappings Conv.iter rawOfAxis rawOf Axis.defaultConverter
  rw [B.u2d, List.map_map, B.min, B.default, B.max]
  apply List.map_congr_left
  intro n hn
  have bn := B.sorted.bounds n hn
  simp only [Function.comp]
  rw [defaultConv_toNormalized o1 o2 bn.1 bn.2.1,
      defaultNormalize_eq bn.1 bn.2.1, B.toNormalized_eq bn.1 bn.2.1,
      Conv.toDesign, B.u2d, map_vertex B.sorted.strict hn]

theorem Built.exact_cases :
    (segmentMapExact ax = defaultSegmentMap ∧ ∀ q ∈ padded (rawOfAxis a), q.1 = q.2) ∨
    segmentMapExact ax = padded (rawOfAxis a) := by
  unfold segmentMapExact
  simp only []
  rw [B.raw_eq]
  split_ifs with c
  · left
    refine ⟨rfl, fun q hq => ?_⟩
    simpa using List.all_eq_true.mp c q hq
  · right; rfl

theorem Built.exact_range : ∀ p ∈ segmentMapExact ax, -1 ≤ p.1 ∧ p.1 ≤ 1 ∧ -1 ≤ p.2 ∧ p.2 ≤ 1 := by
  rcases B.exact_cases with ⟨e, _⟩ | e <;> rw [e]
  · intro p hp
    simp only [defaultSegmentMap, List.mem_cons, List.mem_nil_iff, or_false] at hp
    rcases hp with rfl | rfl | rfl <;> norm_num
  · exact padded_range B.sorted.raw_range

theorem Built.exact_pairwise : (segmentMapExact ax).Pairwise (fun p q => p.1 ≤ q.1 ∧ p.2 ≤ q.2) := by
  rcases B.exact_cases with ⟨e, _⟩ | e <;> rw [e]
  · unfold defaultSegmentMap; decide
  · exact padded_pairwise B.sorted.raw_monotone B.sorted.raw_range

theorem Built.exact_spans {u : Rat} (hu1 : a.min ≤ u) (hu2 : u ≤ a.max) :
    Spans (segmentMapExact ax) (designNormalize a.min a.default a.max u) := by
  have hS := B.sorted
  obtain ⟨o1, o2, _, _⟩ := hS.order
  obtain ⟨hr1, hr2⟩ := designNormalize_range o1 o2 hu1 hu2
  rcases B.exact_cases with ⟨e, _⟩ | e <;> rw [e]
  · exact ⟨⟨(-1, -1), by decide, hr1⟩, (1, 1), by decide, hr2⟩
  · exact Spans.padded ⟨⟨_, mem_rawOf hS.head_mem, designNormalize_mono (le_refl _) hu2 hu1⟩,
      _, mem_rawOf hS.last_mem, designNormalize_mono hu1 (le_refl _) hu2⟩

/-- a list of `k:k` records is the identity, like the default map -/
theorem Built.exact_apply (x : Rat) : avarApply (segmentMapExact ax) x = avarApply (padded (rawOfAxis a)) x := by
  rcases B.exact_cases with ⟨e, hall⟩ | e <;> rw [e]
  rw [avarApply_ident hall, avarApply_ident (by decide)]

theorem Built.exact_required (hleft : a.min < a.default → a.designMin < a.designDefault) :
    ((-1 : Rat), (-1 : Rat)) ∈ segmentMapExact ax ∧ ((0 : Rat), (0 : Rat)) ∈ segmentMapExact ax ∧
      ((1 : Rat), (1 : Rat)) ∈ segmentMapExact ax := by
  rcases B.exact_cases with ⟨e, _⟩ | e <;> rw [e]
  · simp [defaultSegmentMap]
  · exact B.sorted.padded_required hleft

/-- design → user is the sorted vertex list with every pair swapped (design values may tie, so `map_range`, not
    `map_consec`) -/
theorem Built.designToUser_range {d : Rat} (hd1 : a.designMin ≤ d) (hd2 : d ≤ a.designMax) :
    a.min ≤ ax.conv.designToUserMap d ∧ ax.conv.designToUserMap d ≤ a.max := by
  have hS := B.sorted
  have hrev : Plm.reverse ⟨a.nodes⟩ = ⟨a.nodes.map fun q => (q.2, q.1)⟩ := by
    unfold Plm.reverse
    apply plm_new_sorted
    rw [List.pairwise_map]
    refine hS.pw.imp ?_
    intro p q ⟨h1, h2⟩
    simp only [ptLe, Bool.or_eq_true, decide_eq_true_eq, Bool.and_eq_true, beq_iff_eq]
    rcases eq_or_lt_of_le h2 with e | l
    · right; exact ⟨e, le_of_lt h1⟩
    · left; exact l
  unfold Conv.designToUserMap
  rw [B.d2u, hrev]
  apply map_range
  · exact ⟨(a.designMin, a.min), by simp only [List.head?_map, hS.hhead, Option.map_some], hd1⟩
  · exact ⟨(a.designMax, a.max), List.mem_map.mpr ⟨(a.max, a.designMax), hS.last_mem, rfl⟩, hd2⟩
  · intro p hp
    obtain ⟨q, hq, rfl⟩ := List.mem_map.mp hp
    exact ⟨(hS.bounds q hq).1, (hS.bounds q hq).2.1⟩

end Fontc.PlmProofs
