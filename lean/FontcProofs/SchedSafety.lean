/-
  What the invariants buy.  The steps the real scheduler takes without asking are admitted by the model: the guard of a
  completion (`complete_eq_some`) follows from `WF` (`WF.complete_pre`), so handling a completion message, a worker's
  decrements and a skip never fail (`*_isSome`).  And a launch that `can_run` admitted says something about the past: for
  each form of dependency in the read access, the ids it covers are complete or their job's worker has finished
  (`canRun_reads_done`).
-/
import FontcProofs.SchedInv
namespace Fontc.Sched

theorem WF.complete_pre {s : State} {o : Entry} (w : WF s) (ho : o ∈ s.pending) (hreal : o.kind ≠ .alsoComplete) :
    (o.id :: s.alsoOf o.id).Nodup ∧ ∀ a ∈ o.id :: s.alsoOf o.id, s.isPending a = true ∧ a ∉ s.success := by
  refine ⟨w.also_nodup o ho hreal, ?_⟩
  intro a ha
  simp at ha
  rcases ha with rfl | ha
  · exact ⟨isPending_iff.2 ⟨o, ho, rfl⟩, w.disjoint o ho⟩
  · obtain ⟨e, he, rfl, _⟩ := w.also_pending o ho hreal a ha
    exact ⟨isPending_iff.2 ⟨e, he, rfl⟩, w.disjoint e he⟩

/-- `complete_one` / `mark_also_completed` never panic on a completion message the worker really sent -/
theorem receive_isSome {s : State} {id : Id} (w : WF s) (hin : id ∈ s.inflight) : ∃ s', s.receive id = some s' := by
  obtain ⟨o, ho, rfl, hrun⟩ := w.inflight_running id hin
  have hreal := w.running_real o ho hrun
  have hns : o.id ∉ s.success := w.disjoint o ho
  have hc := (complete_eq_some (s := { s with inflight := s.inflight.erase o.id, delivered := o.id :: s.delivered })).2
    ⟨rfl, w.complete_pre ho hreal⟩
  exact ⟨_, by rw [State.receive, if_pos (by simp [hin, hns])]; exact hc⟩

/-- the worker's counter decrements never underflow or miss a counter -/
theorem finish_isSome {s : State} {e : Entry} (w : WF s) (he : e ∈ s.pending) (hrun : e.running = true)
    (hni : e.id ∉ s.inflight) : ∃ s', s.finish e.id = some s' := by
  obtain ⟨cs, hcs⟩ := w.counters_dec_isSome (mem_active.2 ⟨he, w.running_real e he hrun, hni⟩)
  unfold State.finish
  simp [w.entry?_eq he, hrun, hni, hcs]

/-- a BE-glyph skip of a job that is not running never panics -/
theorem skip_isSome {s : State} {id : Id} (w : WF s)
    (h : ∀ e ∈ s.pending, e.id = id → e.running = false ∧ e.kind ≠ .alsoComplete) : ∃ s', s.skip id = some s' := by
  unfold State.skip
  cases hent : s.entry? id with
  | none => exact ⟨s, rfl⟩
  | some e =>
    obtain ⟨he, rfl⟩ := entry?_some hent
    obtain ⟨hrun, hreal⟩ := h e he rfl
    obtain ⟨cs, hcs⟩ := w.counters_dec_isSome (mem_active.2 ⟨he, hreal, w.idle_not_inflight he hrun⟩)
    have hc := (complete_eq_some (s := { s with counters := cs, skipped := e.id :: s.skipped })).2
      ⟨rfl, w.complete_pre he hreal⟩
    exact ⟨_, by simpa [hrun, hreal, hcs] using hc⟩

/-- `SpecificInstanceOfVariant(k)`: `k` is complete — or was never inserted (the scheduler cannot tell the difference) -/
theorem specific_dep_ok {s : State} {e : Entry} {ds : List Dep} {k : Id} (w : WF s)
    (hc : s.canRun e = true) (hr : e.reads = .set ds) (hk : Dep.specific k ∈ ds) :
    k ∈ s.success ∨ k ∉ s.inserted := by
  simp only [State.canRun, hr, List.all_eq_true] at hc
  have := hc _ hk
  simp only [State.depFulfilled, Bool.not_eq_true'] at this
  by_cases hi : k ∈ s.inserted
  · rcases w.inserted_cases k hi with h | h
    · rw [h] at this; simp at this
    · exact Or.inl h
  · exact Or.inr hi

/-- an entry of discriminant `d` whose owner is still active holds a slot of `d` -/
theorem WF.counter_zero {s : State} (w : WF s) {d : String} (h0 : ctrGet s.counters d = 0) :
    ∀ x ∈ s.pending, x.id.disc = d → x.owner ∈ s.inflight := by
  rw [w.counters d] at h0
  intro x hx hd
  obtain ⟨p, hp, hpk, hpo, hin⟩ := w.owner_job hx
  apply Classical.byContradiction
  intro hni
  exact List.count_eq_zero.1 h0 (mem_slots.2
    ⟨p, mem_active.2 ⟨hp, hpk, hpo ▸ hni⟩, List.mem_map.2 ⟨x.id, hin, hd⟩⟩)

theorem variant_dep_ok {s : State} {e : Entry} {ds : List Dep} {d : String} (w : WF s)
    (hc : s.canRun e = true) (hr : e.reads = .set ds) (hv : Dep.variant d ∈ ds) :
    ∀ x ∈ s.pending, x.id.disc = d → x.owner ∈ s.inflight := by
  simp only [State.canRun, hr, List.all_eq_true] at hc
  have h0 := hc _ hv
  simp only [State.depFulfilled, decide_eq_true_eq] at h0
  exact w.counter_zero h0

theorem variant_dep_done {s : State} {e : Entry} {ds : List Dep} {d : String} (w : WF s) (hh : Hist s)
    (hc : s.canRun e = true) (hr : e.reads = .set ds) (hv : Dep.variant d ∈ ds) {k : Id} (hk : k ∈ s.inserted)
    (hkd : k.disc = d) : k ∈ s.success ∨ ∃ x ∈ s.pending, x.id = k ∧ x.owner ∈ s.finished := by
  rcases w.inserted_cases k hk with hp | hs
  · obtain ⟨x, hx, rfl⟩ := isPending_iff.1 hp
    exact Or.inr ⟨x, hx, rfl, hh.inflight_fin _ (variant_dep_ok w hc hr hv x hx hkd)⟩
  · exact Or.inl hs

theorem all_dep_ok {s : State} {e : Entry} (w : WF s) (hc : s.canRun e = true) (hr : e.reads = .all) :
    ∀ k ∈ s.inserted, k = e.id ∨ k ∈ s.success := by
  simp only [State.canRun, hr, Bool.and_eq_true, List.all_eq_true, decide_eq_true_eq] at hc
  intro k hk
  rcases w.inserted_cases k hk with h | h
  · obtain ⟨x, hx, rfl⟩ := isPending_iff.1 h
    exact Or.inl (hc.2 x hx)
  · exact Or.inr h

theorem canRun_reads_done {s : State} {e : Entry} (w : WF s) (hh : Hist s) (hc : s.canRun e = true)
    {x : Id} (hx : e.reads.check x = true) (hne : x ≠ e.id) (hins : x ∈ s.inserted) :
    x ∈ s.success ∨ ∃ y ∈ s.pending, y.id = x ∧ y.owner ∈ s.finished := by
  cases hr : e.reads with
  | none => simp [hr, Access.check] at hx
  | unknown => simp [hr, Access.check] at hx
  | all => exact Or.inl ((all_dep_ok w hc hr x hins).resolve_left hne)
  | set ds =>
    simp only [hr, Access.check, List.any_eq_true] at hx
    obtain ⟨d, hd, hdx⟩ := hx
    cases d with
    | specific k =>
      obtain rfl : k = x := by simpa [Dep.check] using hdx
      exact Or.inl ((specific_dep_ok w hc hr hd).resolve_right fun h => h hins)
    | variant dd =>
      have hdd : dd = x.disc := by simpa [Dep.check] using hdx
      exact variant_dep_done w hh hc hr hd hins hdd.symm

end Fontc.Sched
