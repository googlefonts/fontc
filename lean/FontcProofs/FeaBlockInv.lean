/-
  C11: the invariant of the walk through ONE feature block, stated relative to the state `s0` at the
  start of the block, with one id per item put out, references included (`OutInv`, `GenInv`, `FeatOut`;
  `FlatInv`, `TopInv` for blocks made of `lookupflag` and rule statements only).  The proofs carry the
  program-wide form `Defs` / `FSim` / `TopInvG`, with which `GenInv` shares everything about the walk itself
  (`GenInv.of_sim`).  No module builds on this one, and no theorem shows the invariants stated here
  preserved: they are definitions, with the lemmas that read their recursive vocabulary as list equations.
-/
import FontcProofs.FeaSim

namespace Fontc.FeaCompile
open Cmp

/-- the items put out by the source walk, with their ids, are the item events, each at the position
    the preceding events lead to -/
def EvRel : Src.Reg → List Ev → List (Src.Reg × Src.Item) → List LookupId → Prop
  | _, [], [], [] => True
  | _, .sys s _ :: evs, items, ids => EvRel (regOfSys s) evs items ids
  | r, .item id :: evs, (r', _) :: items, id' :: ids => r' = r ∧ id' = id ∧ EvRel r evs items ids
  | _, _, _, _ => False

theorem EvRel_iff {evs : List Ev} : ∀ {r : Src.Reg} {items : List (Src.Reg × Src.Item)} {ids : List LookupId},
    EvRel r evs items ids ↔ items.length = ids.length ∧ itemsOf r evs = (items.map (·.1)).zip ids := by
  induction evs with
  | nil => intro r items ids; cases items <;> cases ids <;> simp [EvRel, itemsOf]
  | cons e evs ih =>
    intro r items ids
    cases e with
    | sys s ex => simp only [EvRel, itemsOf]; exact ih
    | item id =>
      cases items with
      | nil => cases ids <;> simp [EvRel, itemsOf]
      | cons it items =>
        cases ids with
        | nil => simp [EvRel]
        | cons id' ids =>
          simp only [EvRel, itemsOf, ih, List.length_cons, Nat.add_right_cancel_iff, List.map_cons, List.zip_cons_cons,
            List.cons.injEq, Prod.mk.injEq]
          constructor
          · rintro ⟨rfl, rfl, h1, h2⟩; exact ⟨h1, ⟨rfl, rfl⟩, h2⟩
          · rintro ⟨h1, ⟨rfl, rfl⟩, h2⟩; exact ⟨rfl, rfl, h1, h2⟩

/-- two lists of equal length whose entries at equal positions stand in `R` (`All2_iff`) -/
def All2 {α β : Type} (R : α → β → Prop) : List α → List β → Prop
  | [], [] => True
  | a :: as, b :: bs => R a b ∧ All2 R as bs
  | _, _ => False

theorem All2_iff {α β : Type} {R : α → β → Prop} : ∀ {as : List α} {bs : List β},
    All2 R as bs ↔ as.length = bs.length ∧ ∀ a b, (a, b) ∈ as.zip bs → R a b := by
  intro as
  induction as with
  | nil => intro bs; cases bs <;> simp [All2]
  | cons a as ih =>
    intro bs
    cases bs with
    | nil => simp [All2]
    | cons b bs =>
      simp only [All2, ih, List.length_cons, Nat.add_right_cancel_iff, List.zip_cons_cons, List.mem_cons, Prod.mk.injEq]
      constructor
      · rintro ⟨h1, h2, h3⟩
        refine ⟨h2, fun a' b' hm => ?_⟩
        rcases hm with ⟨rfl, rfl⟩ | hm
        · exact h1
        · exact h3 a' b' hm
      · rintro ⟨h2, h3⟩
        exact ⟨h3 a b (Or.inl ⟨rfl, rfl⟩), h2, fun a' b' hm => h3 a' b' (Or.inr hm)⟩

theorem All2.length {α β : Type} {R : α → β → Prop} : ∀ {as : List α} {bs : List β}, All2 R as bs → as.length = bs.length :=
  fun h => (All2_iff.mp h).1

theorem All2.of_forall {α β : Type} {R : α → β → Prop} :
    ∀ {as : List α} {bs : List β}, as.length = bs.length → (∀ a b, (a, b) ∈ as.zip bs → R a b) → All2 R as bs :=
  fun hl h => All2_iff.mpr ⟨hl, h⟩

/-- every lookup name bound in `s` is bound to the same id in `s'` -/
def NamedExt (s s' : St) : Prop := ∀ n id, s.named.lookup n = some id → s'.named.lookup n = some id

/-- an item of the source walk and the lookup id the compilation context has for it -/
def ItemOk (fx : Fixes) (s : St) (it : Src.Reg × Src.Item) (id : LookupId) : Prop :=
  match it.2 with
  | .defn l =>
    (∃ ls, CompiledRun fx s.attachIds s.filterIds l.flag l.rules id ls ∧ Placed s.gsub s.gpos id ls) ∧
    ∀ n, l.name = some n → s.named.lookup n = some id
  | .ref n => s.named.lookup n = some id ∧ idBelow s id

/-- `ItemOk` of every item put out and its id -/
def OutRelG (fx : Fixes) (s : St) : List (Src.Reg × Src.Item) → List LookupId → Prop := All2 (ItemOk fx s)

def Src.Item.isDefn : Src.Item → Bool
  | .defn _ => true
  | .ref _ => false

/-- the ids of the lookups defined (not merely referenced) by the items -/
def defIds (items : List (Src.Reg × Src.Item)) (ids : List LookupId) : List LookupId :=
  ((items.zip ids).filter fun x => x.1.2.isDefn).map (·.2)

theorem defLookups_length (items : List (Src.Reg × Src.Item)) (idsF : List LookupId) (h : items.length = idsF.length) :
    (defLookups items).length = (defIds items idsF).length := by
  induction items generalizing idsF with
  | nil => simp [defLookups, defIds]
  | cons it items ih =>
    cases idsF with
    | nil => simp at h
    | cons id0 idsF =>
      obtain ⟨reg0, itm⟩ := it
      have := ih idsF (by simpa using h)
      cases itm <;> simp_all [defLookups, defIds, Src.Item.isDefn]

/-- lookup names: those defined so far (`used`), each defined once, referenced only when defined -/
def NamesOk : List String → List Stmt → Prop
  | _, [] => True
  | used, .lookup n _ :: rest => n ∉ used ∧ NamesOk (n :: used) rest
  | used, .ref n :: rest => n ∈ used ∧ NamesOk used rest
  | used, _ :: rest => NamesOk used rest

/-- the name `n` is known when a reference to it appears after the items `pre` -/
def KnownAt (s0 : St) (n : String) (pre : List (Src.Reg × Src.Item)) : Prop :=
  (s0.named.lookup n).isSome = true ∨ ∃ reg l, (reg, Src.Item.defn l) ∈ pre ∧ l.name = some n

/-- every reference among the items is to a name known where it stands (`KnownAt`) -/
def RefsBack (s0 : St) (wout : List (Src.Reg × Src.Item)) : Prop :=
  ∀ pre reg n post, wout = pre ++ (reg, Src.Item.ref n) :: post → KnownAt s0 n pre

/-- The part of `GenInv` about the items put out so far (`wout`, with one id each in `ids`) and the state `s`, relative to the
    state `s0` at the start of the block: the counterpart of `FOut`. -/
structure OutInv (fx : Fixes) (U : List (List Glyph)) (tag : Tag) (dls : List Sys) (s0 : St)
    (wout : List (Src.Reg × Src.Item)) (s : St) (evs : List Ev) (ids : List LookupId) (used : List String) : Prop where
  idsInv : IdsInv s
  attachU : ∀ c ∈ s.attachIds, c ∈ U
  out : OutRelG fx s wout ids
  evrel : EvRel .root evs wout ids
  ordered : (defIds wout ids).Pairwise idLt
  below : ∀ id ∈ ids, idBelow s id
  fresh : ∀ id ∈ defIds wout ids, ¬ idBelow s0 id
  ctx : s.curName = none ∧ s.langsys = s0.langsys ∧ s.features = s0.features
  namedExt : NamedExt s0 s
  namedKeys : ∀ n, (s.named.lookup n).isSome = true ↔ n ∈ used
  namedBelow : ∀ n id, s.named.lookup n = some id → idBelow s id
  namedNew : ∀ n id, s.named.lookup n = some id →
    s0.named.lookup n = some id ∨ ∃ reg l, ((reg, Src.Item.defn l), id) ∈ wout.zip ids ∧ l.name = some n
  grew : Grew s0 s
  active : s.active = some (evs.foldl evStep (a0 tag dls))
  refsBack : RefsBack s0 wout

/-- The invariant of the walk through a feature block, relative to the state `s0` at its start: the fields of `FSim` about
    the walk itself, with `OutInv` in the place of `FOut`. -/
structure GenInv (fx : Fixes) (U : List (List Glyph)) (tag : Tag) (dls : List Sys) (s0 : St)
    (w : Src.Walk) (s : St) (evs : List Ev) (ids : List LookupId) (used : List String) : Prop where
  rel : RunRel fx w.cur w.flag s
  normFlag : FlagNorm w.flag
  normCur : ∀ reg f rules, w.cur = some (reg, f, rules) → FlagNorm f
  reg : w.reg = regAfter .root evs
  curReg : ∀ reg f rules, w.cur = some (reg, f, rules) → reg = w.reg
  script : s.script.getD "DFLT" = regScript w.reg
  o : OutInv fx U tag dls s0 w.out s evs ids used

theorem GenInv.of_sim {B : Feat} {w : Src.Walk} {s : St} {evs : List Ev} {ids ids' : List LookupId} {used : List String}
    (h : FSim B w s evs ids used) (o : OutInv B.fx B.U B.tag B.dls B.s0 w.out s evs ids' used) :
    GenInv B.fx B.U B.tag B.dls B.s0 w s evs ids' used :=
  ⟨h.rel, h.normFlag, h.normCur, h.reg, h.curReg, h.script, o⟩

/-- What a feature block as a whole does: the state `s'` after `St.feature` against the state `s` before it, with the items
    of the block, their ids and the events `ActiveFeature` was fed. -/
structure FeatOut (fx : Fixes) (U : List (List Glyph)) (tag : Tag) (s s' : St) (items : List (Src.Reg × Src.Item))
    (evs : List Ev) (ids : List LookupId) (used' : List String) : Prop where
  out : OutRelG fx s' items ids
  evrel : EvRel .root evs items ids
  ordered : (defIds items ids).Pairwise idLt
  below : ∀ id ∈ ids, idBelow s' id
  fresh : ∀ id ∈ defIds items ids, ¬ idBelow s id
  grew : Grew s s'
  idsInv : IdsInv s'
  attachU : ∀ c ∈ s'.attachIds, c ∈ U
  closed : s'.cur = none ∧ s'.curName = none ∧ s'.script = none ∧ s'.active = none ∧ s'.flag = (0, none)
  langsys : s'.langsys = s.langsys
  namedExt : NamedExt s s'
  namedKeys : ∀ n, (s'.named.lookup n).isSome = true ↔ n ∈ used'
  namedBelow : ∀ n id, s'.named.lookup n = some id → idBelow s' id
  namedNew : ∀ n id, s'.named.lookup n = some id →
    s.named.lookup n = some id ∨ ∃ reg l, ((reg, Src.Item.defn l), id) ∈ items.zip ids ∧ l.name = some n
  feats : s'.features = ((evs.foldl evStep (a0 tag s.defaultSystems)).finish).foldl
    (fun fs (x : Sys × List LookupId) => featInsert (tag, x.1.2, x.1.1) x.2 fs) s.features
  refsBack : RefsBack s items

/-- the anonymous lookups (runs of rules) a feature block has put out ↔ their ids -/
def OutRel (fx : Fixes) (s : St) : List (Src.Reg × Src.Item) → List LookupId → Prop
  | [], [] => True
  | (reg, .defn l) :: items, id :: ids =>
    reg = .root ∧ l.name = none ∧
    (∃ ls, CompiledRun fx s.attachIds s.filterIds l.flag l.rules id ls ∧ Placed s.gsub s.gpos id ls) ∧
    OutRel fx s items ids
  | _, _ => False

theorem OutRel.length {fx : Fixes} {s : St} :
    ∀ {items : List (Src.Reg × Src.Item)} {ids : List LookupId}, OutRel fx s items ids → items.length = ids.length := by
  intro items
  induction items with
  | nil => intro ids h; cases ids <;> simp_all [OutRel]
  | cons it items ih =>
    intro ids h
    obtain ⟨reg, item⟩ := it
    cases item with
    | ref n => cases ids <;> simp [OutRel] at h
    | defn l =>
      cases ids with
      | nil => simp [OutRel] at h
      | cons id ids => simp only [OutRel] at h; simp [ih h.2.2.2]

/-- the key under which `ActiveFeature` keeps the lookups added before any `script` statement (`DD` of FeaActive) -/
def rootKey : Sys := ("DFLT", "dflt")

/-- invariant of the walk through a feature block without `script` / `language` statements, lookup
    blocks and lookup references -/
structure FlatInv (fx : Fixes) (U : List (List Glyph)) (tag : Tag) (dls : List Sys) (s0 : St)
    (w : Src.Walk) (s : St) (ids : List LookupId) : Prop where
  rel : RunRel fx w.cur w.flag s
  idsInv : IdsInv s
  attachU : ∀ c ∈ s.attachIds, c ∈ U
  normFlag : FlagNorm w.flag
  normCur : ∀ reg f rules, w.cur = some (reg, f, rules) → FlagNorm f
  reg : w.reg = .root
  curReg : ∀ reg f rules, w.cur = some (reg, f, rules) → reg = .root
  out : OutRel fx s w.out ids
  ordered : ids.Pairwise idLt
  below : ∀ id ∈ ids, idBelow s id
  fresh : ∀ id ∈ ids, ¬ idBelow s0 id
  ctx : s.curName = none ∧ s.named = s0.named ∧ s.langsys = s0.langsys ∧ s.script = none ∧ s.features = s0.features
  grew : Grew s0 s
  active : ∃ a, s.active = some a ∧ a.tag = tag ∧ a.defaults = dls ∧ a.curSys = none ∧ a.scriptDefault = [] ∧
    a.lookups = (if ids = [] then [] else [(rootKey, ids)])

/-- the ids registered for a `(feature, script, language)` triple, in declaration order -/
def regIds (es : List Src.Entry) (ids : List LookupId) (reg : Tag × Tag × Tag) : List LookupId :=
  ((es.zip ids).filter fun x => x.1.regs.contains reg).map (·.2)

/-- the entries as items defined at the root -/
def entItems (es : List Src.Entry) : List (Src.Reg × Src.Item) := es.map fun e => (.root, .defn e.lookup)

/-- invariant between the source entries so far and the compilation context, between top-level
    statements -/
structure TopInv (fx : Fixes) (U : List (List Glyph)) (dls : List Sys) (es : List Src.Entry) (s : St)
    (ids : List LookupId) : Prop where
  closed : s.cur = none ∧ s.curName = none ∧ s.script = none ∧ s.active = none ∧ s.flag = (0, none)
  dlsOk : ∀ sys, sys ∈ s.defaultSystems ↔ sys ∈ dls
  idsInv : IdsInv s
  attachU : ∀ c ∈ s.attachIds, c ∈ U
  ents : OutRel fx s (entItems es) ids
  ordered : ids.Pairwise idLt
  below : ∀ id ∈ ids, idBelow s id
  featKeys : (s.features.map (·.1)).Nodup
  feats : ∀ tag lang script, (s.features.lookup (tag, lang, script)).getD [] = regIds es ids (tag, script, lang)
  regsUniform : ∀ e ∈ es, ∃ tag, ∀ tag' script lang,
    e.regs.contains (tag', script, lang) = true ↔ tag' = tag ∧ (script, lang) ∈ dls

end Fontc.FeaCompile
