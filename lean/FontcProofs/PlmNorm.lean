/-
  C08: the normalisations. `designNormalize` (the property's design normalisation) is the one function to know:
  the spec's `defaultNormalize` is the same function on `[min, max]`, and both `PiecewiseLinearMap`s that
  `CoordConverter::new` / `default_normalization` build from `normExamples` evaluate to it.
-/
import FontcProofs.PlmBasic
import Mathlib.Tactic.SplitIfs
import Mathlib.Tactic.NormNum

namespace Fontc.PlmProofs
open Fontc Fontc.Plm Fontc.Avar

theorem designNormalize_left {dmin ddef dmax d : Rat} (hd : d ≤ ddef) :
    designNormalize dmin ddef dmax d = (d - ddef) / (ddef - dmin) := by
  unfold designNormalize
  rcases lt_or_eq_of_le hd with c | c
  · rw [if_pos c, ← neg_div, neg_sub]
  · rw [c, if_neg (lt_irrefl _), if_neg (lt_irrefl _), sub_self, zero_div]

theorem designNormalize_right {dmin ddef dmax d : Rat} (hd : ddef ≤ d) :
    designNormalize dmin ddef dmax d = (d - ddef) / (dmax - ddef) := by
  unfold designNormalize
  rcases lt_or_eq_of_le hd with c | c
  · rw [if_neg (not_lt.mpr hd), if_pos c]
  · rw [← c, if_neg (lt_irrefl _), if_neg (lt_irrefl _), sub_self, zero_div]

theorem designNormalize_lerp_left {dmin ddef dmax : Rat} {a b t : Rat} (t0 : 0 ≤ t) (t1 : t ≤ 1)
    (hab : a ≤ b) (hb : b ≤ ddef) :
    designNormalize dmin ddef dmax (lerp a b t) =
      lerp (designNormalize dmin ddef dmax a) (designNormalize dmin ddef dmax b) t := by
  rw [designNormalize_left (le_trans (lerp_between t0 t1 hab).2 hb),
    designNormalize_left (le_trans hab hb), designNormalize_left hb]
  unfold lerp; ring

theorem designNormalize_lerp_right {dmin ddef dmax : Rat} {a b t : Rat} (t0 : 0 ≤ t) (t1 : t ≤ 1)
    (hab : a ≤ b) (ha : ddef ≤ a) :
    designNormalize dmin ddef dmax (lerp a b t) =
      lerp (designNormalize dmin ddef dmax a) (designNormalize dmin ddef dmax b) t := by
  rw [designNormalize_right (le_trans ha (lerp_between t0 t1 hab).1),
    designNormalize_right ha, designNormalize_right (le_trans ha hab)]
  unfold lerp; ring

theorem designNormalize_default (dmin ddef dmax : Rat) : designNormalize dmin ddef dmax ddef = 0 := by
  unfold designNormalize; simp

theorem designNormalize_min {dmin ddef : Rat} (dmax : Rat) (h : dmin ≤ ddef) :
    designNormalize dmin ddef dmax dmin = if dmin < ddef then -1 else 0 := by
  rw [designNormalize_left h]
  split_ifs with c
  · rw [← neg_sub ddef dmin, neg_div, div_self (ne_of_gt (sub_pos.mpr c))]
  · rw [le_antisymm h (not_lt.mp c), sub_self, zero_div]

theorem designNormalize_max (dmin : Rat) {ddef dmax : Rat} (h : ddef ≤ dmax) :
    designNormalize dmin ddef dmax dmax = if ddef < dmax then 1 else 0 := by
  rw [designNormalize_right h]
  split_ifs with c
  · rw [div_self (ne_of_gt (sub_pos.mpr c))]
  · rw [le_antisymm (not_lt.mp c) h, sub_self, zero_div]

theorem designNormalize_strictMono {dmin ddef dmax : Rat} {s t : Rat} (hs : dmin ≤ s) (ht : t ≤ dmax) (hst : s < t) :
    designNormalize dmin ddef dmax s < designNormalize dmin ddef dmax t := by
  by_cases c1 : t ≤ ddef
  · have hk : 0 < ddef - dmin := sub_pos.mpr (lt_of_le_of_lt hs (lt_of_lt_of_le hst c1))
    rw [designNormalize_left (le_trans (le_of_lt hst) c1), designNormalize_left c1]
    exact div_lt_div_of_pos_right (sub_lt_sub_right hst _) hk
  · have c1 : ddef < t := not_le.mp c1
    have hk : 0 < dmax - ddef := sub_pos.mpr (lt_of_lt_of_le c1 ht)
    by_cases c2 : ddef ≤ s
    · rw [designNormalize_right c2, designNormalize_right (le_of_lt c1)]
      exact div_lt_div_of_pos_right (sub_lt_sub_right hst _) hk
    · have c2 : s < ddef := not_le.mp c2
      rw [designNormalize_left (le_of_lt c2), designNormalize_right (le_of_lt c1)]
      exact lt_trans (div_neg_of_neg_of_pos (sub_neg.mpr c2) (sub_pos.mpr (lt_of_le_of_lt hs c2)))
        (div_pos (sub_pos.mpr c1) hk)

theorem designNormalize_mono {dmin ddef dmax : Rat} {s t : Rat} (hs : dmin ≤ s) (ht : t ≤ dmax) (hst : s ≤ t) :
    designNormalize dmin ddef dmax s ≤ designNormalize dmin ddef dmax t := by
  rcases lt_or_eq_of_le hst with h | h
  · exact le_of_lt (designNormalize_strictMono hs ht h)
  · rw [h]

theorem designNormalize_between {dmin ddef dmax d : Rat} (h1 : dmin ≤ ddef) (h2 : ddef ≤ dmax)
    (hd1 : dmin ≤ d) (hd2 : d ≤ dmax) :
    (if dmin < ddef then (-1 : Rat) else 0) ≤ designNormalize dmin ddef dmax d ∧
    designNormalize dmin ddef dmax d ≤ (if ddef < dmax then (1 : Rat) else 0) := by
  rw [← designNormalize_min dmax h1, ← designNormalize_max dmin h2]
  exact ⟨designNormalize_mono (le_refl _) hd2 hd1,
         designNormalize_mono hd1 (le_refl _) hd2⟩

theorem designNormalize_range {dmin ddef dmax d : Rat} (h1 : dmin ≤ ddef) (h2 : ddef ≤ dmax)
    (hd1 : dmin ≤ d) (hd2 : d ≤ dmax) :
    -1 ≤ designNormalize dmin ddef dmax d ∧ designNormalize dmin ddef dmax d ≤ 1 := by
  have h := designNormalize_between h1 h2 hd1 hd2
  have hlo : (-1 : Rat) ≤ (if dmin < ddef then (-1 : Rat) else 0) := by split_ifs <;> norm_num
  have hhi : (if ddef < dmax then (1 : Rat) else 0) ≤ 1 := by split_ifs <;> norm_num
  exact ⟨le_trans hlo h.1, le_trans h.2 hhi⟩

theorem designNormalize_unit {lo hi x : Rat} (hlo : lo = -1 ∨ lo = 0) (hhi : hi = 1 ∨ hi = 0) (h1 : lo ≤ x)
    (h2 : x ≤ hi) :
    designNormalize lo 0 hi x = x := by
  rcases le_total x 0 with c | c
  · rw [designNormalize_left c]
    rcases hlo with rfl | rfl
    · norm_num
    · rw [le_antisymm c h1]; norm_num
  · rw [designNormalize_right c]
    rcases hhi with rfl | rfl
    · norm_num
    · rw [le_antisymm h2 c]; norm_num

theorem defaultNormalize_eq {mn df mx u : Rat} (hu1 : mn ≤ u) (hu2 : u ≤ mx) :
    defaultNormalize mn df mx u = designNormalize mn df mx u := by
  simp only [defaultNormalize, designNormalize, if_neg (not_lt.mpr hu1), if_neg (not_lt.mpr hu2)]

theorem normExamples_strict (dmin ddef dmax : Rat) : StrictFrom (normExamples dmin ddef dmax) := by
  unfold normExamples StrictFrom
  split_ifs with h1 h2 h2
  · simp [h1, h2, lt_trans h1 h2]
  · simp [h1]
  · simp [h2]
  · simp

/-- `design_to_normalized` of `CoordConverter::new` is the property's design normalisation on
    `[design min, design max]`: left and right of the default the point lies in the segment to the default
    entry, which is the line of `designNormalize_left` / `designNormalize_right`. -/
theorem d2n_closed {dmin ddef dmax d : Rat} (hd1 : dmin ≤ d) (hd2 : d ≤ dmax) :
    Plm.map ⟨normExamples dmin ddef dmax⟩ d = designNormalize dmin ddef dmax d := by
  have hs := normExamples_strict dmin ddef dmax
  rcases lt_trichotomy d ddef with c | c | c
  · have hlt : dmin < ddef := lt_of_le_of_lt hd1 c
    have hc : Consec (dmin, (-1 : Rat)) (ddef, 0) (normExamples dmin ddef dmax) :=
      ⟨[], if ddef < dmax then [(dmax, (1 : Rat))] else [], by simp [normExamples, hlt]⟩
    rw [map_consec hs hc hd1 (le_of_lt c), designNormalize_left (le_of_lt c)]
    have hne : ddef - dmin ≠ 0 := ne_of_gt (sub_pos.mpr hlt)
    simp only [interp]
    rw [eq_div_iff hne, add_mul, div_mul_cancel₀ _ hne]; ring
  · have hm : (ddef, (0 : Rat)) ∈ normExamples dmin ddef dmax := by simp [normExamples]
    rw [c, designNormalize_default]
    exact map_vertex hs hm
  · have hlt : ddef < dmax := lt_of_lt_of_le c hd2
    have hc : Consec (ddef, (0 : Rat)) (dmax, 1) (normExamples dmin ddef dmax) :=
      ⟨if dmin < ddef then [(dmin, (-1 : Rat))] else [], [], by simp [normExamples, hlt]⟩
    rw [map_consec hs hc (le_of_lt c) hd2, designNormalize_right (le_of_lt c)]
    simp only [interp]
    ring

theorem conv_new_ok {ms : List Pt} {idx : Nat} {df dd : Rat} (h : ms[idx]? = some (df, dd)) :
    ∃ d0 ds c, ms.map (·.2) = d0 :: ds ∧ Conv.new ms idx = .ok c ∧
      c.userToDesign = Plm.new ms ∧ c.designToUser = (Plm.new ms).reverse ∧
      c.designToNormalized = ⟨normExamples (listMin d0 ds) dd (listMax d0 ds)⟩ := by
  cases ms with
  | nil => simp at h
  | cons m ms =>
    refine ⟨m.2, ms.map (·.2), ?_⟩
    have hd : ((m :: ms).map (·.2))[idx]? = some dd := by
      rw [List.getElem?_map, h]; rfl
    simp only [List.map_cons] at hd
    simp only [Conv.new, List.isEmpty_cons, Bool.false_eq_true, if_false, List.map_cons, hd]
    exact ⟨_, trivial, rfl, rfl, rfl, plm_new_strict (normExamples_strict _ _ _)⟩

theorem defaultNormalization_fields (mn df mx : Rat) :
    (Conv.defaultNormalization mn df mx).userToDesign = ⟨normExamples mn df mx⟩ ∧
    (Conv.defaultNormalization mn df mx).designToNormalized =
      ⟨normExamples (if mn < df then -1 else 0) 0 (if df < mx then 1 else 0)⟩ := by
  have hidx : (normExamples mn df mx)[if mn < df then 1 else 0]? = some (df, 0) := by
    by_cases h : mn < df <;> simp [normExamples, h]
  obtain ⟨d0, ds, c, hm, hc, hu, _, hn⟩ := conv_new_ok hidx
  have e : Conv.defaultNormalization mn df mx = c := by
    show (match Conv.new (normExamples mn df mx) (if mn < df then 1 else 0) with
          | .ok c => c | .error _ => default) = c
    rw [hc]
  -- the "design" values of these examples are -1, 0, 1 as far as present, so the min / max folds return the outer ones
  have hmem : ∀ d, d ∈ d0 :: ds ↔ (mn < df ∧ d = -1) ∨ d = 0 ∨ (df < mx ∧ d = 1) := by
    intro d
    rw [← hm]
    by_cases h1 : mn < df <;> by_cases h2 : df < mx <;> simp [normExamples, h1, h2]
  have hmin : listMin d0 ds = if mn < df then -1 else 0 := by
    apply listMin_eq
    · rw [hmem]; split_ifs with h1
      · exact Or.inl ⟨h1, rfl⟩
      · exact Or.inr (Or.inl rfl)
    · intro d hd
      rcases (hmem d).mp hd with ⟨h1, rfl⟩ | rfl | ⟨_, rfl⟩ <;> split_ifs <;> norm_num
  have hmax : listMax d0 ds = if df < mx then 1 else 0 := by
    apply listMax_eq
    · rw [hmem]; split_ifs with h2
      · exact Or.inr (Or.inr ⟨h2, rfl⟩)
      · exact Or.inr (Or.inl rfl)
    · intro d hd
      rcases (hmem d).mp hd with ⟨_, rfl⟩ | rfl | ⟨h2, rfl⟩ <;> split_ifs <;> norm_num
  rw [e, hu, hn, hmin, hmax]
  exact ⟨plm_new_strict (normExamples_strict _ _ _), rfl⟩

/-- In `CoordConverter::default_normalization` user → "design" is `designNormalize mn df mx`, and the second map,
    built over its range, is the identity there. -/
theorem defaultConv_toNormalized {mn df mx u : Rat} (h1 : mn ≤ df) (h2 : df ≤ mx) (hu1 : mn ≤ u) (hu2 : u ≤ mx) :
    (Conv.defaultNormalization mn df mx).toNormalized u = defaultNormalize mn df mx u := by
  unfold Conv.toNormalized Conv.designToNorm Conv.toDesign
  rw [(defaultNormalization_fields mn df mx).1, (defaultNormalization_fields mn df mx).2,
      d2n_closed hu1 hu2, defaultNormalize_eq hu1 hu2]
  have hr := designNormalize_between h1 h2 hu1 hu2
  rw [d2n_closed hr.1 hr.2]
  refine designNormalize_unit ?_ ?_ hr.1 hr.2 <;> split_ifs <;> simp

end Fontc.PlmProofs
