/-
  `freshIds` is a condition on the script; what the invariants ask for is that no state has inserted an id twice.  The
  first gives the second in every schedule (`fresh_sound`): the inserted ids are the initial ones and those of the
  deliveries handled so far (`ReachInit.mem_inserted`), a job is delivered once, and `freshIds` keeps those lists apart
  (`FreshFacts`).
-/
import FontcProofs.SchedCheckSound
namespace Fontc.Sched

theorem addedIds_entry (sc : Script) (q : Id) :
    sc.addedIds q = [] ∨ ∃ p ∈ sc.onDeliver, p.1 = q ∧ sc.addedIds q = entryIds p := by
  rcases effects_entry sc q with h | ⟨p, hp, hq, he⟩
  · left; simp [Script.addedIds, h]
  · right; exact ⟨p, hp, hq, by simp [Script.addedIds, he, entryIds]⟩

/-- what `freshIds` checks, said of the ids a delivery inserts (`Script.addedIds`) instead of the entries of `onDeliver` -/
structure FreshFacts (sc : Script) : Prop where
  init_nodup : sc.initIds.Nodup
  added_nodup : ∀ q, (sc.addedIds q).Nodup
  added_not_init : ∀ q, ∀ x ∈ sc.addedIds q, x ∉ sc.initIds
  added_disjoint : ∀ q q', q ≠ q' → ∀ x ∈ sc.addedIds q, x ∉ sc.addedIds q'

theorem freshFacts {sc : Script} (h : freshIds sc = true) : FreshFacts sc := by
  simp only [freshIds, Bool.and_eq_true, decide_eq_true_eq, List.all_eq_true, Bool.or_eq_true, Bool.not_eq_true',
    List.contains_eq_mem, decide_eq_false_iff_not] at h
  obtain ⟨hinit, hall⟩ := h
  have ent : ∀ {q x}, x ∈ sc.addedIds q → ∃ p ∈ sc.onDeliver, p.1 = q ∧ sc.addedIds q = entryIds p := fun hx =>
    (addedIds_entry _ _).resolve_left fun h => by simp [h] at hx
  constructor
  · exact hinit
  · intro q
    rcases addedIds_entry sc q with h | ⟨p, hp, _, he⟩
    · rw [h]; exact List.nodup_nil
    · rw [he]; exact (hall p hp).1.1
  · intro q x hx
    obtain ⟨p, hp, _, he⟩ := ent hx
    exact (hall p hp).1.2 x (he ▸ hx)
  · intro q q' hne x hx hx'
    obtain ⟨p, hp, hpq, he⟩ := ent hx
    obtain ⟨p', hp', hpq', he'⟩ := ent hx'
    rcases (hall p hp).2 p' hp' with heq | hdis
    · exact hne (hpq.symm.trans (heq.symm.trans hpq'))
    · exact hdis x (he ▸ hx) (he' ▸ hx')

theorem fresh_sound {sc : Script} (hf : freshIds sc = true) {s : State} (r : ReachInit sc s) : s.inserted.Nodup := by
  have ff := freshFacts hf
  -- by `ReachInit.mem_inserted`, an id added by a delivery still to come is not among the initial ids
  -- nor among those of another delivery
  have later : ∀ {s : State}, ReachInit sc s → ∀ q, q ∉ s.delivered → ∀ x ∈ sc.addedIds q, x ∉ s.inserted := by
    intro s r q hq x hx hin
    rcases r.mem_inserted.1 hin with h | ⟨q', hq', h⟩
    · exact ff.added_not_init q x hx h
    · exact ff.added_disjoint q q' (fun e => hq (e ▸ hq')) x hx h
  induction r with
  | init h =>
    exact (insertAll_inserts h).nodup.2 ⟨ff.init_nodup, by simp [State.empty], by simp [State.empty]⟩
  | launch id _ h ih =>
    obtain ⟨e, rfl, _⟩ := launch_spec h
    exact ih
  | finish id _ h ih =>
    obtain ⟨e, cs, rfl, _⟩ := finish_spec h
    exact ih
  | deliver id r h ih =>
    rename_i s0 _
    -- `id` is pending, so it has not been delivered before
    have hnd : id ∉ s0.delivered := by
      intro hdel
      obtain ⟨s1, h1, _⟩ := deliver_eq_some.1 h
      obtain ⟨hin, _, _⟩ := receive_spec h1
      obtain ⟨o, ho, rfl, _⟩ := (r.inv ih).wf.inflight_running id hin
      exact (r.inv ih).wf.disjoint o ho ((r.inv ih).hist.done_success _ (.inl hdel))
    obtain ⟨⟨l, p, e⟩, _, _⟩ := deliver_history h
    rw [e, List.nodup_append, p.nodup_iff]
    exact ⟨ff.added_nodup id, ih, fun x hx y hy hxy => later r id hnd x (p.mem_iff.1 hx) (hxy ▸ hy)⟩

end Fontc.Sched
