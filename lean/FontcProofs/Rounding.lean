/-
  Facts about the rounding functions of FontcModel/Basic.lean (`roundTiesEven`, `otRound`, `ratAbs`,
  `Rounding.apply`).  What holds of every rounding to a nearest integer (monotone, fixes the integers, does not
  cross an integer) is proved once, for `Nearest`.  `toFixed` is the fixed-point conversion (`F2Dot14::from_f64`,
  `Fixed::from_f64`) with the format as a parameter.  Shared by several properties; core Lean only.
-/
import FontcModel.Basic

namespace Fontc

theorem ratAbs_le_iff (x c : Rat) : ratAbs x ≤ c ↔ -c ≤ x ∧ x ≤ c := by
  unfold ratAbs; split <;> grind

theorem ratAbs_lt_iff (x c : Rat) : ratAbs x < c ↔ -c < x ∧ x < c := by
  unfold ratAbs; split <;> grind

theorem ratAbs_nonneg (x : Rat) : 0 ≤ ratAbs x := by
  unfold ratAbs; split <;> grind

theorem ratAbs_zero : ratAbs 0 = 0 := by decide

theorem ratAbs_eq_zero_iff (x : Rat) : ratAbs x = 0 ↔ x = 0 := by
  unfold ratAbs; split <;> grind

theorem ratAbs_neg (x : Rat) : ratAbs (-x) = ratAbs x := by
  unfold ratAbs; grind

theorem ratAbs_sub_comm (x y : Rat) : ratAbs (x - y) = ratAbs (y - x) := by
  rw [← ratAbs_neg, Rat.neg_sub]

theorem ratAbs_add_le (a b : Rat) : ratAbs (a + b) ≤ ratAbs a + ratAbs b := by
  have ha := (ratAbs_le_iff a _).1 (Rat.le_refl)
  have hb := (ratAbs_le_iff b _).1 (Rat.le_refl)
  rw [ratAbs_le_iff]
  constructor <;> grind

theorem ratAbs_sub_le {x y z c d : Rat} (h1 : ratAbs (x - y) ≤ c) (h2 : ratAbs (y - z) ≤ d) :
    ratAbs (x - z) ≤ c + d := by
  rw [ratAbs_le_iff] at *
  constructor <;> grind

theorem ratAbs_mul_le (a : Rat) {x B : Rat} (h : ratAbs x ≤ B) : ratAbs (a * x) ≤ ratAbs a * B := by
  obtain ⟨h1, h2⟩ := (ratAbs_le_iff x B).1 h
  apply (ratAbs_le_iff _ _).2
  by_cases ha : a < 0
  · have hna : 0 ≤ -a := by grind
    have e1 := Rat.mul_le_mul_of_nonneg_left h1 hna
    have e2 := Rat.mul_le_mul_of_nonneg_left h2 hna
    have : ratAbs a = -a := by simp [ratAbs, ha]
    rw [this]
    constructor <;> grind
  · have hna : 0 ≤ a := by grind
    have e1 := Rat.mul_le_mul_of_nonneg_left h1 hna
    have e2 := Rat.mul_le_mul_of_nonneg_left h2 hna
    have : ratAbs a = a := by simp [ratAbs, ha]
    rw [this]
    constructor <;> grind

theorem rat_mul_le_mul_right {a b s : Rat} (hs : 0 < s) : a * s ≤ b * s ↔ a ≤ b :=
  ⟨(Rat.le_of_mul_le_mul_right · hs), (Rat.mul_le_mul_of_nonneg_right · (Rat.le_of_lt hs))⟩

/-- A distance scales with the unit.  With `Nearest` this is the error of a rounding to a grid of step `s`
    (`a` the integer, `b = x / s`) and of a fixed-point conversion with `s` units per 1 (`a = r / s`, `b = x`). -/
theorem ratAbs_mul_right_le_iff {a b c s : Rat} (hs : 0 < s) : ratAbs (a * s - b * s) ≤ c * s ↔ ratAbs (a - b) ≤ c := by
  rw [ratAbs_le_iff, ratAbs_le_iff, show a * s - b * s = (a - b) * s by grind, ← Rat.neg_mul]
  exact and_congr (rat_mul_le_mul_right hs) (rat_mul_le_mul_right hs)

/-- `r` sends every rational to an integer at distance at most 1/2, whatever it does on ties -/
def Nearest (r : Rat → Int) : Prop := ∀ x, ratAbs ((r x : Rat) - x) ≤ 1/2

namespace Nearest
variable {r : Rat → Int} (h : Nearest r)
include h

/-- `r x ≤ x + 1/2 ≤ m + 1/2`, and `r x` and `m` are integers -/
theorem le_int {x : Rat} {m : Int} (hx : x ≤ m) : r x ≤ m := by
  have := ((ratAbs_le_iff _ _).1 (h x)).2
  have : ((r x : Int) : Rat) < ((m + 1 : Int) : Rat) := by rw [Rat.intCast_add]; grind
  exact Int.lt_add_one_iff.1 (Rat.intCast_lt_intCast.1 this)

theorem int_le {x : Rat} {m : Int} (hx : (m : Rat) ≤ x) : m ≤ r x := by
  have := ((ratAbs_le_iff _ _).1 (h x)).1
  have : ((m - 1 : Int) : Rat) < ((r x : Int) : Rat) := by rw [Rat.intCast_sub]; grind
  exact Int.sub_one_lt_iff.1 (Rat.intCast_lt_intCast.1 this)

theorem intCast (k : Int) : r (k : Rat) = k :=
  Int.le_antisymm (h.le_int Rat.le_refl) (h.int_le Rat.le_refl)

/-- for `x < y`: `r x ≤ x + 1/2 < y + 1/2 ≤ r y + 1`, between integers; nothing about ties is needed -/
theorem mono {x y : Rat} (hxy : x ≤ y) : r x ≤ r y := by
  have hx := ((ratAbs_le_iff _ _).1 (h x)).2
  have hy := ((ratAbs_le_iff _ _).1 (h y)).1
  by_cases e : x = y
  · rw [e]; exact Int.le_refl _
  · have : ((r x : Int) : Rat) < ((r y + 1 : Int) : Rat) := by rw [Rat.intCast_add]; grind
    exact Int.lt_add_one_iff.1 (Rat.intCast_lt_intCast.1 this)

end Nearest

theorem roundTiesEven_sub_bounds (x : Rat) :
    -(1/2 : Rat) ≤ (roundTiesEven x : Rat) - x ∧ (roundTiesEven x : Rat) - x ≤ 1/2 := by
  have h1 := Rat.floor_le x
  have h2 := Rat.lt_floor_add_one x
  unfold roundTiesEven
  simp only
  split
  · grind
  · split
    · constructor <;> (simp [Rat.intCast_add] at *; grind)
    · split <;> (simp [Rat.intCast_add] at *; grind)

theorem roundTiesEven_nearest : Nearest roundTiesEven := fun x => by
  rw [ratAbs_le_iff]; exact roundTiesEven_sub_bounds x

theorem roundTiesEven_intCast (k : Int) : roundTiesEven (k : Rat) = k := roundTiesEven_nearest.intCast k

theorem otRound_ge_iff (v : Rat) (k : Int) : k ≤ otRound v ↔ (k : Rat) - 1/2 ≤ v := by
  rw [otRound, Rat.le_floor_iff]; grind

theorem otRound_le_iff (v : Rat) (k : Int) : otRound v ≤ k ↔ v < (k : Rat) + 1/2 := by
  rw [← Int.lt_add_one_iff, otRound, Rat.floor_lt_iff, Rat.intCast_add]; grind

theorem otRound_gt_iff (v : Rat) (k : Int) : k < otRound v ↔ (k : Rat) + 1/2 ≤ v := by
  rw [← Int.not_le, otRound_le_iff, Rat.not_lt]

theorem otRound_lt_iff (v : Rat) (k : Int) : otRound v < k ↔ v < (k : Rat) - 1/2 := by
  rw [← Int.not_le, otRound_ge_iff, Rat.not_le]

theorem otRound_sub_bounds (x : Rat) :
    -(1/2 : Rat) < (otRound x : Rat) - x ∧ (otRound x : Rat) - x ≤ 1/2 := by
  have h1 := (otRound_le_iff x _).1 (Int.le_refl _)
  have h2 := (otRound_ge_iff x _).1 (Int.le_refl _)
  grind

theorem otRound_nearest : Nearest otRound := fun x => by
  rw [ratAbs_le_iff]
  have := otRound_sub_bounds x
  grind

theorem otRound_intCast (k : Int) : otRound (k : Rat) = k := otRound_nearest.intCast k

theorem ratAbs_sub_le_one_of_otRound {y a : Rat} (h : ratAbs (y - (otRound a : Rat)) ≤ 1/2) :
    ratAbs (y - a) ≤ 1 := by
  have := ratAbs_sub_le h (otRound_nearest a)
  grind

/-- `(2T + C) / 2C` in integer arithmetic (os2.rs:248-256, `Limits.avgOfInt`) is the OpenType rounding of `T / C`, for all inputs -/
theorem otRound_div_eq (C T : Nat) (hC : 1 ≤ C) :
    otRound ((T : Rat) / (C : Rat)) = (((2 * T + C) / (2 * C) : Nat) : Int) := by
  have hCpos : (0 : Rat) < (C : Rat) := Rat.natCast_lt_natCast.2 hC
  have h1 : (2 * T + C) / (2 * C) * (2 * C) ≤ 2 * T + C := Nat.div_mul_le_self _ _
  have h2 : 2 * T + C < (2 * T + C) / (2 * C) * (2 * C) + 2 * C := Nat.lt_div_mul_add (by omega)
  generalize (2 * T + C) / (2 * C) = k at h1 h2 ⊢
  have h1r := Rat.natCast_le_natCast.2 h1
  have h2r := Rat.natCast_lt_natCast.2 h2
  simp only [Rat.natCast_add, Rat.natCast_mul] at h1r h2r
  refine Int.le_antisymm ((otRound_le_iff _ _).2 ?_) ((otRound_ge_iff _ _).2 ?_)
  · rw [Rat.div_lt_iff hCpos, Rat.intCast_natCast]; grind
  · rw [Rat.intCast_natCast, ← Rat.not_lt, Rat.div_lt_iff hCpos]; grind

/-- holds of the i32 → i16 clamp `Limits.clampI16` too, which is the same function -/
theorem satI16_eq_iff {v : Int} : satI16 v = v ↔ -32768 ≤ v ∧ v ≤ 32767 := by
  unfold satI16; (repeat' split) <;> omega

/-- round half away from zero, `(s + copysign(0.5, s)) as int`: `otRound` reflected at 0 -/
def roundAway (s : Rat) : Int := if s < 0 then -otRound (-s) else otRound s

theorem roundAway_nearest : Nearest roundAway := fun s => by
  unfold roundAway
  split
  · have := otRound_nearest (-s)
    rw [← ratAbs_neg] at this
    rwa [Rat.intCast_neg, show -(otRound (-s) : Rat) - s = -((otRound (-s) : Rat) - -s) by grind]
  · exact otRound_nearest s

/-- `from_f64` of a fixed-point format with `one` raw units per 1 and raw range `[lo, hi]`: round half away
    from zero, then saturate -/
def toFixed (one : Rat) (lo hi : Int) (x : Rat) : Int :=
  if roundAway (x * one) < lo then lo else if roundAway (x * one) > hi then hi else roundAway (x * one)

theorem f2dot14Bits_eq (x : Rat) : f2dot14Bits x = toFixed 16384 (-32768) 32767 x := rfl

theorem toFixed_mono {one : Rat} {lo hi : Int} (hone : 0 ≤ one) (hlh : lo ≤ hi) {x y : Rat} (h : x ≤ y) :
    toFixed one lo hi x ≤ toFixed one lo hi y := by
  have := roundAway_nearest.mono (Rat.mul_le_mul_of_nonneg_right h hone)
  unfold toFixed
  grind

theorem toFixed_of_mem {one : Rat} {lo hi : Int} {x : Rat} (h1 : (lo : Rat) ≤ x * one) (h2 : x * one ≤ (hi : Rat)) :
    toFixed one lo hi x = roundAway (x * one) := by
  have := roundAway_nearest.int_le h1
  have := roundAway_nearest.le_int h2
  unfold toFixed
  grind

theorem toFixed_exact {one : Rat} {lo hi : Int} (hone : one ≠ 0) {k : Int} (h1 : lo ≤ k) (h2 : k ≤ hi) :
    toFixed one lo hi ((k : Rat) / one) = k := by
  have e : (k : Rat) / one * one = (k : Rat) := by grind
  rw [toFixed_of_mem (by rw [e]; exact Rat.intCast_le_intCast.2 h1) (by rw [e]; exact Rat.intCast_le_intCast.2 h2), e,
    roundAway_nearest.intCast]

theorem toFixed_err {one half : Rat} (hone : 0 < one) (hhalf : half * one = 1/2) {lo hi : Int} {x : Rat}
    (h1 : (lo : Rat) ≤ x * one) (h2 : x * one ≤ (hi : Rat)) :
    ratAbs ((toFixed one lo hi x : Rat) / one - x) ≤ half := by
  rw [toFixed_of_mem h1 h2, ← ratAbs_mul_right_le_iff hone, Rat.div_mul_cancel (Rat.ne_of_gt hone), hhalf]
  exact roundAway_nearest (x * one)

theorem Rounding.apply_abs_le (r : Rounding) (x : Rat) : ratAbs (r.apply x - x) ≤ 1/2 := by
  cases r
  · simp [Rounding.apply, Rat.sub_self, ratAbs_zero]; grind
  · exact roundTiesEven_nearest x

theorem Rounding.apply_none (x : Rat) : Rounding.none.apply x = x := rfl

theorem Rounding.apply_intCast (r : Rounding) (k : Int) : r.apply (k : Rat) = k := by
  cases r
  · rfl
  · simp [Rounding.apply, roundTiesEven_intCast]

end Fontc
