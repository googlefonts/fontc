/- C17, `MetricsBuilder` (hmtx/hhea and the vertical twin): the extrema are selection folds of ListFacts, the compressed
   hmtx is read through the trailing run of equal advances. -/
import FontcModel.Limits
import FontcProofs.ListFacts

namespace Fontc.Limits

/-- the record `update` appends for a glyph -/
def lmOf (g : GlyphMetric) : LongMetric := ⟨g.advance, g.sideBearing⟩

theorem MetricsBuilder.foldl_update (gs : List GlyphMetric) (b : MetricsBuilder) :
    gs.foldl MetricsBuilder.update b =
      { longMetrics := b.longMetrics ++ gs.map lmOf
        advanceMax := (gs.map (·.advance)).foldl max b.advanceMax
        minFirst := (gs.filterMap fun g => g.boundsAdvance.map fun _ => g.sideBearing).foldl optMin b.minFirst
        minSecond := ((gs.filterMap fun g => g.boundsAdvance.map fun ba =>
          (g.advance : Int) - g.sideBearing - ba).map clampI16).foldl optMin b.minSecond
        maxExtent := ((gs.filterMap fun g => g.boundsAdvance.map fun ba =>
          g.sideBearing + ba).map clampI16).foldl optMax b.maxExtent } := by
  induction gs generalizing b with
  | nil => simp
  | cons g gs ih =>
    rw [List.foldl_cons, ih]
    unfold MetricsBuilder.update
    cases h : g.boundsAdvance <;> simp [h, lmOf]

theorem optMin_eq : optMin = optFold min := by funext o x; cases o <;> rfl
theorem optMax_eq : optMax = optFold max := by funext o x; cases o <;> rfl

theorem isMinOr0_fold (xs : List Int) : IsMinOr0 ((xs.foldl optMin none).getD 0) xs :=
  optMin_eq ▸ optFold_getD_spec selects_min_int xs 0

theorem isMaxOr0_fold (xs : List Int) : IsMaxOr0 ((xs.foldl optMax none).getD 0) xs :=
  optMax_eq ▸ optFold_getD_spec selects_max_int xs 0

theorem isMaxNat_fold (xs : List Nat) : IsMaxNat (xs.foldl max 0) xs :=
  ⟨(foldl_select selects_max_nat xs 0).2.1, (foldl_select selects_max_nat xs 0).2.2.symm⟩

theorem IsMaxNat.le_of_forall {v b : Nat} {xs : List Nat} (h : IsMaxNat v xs) (hb : ∀ x ∈ xs, x ≤ b) : v ≤ b :=
  h.2.elim (hb v) fun h0 => h0 ▸ Nat.zero_le b

/-- The trailing run that `build` compresses.  `b` is the first of the maximal run of the last advance; that the run is
    maximal is not stated: decoding does not need it. -/
theorem trailing_run (ms : List LongMetric) (hne : ms ≠ []) :
    ∃ A b B, ms = A ++ b :: B ∧ (∀ x ∈ B, x.advance = b.advance) ∧ lsbRun ms = B.length + 1 ∧
      numLsbOnly ms = B.length := by
  obtain ⟨l, hl⟩ : ∃ l, ms.getLast? = some l := by
    cases hm : ms.getLast? with
    | none => exact absurd (List.getLast?_eq_none_iff.1 hm) hne
    | some l => exact ⟨l, rfl⟩
  -- the reversed list is the run followed by the rest; the run starts with the last element, so is not empty
  have hsplit := List.takeWhile_append_dropWhile (p := fun m : LongMetric => m.advance == l.advance) (l := ms.reverse)
  have hall : ∀ x ∈ (ms.reverse.takeWhile fun m => m.advance == l.advance).reverse, x.advance = l.advance :=
    fun x hx => by simpa using List.all_eq_true.1 List.all_takeWhile x (List.mem_reverse.1 hx)
  have hk : lsbRun ms = (ms.reverse.takeWhile fun m => m.advance == l.advance).reverse.length := by
    simp [lsbRun, hl]
  have hms : ms = (ms.reverse.dropWhile fun m => m.advance == l.advance).reverse ++
      (ms.reverse.takeWhile fun m => m.advance == l.advance).reverse := by
    rw [← List.reverse_append, hsplit, List.reverse_reverse]
  cases hrun : (ms.reverse.takeWhile fun m => m.advance == l.advance).reverse with
  | nil =>
    have hhead : ms.reverse.head? = some l := by simpa using hl
    cases hr : ms.reverse with
    | nil => simp [hr] at hhead
    | cons a r =>
      rw [hr] at hhead hrun
      cases Option.some.inj hhead
      simp at hrun
  | cons b B =>
    rw [hrun] at hall hk hms
    exact ⟨_, b, B, hms, fun x hx => (hall x (List.mem_cons_of_mem _ hx)).trans (hall b List.mem_cons_self).symm,
      hk, by simp [numLsbOnly, hne, hk]⟩

theorem numLsbOnly_lt (ms : List LongMetric) (h : ms ≠ []) : numLsbOnly ms < ms.length := by
  obtain ⟨A, b, B, rfl, _, _, hk⟩ := trailing_run ms h
  rw [hk]; simp; omega

theorem lsbRun_pos (ms : List LongMetric) (h : ms ≠ []) : 1 ≤ lsbRun ms := by
  obtain ⟨_, _, _, _, _, hk, _⟩ := trailing_run ms h
  omega

theorem lsbRun_le (ms : List LongMetric) : lsbRun ms ≤ ms.length := by
  by_cases h : ms = []
  · subst h; exact Nat.le_refl _
  · obtain ⟨A, b, B, rfl, _, hk, _⟩ := trailing_run ms h
    rw [hk]; simp

theorem hmtxExpand_append {longs rest : List LongMetric} {b : LongMetric}
    (h : ∀ x ∈ rest, x.advance = b.advance) :
    hmtxExpand (longs ++ [b]) (rest.map (·.sideBearing)) = longs ++ b :: rest := by
  rw [hmtxExpand, List.getLast?_concat]
  simp only [List.map_map, List.append_assoc, List.singleton_append]
  exact congrArg (longs ++ b :: ·) (map_eq_self fun x hx => congrArg (LongMetric.mk · x.sideBearing) (h x hx).symm)

/-- `build` cuts the metrics inside the trailing run, after its first member. -/
theorem buildMetrics_run {gs : List GlyphMetric} (hne : gs ≠ []) :
    ∃ A b B, gs.map lmOf = A ++ b :: B ∧ (∀ x ∈ B, x.advance = b.advance) ∧
      (buildMetrics gs).longMetrics = A ++ [b] ∧ (buildMetrics gs).firstSideBearings = B.map (·.sideBearing) := by
  obtain ⟨A, b, B, hms, hB, _, hk⟩ := trailing_run (gs.map lmOf) (by simpa using hne)
  refine ⟨A, b, B, hms, hB, ?_⟩
  simp only [buildMetrics, MetricsBuilder.build, MetricsBuilder.foldl_update, List.nil_append, hk]
  have hcut : (A ++ b :: B).length - B.length = (A ++ [b]).length := by
    simp
    omega
  rw [hms, hcut, show A ++ b :: B = (A ++ [b]) ++ B by simp, List.take_left, List.drop_left]
  exact ⟨rfl, rfl⟩

end Fontc.Limits
