/-
  cmap (`cmapMappings`, `fromMappings`) read against the source, and which glyphs get compiled.
-/
import FontcProofs.GlyphOrderFinal

namespace Fontc.GlyphOrder

/-- the codepoints `cmapMappings` reads for a name -/
def Table.cps (t : Table) (n : String) : List Nat := ((t.get n).map (·.codepoints)).getD []

theorem Table.cps_eq_meta (t : Table) (n : String) :
    t.cps n = (((t.get n).map Glyph.meta).map (·.2.2)).getD [] := by
  unfold Table.cps; cases t.get n <;> rfl

theorem mem_cmapMappings {order : List String} {t : Table} {cp gid : Nat} :
    (cp, gid) ∈ cmapMappings order t ↔ ∃ n, order[gid]? = some n ∧ cp ∈ t.cps n := by
  unfold cmapMappings Table.cps
  simp only [List.mem_flatMap, List.mem_map, Prod.mk.injEq]
  constructor
  · rintro ⟨⟨n, i⟩, hmem, cp', hcp, rfl, rfl⟩
    exact ⟨n, List.mem_zipIdx_iff_getElem?.mp hmem, hcp⟩
  · rintro ⟨n, hget, hcp⟩
    exact ⟨(n, gid), List.mem_zipIdx_iff_getElem?.mpr hget, cp, hcp, rfl, rfl⟩

/-- In a duplicate-free order a glyph id is a name. -/
theorem cmapMappings_functional_iff {order : List String} (t : Table) (hnd : order.Nodup) :
    Functional (cmapMappings order t) ↔
      ∀ n1 n2 cp, n1 ∈ order ∧ cp ∈ t.cps n1 → n2 ∈ order ∧ cp ∈ t.cps n2 → n1 = n2 := by
  constructor
  · intro h n1 n2 cp ⟨h1, c1⟩ ⟨h2, c2⟩
    obtain ⟨i1, hi1⟩ := List.getElem?_of_mem h1
    obtain ⟨i2, hi2⟩ := List.getElem?_of_mem h2
    have e : i1 = i2 :=
      h (cp, i1) (mem_cmapMappings.mpr ⟨n1, hi1, c1⟩) (cp, i2) (mem_cmapMappings.mpr ⟨n2, hi2, c2⟩) rfl
    exact Option.some.inj ((e ▸ hi1).symm.trans hi2)
  · intro h a ha b hb hab
    obtain ⟨n1, hi1, c1⟩ := mem_cmapMappings.mp ha
    obtain ⟨n2, hi2, c2⟩ := mem_cmapMappings.mp hb
    have e := h n1 n2 a.1 ⟨List.mem_of_getElem? hi1, c1⟩ ⟨List.mem_of_getElem? hi2, hab ▸ c2⟩
    exact (List.getElem?_inj (List.getElem?_eq_some_iff.mp hi1).1 hnd).mp (hi1.trans (e ▸ hi2.symm))

theorem fromMappings_guard_iff (m : List (Nat × Nat)) :
    (m.all fun a => m.all fun b => a.1 != b.1 || a.2 == b.2) = true ↔ Functional m := by
  simp only [Functional, List.all_eq_true, Bool.or_eq_true, bne_iff_ne, ne_eq, beq_iff_eq, Decidable.imp_iff_not_or]

theorem fromMappings_isSome_iff (m : List (Nat × Nat)) :
    (fromMappings m).isSome = true ↔ Functional m := by
  rw [← fromMappings_guard_iff, fromMappings]
  split <;> simp [*]

theorem fromMappings_eq_some {m m' : List (Nat × Nat)} (h : fromMappings m = some m') :
    m' = m ∧ Functional m := by
  unfold fromMappings at h
  split at h
  · rename_i hall
    exact ⟨(Option.some.inj h).symm, (fromMappings_guard_iff m).mp hall⟩
  · cases h

theorem fromMappings_of_functional {m : List (Nat × Nat)} (h : ∀ a ∈ m, ∀ b ∈ m, a.1 = b.1 → a.2 = b.2) :
    fromMappings m = some m := by
  unfold fromMappings
  rw [if_pos ((fromMappings_guard_iff m).mpr h)]

theorem FinalShape.mem_cps {s : Source} {f : Final} {derived : List String} (hs : FinalShape s f derived)
    (hnames : (s.glyphs.map (·.name)).Nodup) (n : String) (cp : Nat) :
    n ∈ f.order ∧ cp ∈ f.table.cps n ↔
      ∃ g ∈ s.glyphs, g.exported = true ∧ g.name ∈ s.prelim ∧ g.name = n ∧ cp ∈ g.codepoints := by
  constructor
  · rintro ⟨hn, hc⟩
    rw [Table.cps_eq_meta] at hc
    by_cases hk : n ∈ s.kept
    · obtain ⟨hp, g, hg, rfl, hexp⟩ := (mem_kept hnames).mp hk
      rw [hs.kept_meta _ hk, Source.table, Table.get_ofList_of_mem hnames hg] at hc
      exact ⟨g, hg, hexp, hp, rfl, hc⟩
    · rw [hs.made_meta n hn hk] at hc
      cases hc
  · rintro ⟨g, hg, hexp, hp, rfl, hc⟩
    have hk : g.name ∈ s.kept := (mem_kept hnames).mpr ⟨hp, g, hg, rfl, hexp⟩
    refine ⟨(hs.mem_order _).mpr (.inr (.inl hk)), ?_⟩
    rw [Table.cps_eq_meta, hs.kept_meta _ hk, Source.table, Table.get_ofList_of_mem hnames hg]
    exact hc

theorem allCompiled_iff (s : Source) (f : Final) :
    allCompiled s f = true ↔
      ∀ n ∈ f.order, (∃ g ∈ s.glyphs, g.exported = true ∧ g.name = n) ∨ n ∉ s.prelim := by
  rw [allCompiled, List.all_eq_true]
  refine forall₂_congr fun n hn => ?_
  rw [decide_eq_true_iff, compiledNames, List.mem_append, List.mem_map]
  simp only [List.mem_filter, hn, true_and, decide_eq_true_eq, and_assoc]

end Fontc.GlyphOrder
