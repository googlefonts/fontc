/-
  Lemmas for C03: perturbing deltas (IUP-inferred instead of explicit) moves an interpolated value by at most
  ε · Σ (scalars of the active regions).
-/
import FontcProofs.VarModelAlg
import FontcProofs.VarModelGeom

namespace Fontc.VarModel
open Fontc

/-- Sum of the scalars at `loc` of the regions that carry a delta. -/
def scalarSum : List Region → List (Option Rat) → Loc → Rat
  | r :: rs, some _ :: ds, loc => scalarAt r loc + scalarSum rs ds loc
  | _ :: rs, none :: ds, loc => scalarSum rs ds loc
  | [], _, _ => 0
  | _ :: _, [], _ => 0

/-- Two delta lists have the same shape and differ by at most `ε` entrywise. -/
def Close (ε : Rat) : List (Option Rat) → List (Option Rat) → Prop
  | [], [] => True
  | some a :: as, some b :: bs => ratAbs (b - a) ≤ ε ∧ Close ε as bs
  | none :: as, none :: bs => Close ε as bs
  | _, _ => False

theorem scalarSum_nonneg (infl : List Region) (D : List (Option Rat)) (loc : Loc) :
    0 ≤ scalarSum infl D loc := by
  fun_induction scalarSum infl D loc with
  | case1 r rs _ ds loc ih => exact Rat.add_nonneg (Geom.scalarAt_bounds r loc).1 ih
  | case2 _ rs ds loc ih => exact ih
  | case3 => exact Rat.le_refl
  | case4 => exact Rat.le_refl

theorem dot_perturb {ε : Rat} (infl : List Region) {D D' : List (Option Rat)} (loc : Loc)
    (hclose : Close ε D D') :
    ratAbs (dot infl D' loc - dot infl D loc) ≤ ε * scalarSum infl D loc := by
  have triv : ∀ x : Rat, ratAbs (x - x) ≤ ε * 0 := fun x => by
    rw [Rat.sub_self, Rat.mul_zero, ratAbs_zero]; exact Rat.le_refl
  fun_induction Close ε D D' generalizing infl with
  | case1 => cases infl <;> simpa [scalarSum] using triv 0
  | case2 a as b bs ih =>
    cases infl with
    | nil => simpa [scalarSum] using triv 0
    | cons r rs =>
      -- the scalar is not negative, so the entry moves by at most scalar · ε
      have h := ih rs hclose.2
      have hs := Geom.scalarAt_bounds r loc
      have hab := (ratAbs_le_iff _ _).1 hclose.1
      have hh := (ratAbs_le_iff _ _).1 h
      simp only [dot_cons, term, scalarSum]
      apply (ratAbs_le_iff _ _).2
      have e1 : scalarAt r loc * (b - a) ≤ scalarAt r loc * ε := Rat.mul_le_mul_of_nonneg_left hab.2 hs.1
      have e2 : scalarAt r loc * (-ε) ≤ scalarAt r loc * (b - a) := Rat.mul_le_mul_of_nonneg_left hab.1 hs.1
      constructor <;> grind
  | case3 as bs ih =>
    cases infl with
    | nil => simpa [scalarSum] using triv 0
    | cons r rs =>
      simp only [dot_cons, term, scalarSum, Rat.zero_add]
      exact ih rs hclose
  | case4 => exact hclose.elim

end Fontc.VarModel
