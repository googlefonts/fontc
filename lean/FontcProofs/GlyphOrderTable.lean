/-
  The glyph table: name / export flag / codepoints of a glyph survive `pruneMissing`, `flattenAll`,
  `decomposeDangling`; the kept order; what `flattenAll` does to component lists.
-/
import FontcProofs.GlyphOrderSpec
import FontcProofs.ListFacts

namespace Fontc.GlyphOrder

theorem Table.get_set (t : Table) (g : Glyph) (n : String) :
    (t.set g).get n = if g.name = n then some g else t.get n := by
  unfold Table.get Table.set
  by_cases h : g.name = n <;> simp [h]

theorem Table.get_name {t : Table} {n : String} {g : Glyph} (h : t.get n = some g) : g.name = n := by
  unfold Table.get at h
  simpa using List.find?_some h

theorem Table.isExport_iff {t : Table} {n : String} :
    t.isExport n = true ↔ ∃ g, t.get n = some g ∧ g.exported = true := by
  unfold Table.isExport
  cases t.get n <;> simp

theorem Table.mem_of_get_ofList {gs : List Glyph} {n : String} {g : Glyph} (h : (Table.ofList gs).get n = some g) :
    g ∈ gs := List.mem_of_find?_eq_some h

theorem Table.get_ofList_of_mem {gs : List Glyph} {g : Glyph} (hnd : (gs.map (·.name)).Nodup) (h : g ∈ gs) :
    (Table.ofList gs).get g.name = some g :=
  find?_key_of_mem hnd h (by simp)

/-- What the steps before the queue (`pruneMissing`, `flattenAll`, `decomposeDangling`) leave alone. -/
def SameMeta (t t' : Table) : Prop := ∀ n, (t.get n).map Glyph.meta = (t'.get n).map Glyph.meta

theorem SameMeta.refl (t : Table) : SameMeta t t := fun _ => rfl

theorem SameMeta.trans {a b c : Table} (h1 : SameMeta a b) (h2 : SameMeta b c) : SameMeta a c :=
  fun n => (h1 n).trans (h2 n)

theorem SameMeta.set {t0 t : Table} {g : Glyph} (h : SameMeta t0 t)
    (hg : (t0.get g.name).map Glyph.meta = some g.meta) : SameMeta t0 (t.set g) := by
  intro n
  rw [Table.get_set]
  by_cases hn : g.name = n
  · rw [if_pos hn, ← hn, hg]; rfl
  · rw [if_neg hn]; exact h n

theorem SameMeta.isExport {t t' : Table} (h : SameMeta t t') (n : String) : t.isExport n = t'.isExport n := by
  unfold Table.isExport
  have := h n
  cases h1 : t.get n <;> cases h2 : t'.get n <;> simp_all [Glyph.meta]

theorem SameMeta.isSome {t t' : Table} (h : SameMeta t t') (n : String) : (t.get n).isSome = (t'.get n).isSome := by
  have := h n
  cases h1 : t.get n <;> cases h2 : t'.get n <;> simp_all

theorem pruneMissing_sameMeta (names : List String) (t : Table) : SameMeta t (pruneMissing names t) := by
  unfold pruneMissing
  refine List.foldlRecOn names _ (SameMeta.refl t) fun acc hacc n _ => ?_
  cases hg : t.get n with
  | none => simpa [hg] using hacc
  | some g =>
    simp only
    split
    · exact hacc
    · exact hacc.set (by simp [Glyph.meta, Table.get_name hg, hg])

theorem flattenOne_sameMeta {snap cur : Table} (n : String) (h : SameMeta snap cur) :
    SameMeta snap (flattenOne snap cur n) := by
  unfold flattenOne
  cases hg : snap.get n with
  | none => simpa using h
  | some g =>
    simp only
    split
    · exact h.set (by simp [Glyph.meta, Table.get_name hg, hg])
    · exact h

theorem flattenAll_sameMeta (order : List String) (t : Table) : SameMeta t (flattenAll order t) := by
  unfold flattenAll
  exact List.foldlRecOn order _ (SameMeta.refl t) fun _ h n _ => flattenOne_sameMeta n h

theorem decomposeDangling_sameMeta (kept : List String) (t : Table) : SameMeta t (decomposeDangling kept t) := by
  unfold decomposeDangling
  refine List.foldlRecOn kept _ (SameMeta.refl t) fun acc hacc n _ => ?_
  cases hg : acc.get n with
  | none => simpa [hg] using hacc
  | some g =>
    simp only
    split
    · exact hacc.set (by simp [Glyph.meta, Table.get_name hg, hacc n, hg])
    · exact hacc

theorem keptOrder_eq {prelim kept : List String} {t : Table} (h : keptOrder prelim t = some kept) :
    kept = prelim.filter t.isExport ∧ ∀ n ∈ prelim, (t.get n).isSome = true := by
  unfold keptOrder at h
  split at h
  · rename_i hall
    injection h with h
    exact ⟨h.symm, by simpa using hall⟩
  · simp at h

theorem flattenOne_get_other (snap cur : Table) {n m : String} (h : m ≠ n) :
    (flattenOne snap cur n).get m = cur.get m := by
  unfold flattenOne
  cases hg : snap.get n with
  | none => rfl
  | some g =>
    simp only
    split
    · rw [Table.get_set]
      have : ¬ g.name = m := by rw [Table.get_name hg]; exact fun e => h e.symm
      simp [this]
    · rfl

theorem flattenOne_comps_self (snap cur : Table) (n : String) :
    (flattenOne snap cur n).comps n =
      if (snap.comps n).any (fun c => !snap.isExport c) then
        (snap.comps n).flatMap fun c => if snap.isExport c then [c] else cur.comps c
      else cur.comps n := by
  unfold flattenOne
  cases hg : snap.get n with
  | none => simp [Table.comps, hg]
  | some g =>
    have hcomps : snap.comps n = g.components := by simp [Table.comps, hg]
    rw [hcomps]
    simp only
    split
    · simp [Table.comps, Table.get_set, Table.get_name hg]
    · rfl

/-- The table `cur` that `flattenAll` over `snap` has reached after the names `pre`: a processed glyph refers to exported
    glyphs only, every other glyph is as in `snap`. -/
structure FlatInv (snap cur : Table) (pre : List String) : Prop where
  done : ∀ n ∈ pre, ∀ c ∈ cur.comps n, snap.isExport c = true
  rest : ∀ n, n ∉ pre → cur.get n = snap.get n

theorem flattenOne_inv {snap cur : Table} {pre : List String} (n : String) (h : FlatInv snap cur pre)
    (htopo : ∀ c ∈ snap.comps n, snap.isExport c = false →
      c ∈ pre ∨ ∀ c' ∈ snap.comps c, snap.isExport c' = true) :
    FlatInv snap (flattenOne snap cur n) (pre ++ [n]) := by
  have hrest : ∀ m, m ∉ pre → cur.comps m = snap.comps m := fun m hm => by unfold Table.comps; rw [h.rest m hm]
  constructor
  · intro m hm c hc
    by_cases hmn : m = n
    · subst hmn
      rw [flattenOne_comps_self] at hc
      split at hc
      · obtain ⟨c0, hc0, hcm⟩ := List.mem_flatMap.mp hc
        cases he : snap.isExport c0 with
        | true => rw [he, if_pos rfl, List.mem_singleton] at hcm; rw [hcm]; exact he
        | false =>
          rw [he, if_neg (by decide)] at hcm
          -- `c0` is not exported: it was flattened before, or had nothing to flatten
          by_cases hp : c0 ∈ pre
          · exact h.done c0 hp c hcm
          · rcases htopo c0 hc0 he with h1 | h1
            · exact absurd h1 hp
            · exact h1 c (hrest c0 hp ▸ hcm)
      · rename_i hany
        by_cases hp : m ∈ pre
        · exact h.done m hp c hc
        · rw [hrest m hp] at hc
          have := List.any_eq_false.mp (Bool.not_eq_true _ ▸ hany) c hc
          simpa using this
    · have hm' : m ∈ pre := by simpa [hmn] using hm
      rw [Table.comps, flattenOne_get_other snap cur hmn] at hc
      exact h.done m hm' c hc
  · intro m hm
    rw [List.mem_append, List.mem_singleton, not_or] at hm
    rw [flattenOne_get_other snap cur hm.2]
    exact h.rest m hm.1

theorem foldl_flattenOne_inv (snap : Table) : ∀ (order pre : List String) (cur : Table),
    FlatInv snap cur pre → TopoOk snap pre order →
    FlatInv snap (order.foldl (flattenOne snap) cur) (pre ++ order)
  | [], pre, cur, h, _ => by simpa using h
  | n :: rest, pre, cur, h, ht => by
    have := foldl_flattenOne_inv snap rest (pre ++ [n]) (flattenOne snap cur n)
      (flattenOne_inv n h ht.1) ht.2
    simpa using this

end Fontc.GlyphOrder
