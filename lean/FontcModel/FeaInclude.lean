/-
  Model of include resolution, fea-rs/src/parse/context.rs, as it is.

  Files are numbered; `g : Graph` gives, for every file, the targets of its *resolvable* include statements in
  statement order (`IncludeGraph::nodes`; a file without resolvable includes has no entry there = `[]` here).
    * `loadStep`     — one iteration of the work-list loop of `ParseContext::parse` (context.rs:137-:171):
                       `queue` (a Vec used as a stack) + visited set `parsed_files`
    * `validateStep` — one iteration of the explicit-stack loop of `IncludeGraph::validate` (context.rs:300-:335):
                       frames `(node, edges, cur_edge)`, visited set `seen`, `MAX_INCLUDE_DEPTH`
    * `expandLen`    — `generate_recurse` (context.rs:239): follows every include statement that `validate` did
                       not report; here with explicit fuel (the Rust function has none: its termination is the
                       content of `include_cycle_reported`)
  Core Lean only.
-/

namespace Fontc.FeaInclude

set_option linter.unusedVariables false

abbrev Graph := List (List Nat)

/-- context.rs:21 -/
def MAX_INCLUDE_DEPTH : Nat := 50

/-- `self.nodes.get(&n)`, with "no entry" = `[]` -/
def edgesOf (g : Graph) (n : Nat) : List Nat := g.getD n []

-- ---------------------------------------------------------------------------------------------
-- ParseContext::parse

structure LoadState where
  /-- `queue`, top of the stack first -/
  queue : List Nat
  /-- keys of `parsed_files` -/
  parsed : List Nat
  deriving Repr

/-- context.rs:137 `while let Some((id, scope)) = queue.pop()`; `none` = the loop has ended -/
def loadStep (g : Graph) (s : LoadState) : Option LoadState :=
  match s.queue with
  | [] => none
  | id :: rest =>
    if s.parsed.contains id then some { s with queue := rest }            -- :139 skip things we've already parsed
    else some { queue := (edgesOf g id).reverse ++ rest, parsed := id :: s.parsed }   -- :146, :157-:160

/-- number of files of the graph not yet in the visited list -/
def unvisited (g : Graph) (visited : List Nat) : Nat :=
  (List.range g.length).countP (fun i => !visited.contains i)

theorem countP_lt {α} (l : List α) (p q : α → Bool) (hqp : ∀ x, q x = true → p x = true)
    (x : α) (hx : x ∈ l) (hpx : p x = true) (hqx : q x = false) :
    l.countP q < l.countP p := by
  obtain ⟨l₁, l₂, rfl⟩ := List.append_of_mem hx
  have h₁ : l₁.countP q ≤ l₁.countP p := List.countP_mono_left fun y _ => hqp y
  have h₂ : l₂.countP q ≤ l₂.countP p := List.countP_mono_left fun y _ => hqp y
  simp only [List.countP_append, List.countP_cons, hpx, hqx, if_true, Bool.false_eq_true, if_false]
  omega

theorem not_contains_of_cons (visited : List Nat) (x y : Nat) (hy : (!(x :: visited).contains y) = true) :
    (!visited.contains y) = true := by
  simp only [List.contains_cons, Bool.not_eq_true', Bool.or_eq_false_iff] at hy
  simp only [Bool.not_eq_true']
  exact hy.2

theorem unvisited_cons_le (g : Graph) (visited : List Nat) (x : Nat) :
    unvisited g (x :: visited) ≤ unvisited g visited := by
  unfold unvisited
  exact List.countP_mono_left fun y _ => not_contains_of_cons visited x y

theorem unvisited_cons_lt (g : Graph) (visited : List Nat) (x : Nat) (hx : x < g.length)
    (hnew : visited.contains x = false) : unvisited g (x :: visited) < unvisited g visited := by
  unfold unvisited
  apply countP_lt _ _ _ (not_contains_of_cons visited x) x (List.mem_range.2 hx)
  · rw [hnew]; rfl
  · simp

theorem edgesOf_ne_nil_lt (g : Graph) (n : Nat) (h : edgesOf g n ≠ []) : n < g.length := by
  unfold edgesOf at h
  apply Classical.byContradiction
  intro hge
  apply h
  simp [List.getD, List.getElem?_eq_none (by omega : g.length ≤ n)]

def loadMeasure (g : Graph) (s : LoadState) : Nat × Nat := (unvisited g s.parsed, s.queue.length)

theorem lex_of_le_lt {a a' b b' : Nat} (h1 : a' ≤ a) (h2 : b' < b) :
    Prod.Lex (· < ·) (· < ·) (a', b') (a, b) := by
  rcases Nat.lt_or_eq_of_le h1 with h | h
  · exact Prod.Lex.left _ _ h
  · rw [h]; exact Prod.Lex.right _ h2

theorem loadStep_decreases (g : Graph) (s s' : LoadState) (h : loadStep g s = some s') :
    Prod.Lex (· < ·) (· < ·) (loadMeasure g s') (loadMeasure g s) := by
  unfold loadStep at h
  split at h
  · cases h
  · rename_i id rest hq
    split at h
    · cases h
      unfold loadMeasure
      simp only [hq]
      exact Prod.Lex.right _ (by simp)
    · rename_i hnp
      cases h
      unfold loadMeasure
      simp only [hq]
      have hnp' : s.parsed.contains id = false := by simpa using hnp
      by_cases he : edgesOf g id = []
      · rw [he]
        exact lex_of_le_lt (unvisited_cons_le g s.parsed id) (by simp)
      · exact Prod.Lex.left _ _ (unvisited_cons_lt g s.parsed id (edgesOf_ne_nil_lt g id he) hnp')

/-- run the work-list loop to its end; the result is the set of parsed files -/
def runLoad (g : Graph) (s : LoadState) : List Nat :=
  match h : loadStep g s with
  | none => s.parsed
  | some s' => runLoad g s'
termination_by loadMeasure g s
decreasing_by exact loadStep_decreases g s s' h

-- ---------------------------------------------------------------------------------------------
-- IncludeGraph::validate

/-- context.rs:88 `enum IncludeErrorKind` -/
inductive ErrKind where
  | cycle | tooDeep
  deriving DecidableEq, Repr

/-- context.rs:80 `struct IncludeError` (without the source range) -/
structure IncludeError where
  file : Nat
  stmtIdx : Nat
  kind : ErrKind
  deriving DecidableEq, Repr

/-- one element of `stack`: `(node, edges, cur_edge)` with `edges = nodes[node]` -/
structure Frame where
  node : Nat
  cur : Nat
  deriving DecidableEq, Repr

structure VState where
  /-- top of the stack first -/
  stack : List Frame
  seen : List Nat
  bad : List IncludeError
  deriving Repr

/-- context.rs:310 `while let Some((node, edges, cur_edge)) = stack.pop()`; `none` = the loop has ended -/
def validateStep (g : Graph) (s : VState) : Option VState :=
  match s.stack with
  | [] => none
  | f :: rest =>
    match (edgesOf g f.node)[f.cur]? with
    | none => some { s with stack := rest }                                     -- :311 no edge left: frame dropped
    | some child =>
      let stack1 := { f with cur := f.cur + 1 } :: rest                         -- :313 push parent, advancing idx
      if MAX_INCLUDE_DEPTH - 1 ≤ stack1.length then                             -- :314
        some { stack := stack1, seen := s.seen, bad := s.bad ++ [⟨f.node, f.cur, .tooDeep⟩] }
      else if !s.seen.contains child then                                       -- :325 `seen.insert(*child)`
        some { stack := if (edgesOf g child).isEmpty then stack1 else ⟨child, 0⟩ :: stack1   -- :326-:328
               seen := child :: s.seen, bad := s.bad }
      else if stack1.any (fun a => a.node == child) then                        -- :329
        some { stack := stack1, seen := s.seen, bad := s.bad ++ [⟨f.node, f.cur, .cycle⟩] }
      else some { s with stack := stack1 }

/-- edges still to be looked at, plus one per frame -/
def stackWeight (g : Graph) : List Frame → Nat
  | [] => 0
  | f :: rest => ((edgesOf g f.node).length - f.cur) + 1 + stackWeight g rest

def validateMeasure (g : Graph) (s : VState) : Nat × Nat := (unvisited g s.seen, stackWeight g s.stack)

theorem validateStep_cases {P : VState → Prop} {g : Graph} {s : VState} {f : Frame} {rest : List Frame}
    (hst : s.stack = f :: rest)
    (onPop : (edgesOf g f.node)[f.cur]? = none → P { s with stack := rest })
    (onReport : ∀ child k, (edgesOf g f.node)[f.cur]? = some child →
      P { stack := { f with cur := f.cur + 1 } :: rest, seen := s.seen, bad := s.bad ++ [⟨f.node, f.cur, k⟩] })
    (onLeaf : ∀ child, (edgesOf g f.node)[f.cur]? = some child → s.seen.contains child = false →
      edgesOf g child = [] →
      P { stack := { f with cur := f.cur + 1 } :: rest, seen := child :: s.seen, bad := s.bad })
    (onPush : ∀ child, (edgesOf g f.node)[f.cur]? = some child → s.seen.contains child = false →
      edgesOf g child ≠ [] →
      P { stack := ⟨child, 0⟩ :: { f with cur := f.cur + 1 } :: rest, seen := child :: s.seen, bad := s.bad })
    (onSeen : ∀ child, (edgesOf g f.node)[f.cur]? = some child → s.seen.contains child = true →
      child ∉ (f :: rest).map (·.node) →
      P { s with stack := { f with cur := f.cur + 1 } :: rest }) :
    ∃ s', validateStep g s = some s' ∧ P s' := by
  unfold validateStep
  rw [hst]
  dsimp only
  cases hc : (edgesOf g f.node)[f.cur]? with
  | none => exact ⟨_, rfl, onPop hc⟩
  | some child =>
    dsimp only
    split
    · exact ⟨_, rfl, onReport child .tooDeep hc⟩
    · split
      · rename_i hns
        have hns' : s.seen.contains child = false := by simpa using hns
        by_cases hemp : (edgesOf g child).isEmpty = true
        · rw [if_pos hemp]
          exact ⟨_, rfl, onLeaf child hc hns' (by simpa using hemp)⟩
        · rw [if_neg hemp]
          exact ⟨_, rfl, onPush child hc hns' (by simpa using hemp)⟩
      · rename_i hs
        have hs' : s.seen.contains child = true := by simpa using hs
        split
        · exact ⟨_, rfl, onReport child .cycle hc⟩
        · rename_i hnot
          exact ⟨_, rfl, onSeen child hc hs' (by simpa [eq_comm (a := child)] using hnot)⟩

theorem validateStep_decreases (g : Graph) (s s' : VState) (h : validateStep g s = some s') :
    Prod.Lex (· < ·) (· < ·) (validateMeasure g s') (validateMeasure g s) := by
  cases hst : s.stack with
  | nil => simp [validateStep, hst] at h
  | cons f rest =>
    -- putting the frame back with `cur + 1` lowers the weight of the stack
    have hw : ∀ child, (edgesOf g f.node)[f.cur]? = some child →
        stackWeight g ({ f with cur := f.cur + 1 } :: rest) < stackWeight g (f :: rest) := by
      intro child hchild
      have hcur : f.cur < (edgesOf g f.node).length := (List.getElem?_eq_some_iff.1 hchild).1
      simp only [stackWeight]
      omega
    obtain ⟨t, ht, hlex⟩ : ∃ t, validateStep g s = some t ∧
        Prod.Lex (· < ·) (· < ·) (validateMeasure g t) (validateMeasure g s) := by
      unfold validateMeasure
      rw [hst]
      apply validateStep_cases hst
      case onPop => exact fun _ => Prod.Lex.right _ (by simp only [stackWeight]; omega)
      case onReport => exact fun child _ hc => Prod.Lex.right _ (hw child hc)
      case onLeaf => exact fun child hc _ _ => lex_of_le_lt (unvisited_cons_le g s.seen child) (hw child hc)
      case onPush =>
        exact fun child hc hns hne =>
          Prod.Lex.left _ _ (unvisited_cons_lt g s.seen child (edgesOf_ne_nil_lt g child hne) hns)
      case onSeen => exact fun child hc _ _ => Prod.Lex.right _ (hw child hc)
    rw [h] at ht
    cases ht
    exact hlex

/-- run the stack loop to its end -/
def runValidate (g : Graph) (s : VState) : List IncludeError :=
  match h : validateStep g s with
  | none => s.bad
  | some s' => runValidate g s'
termination_by validateMeasure g s
decreasing_by exact validateStep_decreases g s s' h

/-- context.rs:300 `IncludeGraph::validate(root)` -/
def validate (g : Graph) (root : Nat) : List IncludeError :=
  if (edgesOf g root).isEmpty then []                       -- :301 `None => return Vec::new()`
  else runValidate g { stack := [⟨root, 0⟩], seen := [], bad := [] }

/-- is statement `i` of file `u` one of the reported (hence skipped) ones? (context.rs:253-:258) -/
def isBad (bad : List IncludeError) (u i : Nat) : Bool := bad.any (fun e => e.file == u && e.stmtIdx == i)

-- ---------------------------------------------------------------------------------------------
-- generate_recurse (with fuel), used by the driver to predict the length of the assembled tree

/-- total text length of file `id` after splicing: own length, minus each followed include statement,
    plus the spliced child.  `stmtLen u i` is the length of statement `i` of file `u`. -/
def expandLen (g : Graph) (bad : List IncludeError) (len : Nat → Nat) (stmtLen : Nat → Nat → Nat) :
    Nat → Nat → Option Nat
  | 0, _ => none
  | fuel + 1, id =>
    let rec go (es : List Nat) (i : Nat) (acc : Nat) : Option Nat :=
      match es with
      | [] => some acc
      | c :: es' =>
        if isBad bad id i then go es' (i + 1) acc
        else match expandLen g bad len stmtLen fuel c with
          | none => none
          | some cl => go es' (i + 1) (acc + cl - stmtLen id i)
    go (edgesOf g id) 0 (len id)

-- ---------------------------------------------------------------------------------------------
-- vocabulary of the theorems

/-- `u` includes `v` -/
def edge (g : Graph) (u v : Nat) : Prop := ∃ i : Nat, (edgesOf g u)[i]? = some v

/-- `u` includes `v` through a statement that was not reported -/
def keptEdge (g : Graph) (bad : List IncludeError) (u v : Nat) : Prop :=
  ∃ i : Nat, (edgesOf g u)[i]? = some v ∧ isBad bad u i = false

/-- reflexive-transitive closure -/
inductive Reach (r : Nat → Nat → Prop) : Nat → Nat → Prop where
  | refl (a : Nat) : Reach r a a
  | step {a b c : Nat} : Reach r a b → r b c → Reach r a c

/-- transitive closure (at least one step) -/
inductive ReachPlus (r : Nat → Nat → Prop) : Nat → Nat → Prop where
  | single {a b : Nat} : r a b → ReachPlus r a b
  | step {a b c : Nat} : ReachPlus r a b → r b c → ReachPlus r a c

end Fontc.FeaInclude
