/-
  C20 — the entry points of fontc (`/repo/fontc/src/lib.rs`, `main.rs`, `args.rs`) as far as they decide
  *what is compiled with which flags*:

    command line --clap--> `Args` --`TryInto<Options>` (args.rs:230)--> `Options`
    `Args::source` = `Input::new(path)` (lib.rs:46): dispatch on the file extension
    `run(input, options, timer)` (lib.rs:159, the CLI) and `generate_font(source, options)` (lib.rs:207, the
    library) both call `generate_font_internal(source, &options, timer)` (lib.rs:231), which merges the flags
    (`merge_compilation_flags`, lib.rs:199) and stamps `version()`.

  Core Lean only.
-/
namespace Fontc.Entry

/-- `fontir::orchestration::Flags` (fontir/src/orchestration.rs:23), one field per bit -/
structure Flags where
  preferSimpleGlyphs : Bool := false              -- 0b100
  flattenComponents : Bool := false               -- 0b1000
  decomposeTransformedComponents : Bool := false  -- 0b1_0000
  keepDirection : Bool := false                   -- 0b100_0000
  productionNames : Bool := false                 -- 0b1000_0000
  decomposeComponents : Bool := false             -- 0b1_0000_0000
  eraseOpenCorners : Bool := false                -- 0b10_0000_0000
  propagateAnchors : Bool := false                -- 0b100_0000_0000
  deriving Repr, BEq, DecidableEq, Inhabited

def Flags.empty : Flags := {}
/-- orchestration.rs:45 `impl Default for Flags` -/
def Flags.default : Flags := { preferSimpleGlyphs := true, productionNames := true }

def Flags.bits (f : Flags) : Nat :=
  (if f.preferSimpleGlyphs then 4 else 0) + (if f.flattenComponents then 8 else 0) +
  (if f.decomposeTransformedComponents then 16 else 0) + (if f.keepDirection then 64 else 0) +
  (if f.productionNames then 128 else 0) + (if f.decomposeComponents then 256 else 0) +
  (if f.eraseOpenCorners then 512 else 0) + (if f.propagateAnchors then 1024 else 0)

def Flags.ofBits (n : Nat) : Flags :=
  { preferSimpleGlyphs := n.testBit 2, flattenComponents := n.testBit 3, decomposeTransformedComponents := n.testBit 4,
    keepDirection := n.testBit 6, productionNames := n.testBit 7, decomposeComponents := n.testBit 8,
    eraseOpenCorners := n.testBit 9, propagateAnchors := n.testBit 10 }

def Flags.union (a b : Flags) : Flags :=
  ⟨a.1 || b.1, a.2 || b.2, a.3 || b.3, a.4 || b.4, a.5 || b.5, a.6 || b.6, a.7 || b.7, a.8 || b.8⟩
/-- `a & !d` -/
def Flags.without (a d : Flags) : Flags :=
  ⟨a.1 && !d.1, a.2 && !d.2, a.3 && !d.3, a.4 && !d.4, a.5 && !d.5, a.6 && !d.6, a.7 && !d.7, a.8 && !d.8⟩

/-- `Option<bool>` command-line switches: absent / `--x` or `--x=true` / `--x=false` -/
inductive Tri where
  | unset | on | off
  deriving Repr, BEq, DecidableEq, Inhabited

/-- `Args` (args.rs:17), the fields that reach `Options` or `Input` -/
structure Args where
  path : List Char
  emitIr : Bool := false
  emitDebug : Bool := false
  emitTiming : Bool := false
  outputFile : Option (List Char) := none
  buildDir : List Char := "build".toList
  preferSimpleGlyphs : Bool := true
  flattenComponents : Tri := .unset
  eraseOpenCorners : Tri := .unset
  propagateAnchors : Tri := .unset
  decomposeTransformedComponents : Bool := false
  decomposeComponents : Bool := false
  skipFeatures : Bool := false
  emitLookupDebugInfo : Bool := false
  keepDirection : Bool := false
  noProductionNames : Bool := false
  deriving Repr, Inhabited

/-- `Options` (lib.rs:139) -/
structure Options where
  flags : Flags := Flags.default
  flagsToDisable : Flags := Flags.empty
  skipFeatures : Bool := false
  compileDebg : Bool := false
  outputFile : Option (List Char) := none
  timingFile : Option (List Char) := none
  irDir : Option (List Char) := none
  debugDir : Option (List Char) := none
  deriving Repr, BEq, DecidableEq, Inhabited

/-- `#[derive(Default)]` on `Options` -/
def Options.default : Options := {}

/-- args.rs:134 `Args::flags`: starts from `Flags::default()` -/
def Args.flags (a : Args) : Flags :=
  { preferSimpleGlyphs := a.preferSimpleGlyphs
    flattenComponents := a.flattenComponents == .on
    eraseOpenCorners := a.eraseOpenCorners == .on
    propagateAnchors := a.propagateAnchors == .on
    decomposeTransformedComponents := a.decomposeTransformedComponents
    decomposeComponents := a.decomposeComponents
    keepDirection := a.keepDirection
    productionNames := !a.noProductionNames }

/-- args.rs:167 `Args::flags_to_disable` -/
def Args.flagsToDisable (a : Args) : Flags :=
  { flattenComponents := a.flattenComponents == .off
    eraseOpenCorners := a.eraseOpenCorners == .off
    propagateAnchors := a.propagateAnchors == .off }

/-- `PathBuf::join` with a relative, non-empty second component (the only use in args.rs) -/
def joinPath (dir name : List Char) : List Char :=
  if dir.isEmpty then name else if dir.getLast? == some '/' then dir ++ name else dir ++ '/' :: name

/-- args.rs:230 `impl TryInto<Options> for Args` (it cannot fail) -/
def Args.toOptions (a : Args) : Options :=
  { flags := a.flags
    flagsToDisable := a.flagsToDisable
    skipFeatures := a.skipFeatures
    compileDebg := a.emitLookupDebugInfo
    outputFile := some (a.outputFile.getD (joinPath a.buildDir "font.ttf".toList))
    timingFile := if a.emitTiming then some (joinPath a.buildDir "threads.svg".toList) else none
    debugDir := if a.emitDebug then some (joinPath a.buildDir "debug/".toList) else none
    irDir := if a.emitIr then some a.buildDir else none }

/-! ### `Input` -/

inductive Input where
  | designSpacePath (p : List Char)
  | glyphsPath (p : List Char)
  | fontraPath (p : List Char)
  | glyphsMemory (text : List Char)
  deriving Repr, BEq, DecidableEq, Inhabited

inductive Err where
  | fileExpected | unrecognizedSource | noOutputFile
  deriving Repr, BEq, DecidableEq, Inhabited

def splitLastDot (name : List Char) : Option (List Char × List Char) :=
  match name.reverse.span (· != '.') with
  | (_, []) => none
  | (extRev, _ :: stemRev) => some (stemRev.reverse, extRev.reverse)

/-- `Path::extension` of a path whose last component is `name`: the text after the last `.`, unless there
    is no `.`, or the only `.` is the first character, or the name is `..` -/
def extension (name : List Char) : Option (List Char) :=
  if name == ['.', '.'] then none else
  match splitLastDot name with
  | none => none
  | some (stem, ext) => if stem.isEmpty then none else some ext

def fileName (path : List Char) : List Char := (path.reverse.takeWhile (· != '/')).reverse

/-- lib.rs:46 `Input::new`; `exists` is `path.exists()` -/
def Input.new (exists_ : Bool) (path : List Char) : Except Err Input :=
  if !exists_ then .error .fileExpected else
  match extension (fileName path) with
  | none => .error .unrecognizedSource
  | some ext =>
    if ext == "designspace".toList then .ok (.designSpacePath path)
    else if ext == "ufo".toList then .ok (.designSpacePath path)
    else if ext == "glyphs".toList then .ok (.glyphsPath path)
    else if ext == "glyphspackage".toList then .ok (.glyphsPath path)
    else if ext == "fontra".toList then .ok (.fontraPath path)
    else .error .unrecognizedSource

/-- lib.rs:65 -/
def Input.fromGlyphs (text : List Char) : Input := .glyphsMemory text

/-- which reader `Input::create_source` (lib.rs:70) constructs, and from what -/
inductive SourceSpec where
  | designspaceOrUfo (p : List Char)    -- `DesignSpaceIrSource::new(path)`
  | glyphsFile (p : List Char)          -- `GlyphsIrSource::new(path)`  (file or package: `Font::load`)
  | fontra (p : List Char)
  | glyphsText (text : List Char)       -- `GlyphsIrSource::new_from_memory(text)`
  deriving Repr, BEq, DecidableEq, Inhabited

def Input.createSource : Input → SourceSpec
  | .designSpacePath p => .designspaceOrUfo p
  | .glyphsPath p => .glyphsFile p
  | .fontraPath p => .fontra p
  | .glyphsMemory t => .glyphsText t

/-- lib.rs:199 `merge_compilation_flags`: `(options.flags | source.compilation_flags()) & !options.flags_to_disable` -/
def mergeFlags (o : Options) (sourceFlags : Flags) : Flags :=
  (o.flags.union sourceFlags).without o.flagsToDisable

/-- the arguments `generate_font_internal` (lib.rs:231) hands to `Workload::new`, `FeContext::new_root` and
    `BeContext::new_root`: everything the compiled bytes can depend on -/
structure InternalCall where
  source : SourceSpec
  flags : Flags
  skipFeatures : Bool
  compileDebg : Bool
  irDir : Option (List Char)
  debugDir : Option (List Char)
  /-- `version()` (lib.rs:130): a constant of the build, the same function in both entry points -/
  versionStamp : List Char
  deriving Repr, BEq, DecidableEq, Inhabited

/-- `sourceFlags` stands for `source.compilation_flags()`, a function of the source -/
def internalCall (version : List Char) (sourceFlags : SourceSpec → Flags) (src : SourceSpec) (o : Options) : InternalCall :=
  { source := src, flags := mergeFlags o (sourceFlags src), skipFeatures := o.skipFeatures, compileDebg := o.compileDebg,
    irDir := o.irDir, debugDir := o.debugDir, versionStamp := version }

/-- lib.rs:207 `generate_font` (library): the bytes are those of the internal call; `output_file` is ignored -/
def generateFont (version : List Char) (sourceFlags : SourceSpec → Flags) (src : SourceSpec) (o : Options) : InternalCall :=
  internalCall version sourceFlags src o

/-- lib.rs:159 `run` (command line): refuses to start without an output file, otherwise makes the same
    internal call and writes its bytes to `output_file` -/
def run (version : List Char) (sourceFlags : SourceSpec → Flags) (input : Input) (o : Options) :
    Except Err (InternalCall × List Char) :=
  match o.outputFile with
  | none => .error .noOutputFile
  | some out => .ok (internalCall version sourceFlags input.createSource o, out)

/-- main.rs:70-72: `args.source()`, `args.try_into()`, `fontc::run` -/
def cliMain (version : List Char) (sourceFlags : SourceSpec → Flags) (exists_ : Bool) (a : Args) :
    Except Err (InternalCall × List Char) :=
  match Input.new exists_ a.path with
  | .error e => .error e
  | .ok input => run version sourceFlags input a.toOptions

/-! ### lone UFO vs designspace: the lib merge (ufo2fontir/src/source.rs:428) -/

def isPublicKey (k : List Char) : Bool := "public.".toList.isPrefixOf k

def lookup {α} (k : List Char) : List (List Char × α) → Option α
  | [] => none
  | (k', v) :: m => if k == k' then some v else lookup k m

/-- `merge_default_master_lib_into_designspace_lib`: values of the default master's lib that the designspace
    lib does not have are added; existing values win; with `skipPublic` (the input was a .designspace) keys
    starting with `public.` are not copied.  (Nested dictionaries are not merged either: "Base values are
    preserved on conflict".) -/
def mergeLib {α} (base child : List (List Char × α)) (skipPublic : Bool) : List (List Char × α) :=
  child.foldl (fun acc kv =>
    if skipPublic && isPublicKey kv.1 then acc
    else match lookup kv.1 acc with
      | some _ => acc
      | none => acc ++ [kv]) base

end Fontc.Entry
