/-
  Model of the byte-level feature-file lexer, fea-rs/src/parse/lexer.rs (+ lexer/lexeme.rs), as it is.

  The Rust lexer holds `input: &str`, `pos`, and three bits of state (`after_backslash`,
  `after_number_or_float`, `in_path`).  `next_token` bumps one byte, dispatches on it to a sub-lexer, and
  returns `Lexeme { len, kind }`.  Past the end of the input `nth` returns the sentinel `EOF = 0x0`, and
  `next_token` maps a first byte equal to the sentinel to `Kind::Eof` — *also when that byte is a real NUL
  inside the text* (lexer.rs:18, :87-:89).  This file mirrors exactly that; `nextTokenWith false` is the
  lexer with the proposed fix (fixes/C13-nul.patch: end of input is decided by position).

  Line numbers refer to lexer.rs at 61b7940 (before the fix).  Once the fix is in the tree,
  `nextTokenWith false` / `lexAllFixed` is the lexer of the tree; the driver accepts either and tags which matched.

  Core Lean only (linked into the native driver).
-/

namespace Fontc.FeaLex

set_option linter.unusedVariables false

abbrev Bytes := Array UInt8

/-- lexer.rs:18 `const EOF: u8 = 0x0;` -/
def EOF : UInt8 := 0

/-- lexer/lexeme.rs `enum Kind` (the keyword kinds are collapsed into `kw <RustVariantName>`, except
    `IncludeKw`, which drives the include-path state machine). -/
inductive Kind where
  | eof | ident | string | stringUnterminated | number | octal | hex | hexEmpty | float | numberSuffix
  | whitespace | comment
  | semi | colon | comma | backslash | hyphen | eq | lbrace | rbrace | lsquare | rsquare | lparen | rparen
  | langle | rangle | singleQuote
  | namedGlyphClass | cid
  | includeKw
  | kw (name : String)
  | path | dollar | plus | asterisk | slash
  deriving DecidableEq, Repr, Inhabited

/-- name of the Rust variant (`{:?}`) -/
def Kind.name : Kind → String
  | .eof => "Eof" | .ident => "Ident" | .string => "String" | .stringUnterminated => "StringUnterminated"
  | .number => "Number" | .octal => "Octal" | .hex => "Hex" | .hexEmpty => "HexEmpty" | .float => "Float"
  | .numberSuffix => "NumberSuffix" | .whitespace => "Whitespace" | .comment => "Comment"
  | .semi => "Semi" | .colon => "Colon" | .comma => "Comma" | .backslash => "Backslash" | .hyphen => "Hyphen"
  | .eq => "Eq" | .lbrace => "LBrace" | .rbrace => "RBrace" | .lsquare => "LSquare" | .rsquare => "RSquare"
  | .lparen => "LParen" | .rparen => "RParen" | .langle => "LAngle" | .rangle => "RAngle"
  | .singleQuote => "SingleQuote" | .namedGlyphClass => "NamedGlyphClass" | .cid => "Cid"
  | .includeKw => "IncludeKw" | .kw n => n | .path => "Path" | .dollar => "Dollar" | .plus => "Plus"
  | .asterisk => "Asterisk" | .slash => "Slash"

/-- lexeme.rs `Kind::is_trivia` -/
def Kind.isTrivia : Kind → Bool
  | .comment | .whitespace | .backslash => true
  | _ => false

/-- lexeme.rs `Kind::from_keyword` (the table, in source order) -/
def keywordTable : List (String × String) := [
  ("anchor", "AnchorKw"), ("anchorDef", "AnchorDefKw"), ("anon", "AnonKw"), ("anonymous", "AnonKw"),
  ("conditionset", "ConditionSetKw"), ("variation", "VariationKw"), ("by", "ByKw"),
  ("contourpoint", "ContourpointKw"), ("cursive", "CursiveKw"), ("device", "DeviceKw"), ("enum", "EnumKw"),
  ("enumerate", "EnumKw"), ("exclude_dflt", "ExcludeDfltKw"), ("excludeDFLT", "ExcludeDfltKw"),
  ("feature", "FeatureKw"), ("from", "FromKw"), ("ignore", "IgnoreKw"),
  ("IgnoreBaseGlyphs", "IgnoreBaseGlyphsKw"), ("IgnoreLigatures", "IgnoreLigaturesKw"),
  ("IgnoreMarks", "IgnoreMarksKw"), ("include", "IncludeKw"), ("include_dflt", "IncludeDfltKw"),
  ("includeDFLT", "IncludeDfltKw"), ("language", "LanguageKw"), ("languagesystem", "LanguagesystemKw"),
  ("lookup", "LookupKw"), ("lookupflag", "LookupflagKw"), ("mark", "MarkKw"),
  ("MarkAttachmentType", "MarkAttachmentTypeKw"), ("markClass", "MarkClassKw"), ("nameid", "NameIdKw"),
  ("NULL", "NullKw"), ("parameters", "ParametersKw"), ("pos", "PosKw"), ("position", "PosKw"),
  ("required", "RequiredKw"), ("reversesub", "RsubKw"), ("rsub", "RsubKw"), ("RightToLeft", "RightToLeftKw"),
  ("script", "ScriptKw"), ("substitute", "SubKw"), ("sub", "SubKw"), ("subtable", "SubtableKw"),
  ("table", "TableKw"), ("useExtension", "UseExtensionKw"), ("UseMarkFilteringSet", "UseMarkFilteringSetKw"),
  ("valueRecordDef", "ValueRecordDefKw"), ("HorizAxis.BaseScriptList", "HorizAxisBaseScriptListKw"),
  ("HorizAxis.BaseTagList", "HorizAxisBaseTagListKw"), ("HorizAxis.MinMax", "HorizAxisMinMaxKw"),
  ("VertAxis.BaseScriptList", "VertAxisBaseScriptListKw"), ("VertAxis.BaseTagList", "VertAxisBaseTagListKw"),
  ("VertAxis.MinMax", "VertAxisMinMaxKw"), ("Attach", "AttachKw"), ("GlyphClassDef", "GlyphClassDefKw"),
  ("LigatureCaretByDev", "LigatureCaretByDevKw"), ("LigatureCaretByIndex", "LigatureCaretByIndexKw"),
  ("LigatureCaretByPos", "LigatureCaretByPosKw"), ("MarkAttachClass", "MarkAttachClassKw"),
  ("FontRevision", "FontRevisionKw"), ("Ascender", "AscenderKw"), ("CaretOffset", "CaretOffsetKw"),
  ("Descender", "DescenderKw"), ("LineGap", "LineGapKw"), ("CapHeight", "CapHeightKw"),
  ("CodePageRange", "CodePageRangeKw"), ("Panose", "PanoseKw"), ("TypoAscender", "TypoAscenderKw"),
  ("TypoDescender", "TypoDescenderKw"), ("TypoLineGap", "TypoLineGapKw"), ("UnicodeRange", "UnicodeRangeKw"),
  ("Vendor", "VendorKw"), ("winAscent", "WinAscentKw"), ("winDescent", "WinDescentKw"), ("XHeight", "XHeightKw"),
  ("sizemenuname", "SizemenunameKw"), ("VertTypoAscender", "VertTypoAscenderKw"),
  ("VertTypoDescender", "VertTypoDescenderKw"), ("VertTypoLineGap", "VertTypoLineGapKw"),
  ("VertAdvanceY", "VertAdvanceYKw"), ("VertOriginY", "VertOriginYKw"),
  ("ElidedFallbackName", "ElidedFallbackNameKw"), ("ElidedFallbackNameID", "ElidedFallbackNameIDKw"),
  ("DesignAxis", "DesignAxisKw"), ("AxisValue", "AxisValueKw"), ("flag", "FlagKw"), ("location", "LocationKw"),
  ("ElidableAxisValueName", "ElidableAxisValueNameKw"),
  ("OlderSiblingFontAttribute", "OlderSiblingFontAttributeKw"), ("featureNames", "FeatureNamesKw"),
  ("name", "NameKw"), ("cvParameters", "CvParametersKw"), ("Character", "CharacterKw"),
  ("FeatUILabelNameID", "FeatUiLabelNameIdKw"), ("FeatUITooltipTextNameID", "FeatUiTooltipTextNameIdKw"),
  ("SampleTextNameID", "SampleTextNameIdKw"), ("ParamUILabelNameID", "ParamUiLabelNameIdKw")]

def keywordBytes : List (List UInt8 × String) := keywordTable.map fun (w, k) => (w.toUTF8.toList, k)

def fromKeyword (word : List UInt8) : Option Kind :=
  match keywordBytes.find? (fun e => e.1 == word) with
  | some (_, "IncludeKw") => some .includeKw
  | some (_, k) => some (.kw k)
  | none => none

/-- lexer.rs:33 `enum ExpectingPath` -/
inductive ExpectingPath where
  | ready | sawInclude | inPath
  deriving DecidableEq, Repr, Inhabited

/-- lexer.rs:47 `ExpectingPath::transition` -/
def ExpectingPath.transition : ExpectingPath → Kind → ExpectingPath
  | .ready, .includeKw => .sawInclude
  | .sawInclude, .lparen => .inPath
  | .sawInclude, .whitespace => .sawInclude
  | _, _ => .ready

/-- lexer.rs:20 `struct Lexer` (the input is passed separately) -/
structure LexState where
  pos : Nat := 0
  afterBackslash : Bool := false
  afterNumberOrFloat : Bool := false
  inPath : ExpectingPath := .ready
  deriving Repr, Inhabited

/-- lexer.rs:70 `Lexer::nth`: the byte at `pos + i`, or the sentinel past the end -/
def nth (inp : Bytes) (pos i : Nat) : UInt8 :=
  if h : pos + i < inp.size then inp[pos + i] else EOF

/-- lexer.rs:78 `Lexer::bump`: advance by one byte unless at the end -/
def bump (inp : Bytes) (pos : Nat) : Nat :=
  if pos < inp.size then pos + 1 else pos

theorem nth_eof_of_ge {inp : Bytes} {pos : Nat} (h : inp.size ≤ pos) : nth inp pos 0 = EOF := by
  unfold nth
  rw [dif_neg (by omega)]

/-- `while p(self.nth(0)) { self.bump(); }` — every loop of the lexer has this shape.  The loop is only a
    total function because its condition is false on the end-of-input sentinel (`hp`): past the end `bump`
    does not advance, so a condition that accepted the sentinel would spin forever.  The termination proof
    below is exactly that argument. -/
def eatWhile (p : UInt8 → Bool) (hp : p EOF = false) (inp : Bytes) (pos : Nat) : Nat :=
  if h : p (nth inp pos 0) = true then eatWhile p hp inp (bump inp pos) else pos
termination_by inp.size - pos
decreasing_by
  have hlt : pos < inp.size := by
    apply Classical.byContradiction
    intro hge
    rw [nth_eof_of_ge (by omega), hp] at h
    exact Bool.false_ne_true h
  simp only [bump, hlt, if_true]
  omega

-- byte classes (lexer.rs:283-:294 and the `u8::is_ascii_*` helpers)

/-- lexer.rs:292 `is_ascii_whitespace` -/
def isAsciiWhitespace (b : UInt8) : Bool := b == 0x20 || (0x9 ≤ b && b ≤ 0xD)

/-- lexer.rs:284 `is_special`: `' ( ) * + , -   ; < = > ? @   [ \ ]   {   }` -/
def isSpecial (b : UInt8) : Bool :=
  (39 ≤ b && b ≤ 45) || (59 ≤ b && b ≤ 64) || (91 ≤ b && b ≤ 93) || b == 123 || b == 125

def isDigit (b : UInt8) : Bool := 0x30 ≤ b && b ≤ 0x39
def isOctDigit (b : UInt8) : Bool := 0x30 ≤ b && b ≤ 0x37
def isHexDigit (b : UInt8) : Bool := isDigit b || (0x41 ≤ b && b ≤ 0x46) || (0x61 ≤ b && b ≤ 0x66)

/-- lexer.rs:136 `comment`: `while ![b'\n', b'\r', EOF].contains(&self.nth(0))` -/
def commentCont (b : UInt8) : Bool := !(b == 0x0A || b == 0x0D || b == EOF)
/-- lexer.rs:143 `string`: continue unless `"` or EOF -/
def stringCont (b : UInt8) : Bool := !(b == 0x22 || b == EOF)
/-- lexer.rs:232 `eat_ident`: stop on EOF, whitespace, or a special byte other than `-` -/
def identCont (b : UInt8) : Bool := !(b == EOF) && !isAsciiWhitespace b && (b == 0x2D || !isSpecial b)
/-- lexer.rs:258 `path`: `while !matches!(self.nth(0), EOF | b')')` -/
def pathCont (b : UInt8) : Bool := !(b == EOF || b == 0x29)

theorem isAsciiWhitespace_eof : isAsciiWhitespace EOF = false := by decide
theorem isDigit_eof : isDigit EOF = false := by decide
theorem isOctDigit_eof : isOctDigit EOF = false := by decide
theorem isHexDigit_eof : isHexDigit EOF = false := by decide
theorem commentCont_eof : commentCont EOF = false := by decide
theorem stringCont_eof : stringCont EOF = false := by decide
theorem identCont_eof : identCont EOF = false := by decide
theorem pathCont_eof : pathCont EOF = false := by decide

/-- lexer.rs:129 `whitespace` -/
def whitespace (inp : Bytes) (pos : Nat) : Kind × Nat :=
  (.whitespace, eatWhile isAsciiWhitespace isAsciiWhitespace_eof inp pos)

/-- lexer.rs:136 `comment` -/
def comment (inp : Bytes) (pos : Nat) : Kind × Nat :=
  (.comment, eatWhile commentCont commentCont_eof inp pos)

/-- lexer.rs:143 `string`: skip to the next `"` (consumed, `String`) or to EOF (`StringUnterminated`) -/
def string (inp : Bytes) (pos : Nat) : Kind × Nat :=
  let p := eatWhile stringCont stringCont_eof inp pos
  if nth inp p 0 == 0x22 then (.string, bump inp p) else (.stringUnterminated, p)

/-- lexer.rs:176 `number(leading_zero)`; `pos` is just after the first digit -/
def number (inp : Bytes) (pos : Nat) (leadingZero : Bool) : Kind × Nat :=
  if leadingZero && nth inp pos 0 != 0x2E then
    if nth inp pos 0 == 0x78 || nth inp pos 0 == 0x58 then
      let p := bump inp pos
      if isHexDigit (nth inp p 0) then (.hex, eatWhile isHexDigit isHexDigit_eof inp p) else (.hexEmpty, p)
    else if isDigit (nth inp pos 0) then (.octal, eatWhile isOctDigit isOctDigit_eof inp pos)
    else (.number, pos)
  else
    let p := eatWhile isDigit isDigit_eof inp pos
    if nth inp p 0 == 0x2E then (.float, eatWhile isDigit isDigit_eof inp (bump inp p)) else (.number, p)

/-- lexer.rs:158 `hyphen_or_minus` -/
def hyphenOrMinus (inp : Bytes) (pos : Nat) : Kind × Nat :=
  if nth inp pos 0 == 0x30 && (isDigit (nth inp pos 1) || nth inp pos 1 == 0x78 || nth inp pos 1 == 0x58) then
    (.hyphen, pos)
  else if isDigit (nth inp pos 0) then number inp pos false
  else (.hyphen, pos)

/-- lexer.rs:222 `cid` -/
def cid (inp : Bytes) (pos : Nat) : Kind × Nat := (.cid, eatWhile isDigit isDigit_eof inp pos)

/-- lexer.rs:232 `eat_ident` -/
def eatIdent (inp : Bytes) (pos : Nat) : Nat := eatWhile identCont identCont_eof inp pos

/-- lexer.rs:227 `glyph_class_name` -/
def glyphClassName (inp : Bytes) (pos : Nat) : Kind × Nat := (.namedGlyphClass, eatIdent inp pos)

/-- lexer.rs:246 `ident`; `pos` is just after the first byte -/
def ident (inp : Bytes) (pos : Nat) (afterBackslash : Bool) : Kind × Nat :=
  let startPos := pos - 1
  let p := eatIdent inp pos
  if afterBackslash then (.ident, p)
  else ((fromKeyword (inp.extract startPos p).toList).getD .ident, p)

/-- lexer.rs:258 `path` -/
def path (inp : Bytes) (pos : Nat) : Kind × Nat := (.path, eatWhile pathCont pathCont_eof inp pos)

/-- the one-byte tokens of `next_token` (lexer.rs:97-:116) -/
def punct (b : UInt8) : Option Kind :=
  if b == 0x3B then some .semi else if b == 0x3A then some .colon else if b == 0x2C then some .comma
  else if b == 0x5C then some .backslash else if b == 0x3D then some .eq
  else if b == 0x7B then some .lbrace else if b == 0x7D then some .rbrace
  else if b == 0x5B then some .lsquare else if b == 0x5D then some .rsquare
  else if b == 0x28 then some .lparen else if b == 0x29 then some .rparen
  else if b == 0x3C then some .langle else if b == 0x3E then some .rangle
  else if b == 0x27 then some .singleQuote else if b == 0x24 then some .dollar
  else if b == 0x2A then some .asterisk else if b == 0x2B then some .plus else if b == 0x2F then some .slash
  else none

/-- the `match first { … }` of `next_token` (lexer.rs:88-:119) below the `EOF` arm; `pos` is just after
    `first`.  The arms are tried in source order; the one-byte arms are mutually exclusive literals, so they
    are grouped in `punct`. -/
def dispatch (inp : Bytes) (st : LexState) (first : UInt8) (pos : Nat) : Kind × Nat :=
  if st.inPath == .inPath then path inp pos
  else if isAsciiWhitespace first then whitespace inp pos
  else if first == 0x23 then comment inp pos
  else if first == 0x22 then string inp pos
  else if isDigit first && st.afterBackslash then cid inp pos
  else if first == 0x30 then number inp pos true
  else if isDigit first then number inp pos false
  else if first == 0x40 then glyphClassName inp pos
  else if first == 0x2D then hyphenOrMinus inp pos
  else match punct first with
    | some k => (k, pos)
    | none =>
      if (first == 0x6E || first == 0x75 || first == 0x64) && st.afterNumberOrFloat then (.numberSuffix, pos)
      else ident inp pos st.afterBackslash

/-- lexer.rs:85 `Lexer::next_token`.  `eofOnNul = true` is the code as it is: the first byte is compared
    with the sentinel value, so a real NUL byte yields `Kind::Eof` (with `len = 1`).  `eofOnNul = false`
    is the proposed fix: only running off the end yields `Eof`; a NUL byte falls through to `ident`. -/
def nextTokenWith (eofOnNul : Bool) (inp : Bytes) (st : LexState) : Kind × LexState :=
  let atEnd := inp.size ≤ st.pos
  let first := nth inp st.pos 0        -- `self.bump().unwrap_or(EOF)`
  let pos := bump inp st.pos
  let (kind, pos') :=
    if atEnd || (eofOnNul && first == EOF) then (Kind.eof, pos)
    else dispatch inp st first pos
  (kind, { pos := pos'
           afterBackslash := kind == .backslash
           afterNumberOrFloat := kind == .number || kind == .float
           inPath := st.inPath.transition kind })

/-- the lexer of the unchanged tree -/
def nextToken (inp : Bytes) (st : LexState) : Kind × LexState := nextTokenWith true inp st

-- What every arm of the lexer returns (`IsToken`, `dispatch_token`).  Its part `Advance` is what makes "run the lexer
-- to the end" a total function (`nextTokenWith_progress`).

theorem lt_size_of_nth_ne_eof {inp : Bytes} {pos : Nat} (h : nth inp pos 0 ≠ EOF) : pos < inp.size :=
  Nat.lt_of_not_le fun hge => h (nth_eof_of_ge hge)

theorem ne_eof_of_cond {p : UInt8 → Bool} (hp : p EOF = false) {b : UInt8} (h : p b = true) : b ≠ EOF :=
  fun heq => Bool.false_ne_true (hp ▸ heq ▸ h)

theorem bump_of_lt {inp : Bytes} {pos : Nat} (h : pos < inp.size) : bump inp pos = pos + 1 :=
  if_pos h

theorem bump_le (inp : Bytes) (pos : Nat) : pos ≤ bump inp pos := by
  unfold bump; split <;> omega

theorem bump_le_size {inp : Bytes} {pos : Nat} (h : pos ≤ inp.size) : bump inp pos ≤ inp.size := by
  unfold bump; split <;> omega

/-- `b` is reached from `a` by moving forward without passing a position that holds the sentinel byte.
    Past the end `nth` returns the sentinel, so this includes "without leaving the input" (`k = inp.size`)
    as well as "without crossing a NUL byte of the text". -/
def Advance (inp : Bytes) (a b : Nat) : Prop :=
  a ≤ b ∧ ∀ k, nth inp k 0 = EOF → a ≤ k → b ≤ k

theorem Advance.refl (inp : Bytes) (a : Nat) : Advance inp a a :=
  ⟨Nat.le_refl a, fun _ _ h => h⟩

theorem Advance.trans {inp : Bytes} {a b c : Nat} (h₁ : Advance inp a b) (h₂ : Advance inp b c) :
    Advance inp a c :=
  ⟨Nat.le_trans h₁.1 h₂.1, fun k hk hak => h₂.2 k hk (h₁.2 k hk hak)⟩

theorem Advance.le_size {inp : Bytes} {a b : Nat} (h : Advance inp a b) (ha : a ≤ inp.size) : b ≤ inp.size :=
  h.2 inp.size (nth_eof_of_ge (Nat.le_refl _)) ha

theorem bump_advance {inp : Bytes} {pos : Nat} (h : nth inp pos 0 ≠ EOF) : Advance inp pos (bump inp pos) := by
  refine ⟨bump_le inp pos, fun k hk hle => ?_⟩
  have hne : pos ≠ k := fun heq => h (heq ▸ hk)
  rw [bump_of_lt (lt_size_of_nth_ne_eof h)]
  omega

/-- no loop of the lexer passes a sentinel byte: its condition is false there (`hp`) -/
theorem eatWhile_advance (p : UInt8 → Bool) (hp : p EOF = false) (inp : Bytes) (pos : Nat) :
    Advance inp pos (eatWhile p hp inp pos) := by
  fun_induction eatWhile p hp inp pos with
  | case1 pos h ih => exact (bump_advance (ne_eof_of_cond hp h)).trans ih
  | case2 pos _ => exact Advance.refl inp pos

theorem eatWhile_ge (p : UInt8 → Bool) (hp : p EOF = false) (inp : Bytes) (pos : Nat) :
    pos ≤ eatWhile p hp inp pos :=
  (eatWhile_advance p hp inp pos).1

theorem eatWhile_le_size (p : UInt8 → Bool) (hp : p EOF = false) (inp : Bytes) (pos : Nat)
    (hle : pos ≤ inp.size) : eatWhile p hp inp pos ≤ inp.size :=
  (eatWhile_advance p hp inp pos).le_size hle

theorem eatWhile_stop (p : UInt8 → Bool) (hp : p EOF = false) (inp : Bytes) (pos : Nat) :
    p (nth inp (eatWhile p hp inp pos) 0) = false := by
  fun_induction eatWhile p hp inp pos with
  | case1 pos h ih => exact ih
  | case2 pos h => simpa using h

-- The byte classes are sets of ASCII bytes (`= true → b < 0x80`) and the loop conditions `…Cont` are complements of such sets
-- (`= false → b < 0x80`): every constant they compare with is below 0x80.

theorem isAsciiWhitespace_ascii {b : UInt8} (h : isAsciiWhitespace b = true) : b < 0x80 := by
  simp only [isAsciiWhitespace, Bool.or_eq_true, Bool.and_eq_true, beq_iff_eq, decide_eq_true_eq] at h
  rcases h with h | h
  · rw [h]; decide
  · exact UInt8.lt_of_le_of_lt h.2 (by decide)

theorem isDigit_ascii {b : UInt8} (h : isDigit b = true) : b < 0x80 := by
  simp only [isDigit, Bool.and_eq_true, decide_eq_true_eq] at h
  exact UInt8.lt_of_le_of_lt h.2 (by decide)

theorem isOctDigit_ascii {b : UInt8} (h : isOctDigit b = true) : b < 0x80 := by
  simp only [isOctDigit, Bool.and_eq_true, decide_eq_true_eq] at h
  exact UInt8.lt_of_le_of_lt h.2 (by decide)

theorem isHexDigit_ascii {b : UInt8} (h : isHexDigit b = true) : b < 0x80 := by
  simp only [isHexDigit, Bool.or_eq_true, Bool.and_eq_true, decide_eq_true_eq] at h
  rcases h with (h | h) | h
  · exact isDigit_ascii h
  · exact UInt8.lt_of_le_of_lt h.2 (by decide)
  · exact UInt8.lt_of_le_of_lt h.2 (by decide)

theorem commentCont_ascii {b : UInt8} (h : commentCont b = false) : b < 0x80 := by
  simp only [commentCont, Bool.not_eq_false', Bool.or_eq_true, beq_iff_eq] at h
  rcases h with (h | h) | h <;> rw [h] <;> decide

theorem stringCont_ascii {b : UInt8} (h : stringCont b = false) : b < 0x80 := by
  simp only [stringCont, Bool.not_eq_false', Bool.or_eq_true, beq_iff_eq] at h
  rcases h with h | h <;> rw [h] <;> decide

theorem pathCont_ascii {b : UInt8} (h : pathCont b = false) : b < 0x80 := by
  simp only [pathCont, Bool.not_eq_false', Bool.or_eq_true, beq_iff_eq] at h
  rcases h with h | h <;> rw [h] <;> decide

theorem isSpecial_ascii {b : UInt8} (h : isSpecial b = true) : b < 0x80 := by
  simp only [isSpecial, Bool.or_eq_true, Bool.and_eq_true, beq_iff_eq, decide_eq_true_eq] at h
  rcases h with (((h | h) | h) | h) | h
  · exact UInt8.lt_of_le_of_lt h.2 (by decide)
  · exact UInt8.lt_of_le_of_lt h.2 (by decide)
  · exact UInt8.lt_of_le_of_lt h.2 (by decide)
  · rw [h]; decide
  · rw [h]; decide

theorem identCont_ascii {b : UInt8} (h : identCont b = false) : b < 0x80 := by
  simp only [identCont, Bool.and_eq_false_iff, Bool.or_eq_false_iff, Bool.not_eq_false', beq_iff_eq] at h
  rcases h with (h | h) | h
  · rw [h]; decide
  · exact isAsciiWhitespace_ascii h
  · exact isSpecial_ascii h.2

theorem forall_uint8 (P : UInt8 → Prop) (h : ∀ i : Fin 256, P (UInt8.ofNat i.val)) : ∀ b, P b := by
  intro b
  have := h ⟨b.toNat, b.toNat_lt⟩
  simpa using this

theorem punct_some : ∀ (b : UInt8) (k : Kind), punct b = some k → b < 0x80 ∧ k ≠ .eof := by
  apply forall_uint8
  decide +kernel

theorem fromKeyword_ne_eof (w : List UInt8) : (fromKeyword w).getD .ident ≠ .eof := by
  unfold fromKeyword
  split <;> simp

-- `EndOK inp p`: `p` is the end of the input, or the byte at `p` is ASCII, or the byte before `p` is ASCII.  In valid
-- UTF-8 such a position is a character boundary (FontcProofs/FeaLexUtf8.lean).

def AfterAscii (inp : Bytes) (p : Nat) : Prop :=
  0 < p ∧ p ≤ inp.size ∧ nth inp (p - 1) 0 < 0x80

def EndOK (inp : Bytes) (p : Nat) : Prop :=
  p = inp.size ∨ (p < inp.size ∧ nth inp p 0 < 0x80) ∨ AfterAscii inp p

/-- What a sub-lexer started at `pos` returns: a kind other than `Eof`, and an end that is reached without passing
    a sentinel byte and is an `EndOK` position. -/
structure IsToken (inp : Bytes) (pos : Nat) (r : Kind × Nat) : Prop where
  ne_eof : r.1 ≠ .eof
  advance : Advance inp pos r.2
  endOK : EndOK inp r.2

/-- What going from `a` to `b` over ASCII bytes only, none of them the sentinel, keeps true (digits, white space, a
    known byte): no sentinel byte is passed, and a position after an ASCII byte stays one. -/
def AsciiRun (inp : Bytes) (a b : Nat) : Prop :=
  Advance inp a b ∧ (AfterAscii inp a → AfterAscii inp b)

theorem AsciiRun.refl (inp : Bytes) (a : Nat) : AsciiRun inp a a := ⟨Advance.refl inp a, id⟩

theorem AsciiRun.trans {inp : Bytes} {a b c : Nat} (h₁ : AsciiRun inp a b) (h₂ : AsciiRun inp b c) : AsciiRun inp a c :=
  ⟨h₁.1.trans h₂.1, fun h => h₂.2 (h₁.2 h)⟩

theorem bump_afterAscii {inp : Bytes} {pos : Nat} (h : nth inp pos 0 < 0x80) (hne : nth inp pos 0 ≠ EOF) :
    AfterAscii inp (bump inp pos) := by
  have hlt := lt_size_of_nth_ne_eof hne
  rw [bump_of_lt hlt]
  exact ⟨Nat.succ_pos pos, hlt, h⟩

/-- one known byte `c` -/
theorem bump_asciiRun {inp : Bytes} {pos : Nat} {c : UInt8} (h : nth inp pos 0 = c) (hc : c < 0x80 ∧ c ≠ EOF) :
    AsciiRun inp pos (bump inp pos) :=
  ⟨bump_advance (h ▸ hc.2), fun _ => bump_afterAscii (h ▸ hc.1) (h ▸ hc.2)⟩

/-- a loop whose condition holds of ASCII bytes only -/
theorem eatWhile_asciiRun {p : UInt8 → Bool} {hp : p EOF = false} (hcons : ∀ {b}, p b = true → b < 0x80)
    (inp : Bytes) (pos : Nat) : AsciiRun inp pos (eatWhile p hp inp pos) := by
  refine ⟨eatWhile_advance p hp inp pos, ?_⟩
  fun_induction eatWhile p hp inp pos with
  | case1 pos hc ih => exact fun _ => ih (bump_afterAscii (hcons hc) (ne_eof_of_cond hp hc))
  | case2 pos _ => exact id

/-- a token that consists of ASCII bytes -/
theorem AsciiRun.token {inp : Bytes} {pos q : Nat} (h : AsciiRun inp pos q) (ha : AfterAscii inp pos) {k : Kind}
    (hk : k ≠ .eof) : IsToken inp pos (k, q) :=
  ⟨hk, h.1, Or.inr (Or.inr (h.2 ha))⟩

/-- a token that ends where a loop stops, if the loop only stops in front of an ASCII byte (or at the end) -/
theorem eatWhile_token {p : UInt8 → Bool} {hp : p EOF = false} (hstop : ∀ {b}, p b = false → b < 0x80)
    {inp : Bytes} {pos : Nat} (hle : pos ≤ inp.size) {k : Kind} (hk : k ≠ .eof) :
    IsToken inp pos (k, eatWhile p hp inp pos) := by
  refine ⟨hk, eatWhile_advance p hp inp pos, ?_⟩
  have h2 := eatWhile_le_size p hp inp pos hle
  by_cases heq : eatWhile p hp inp pos = inp.size
  · exact Or.inl heq
  · exact Or.inr (Or.inl ⟨by omega, hstop (eatWhile_stop p hp inp pos)⟩)

-- The `if`s of the sub-lexers are taken apart one at a time (`split` on the 12-arm chain of `dispatch` is very slow
-- to check).
theorem ite_cases {α : Sort _} {P : α → Prop} {c : Prop} [Decidable c] {a b : α} (onThen : c → P a) (onElse : P b) :
    P (if c then a else b) := by
  by_cases h : c
  · rw [if_pos h]; exact onThen h
  · rw [if_neg h]; exact onElse

/-- `number` reads digits, 'x', '.' -/
theorem number_token (inp : Bytes) (pos : Nat) (lz : Bool) (ha : AfterAscii inp pos) :
    IsToken inp pos (number inp pos lz) := by
  have eat := fun {p hp} (h : ∀ {b}, p b = true → b < 0x80) a => eatWhile_asciiRun (p := p) (hp := hp) h inp a
  unfold number
  refine ite_cases (fun _ => ?_) (ite_cases (fun hdot => ?_) ((eat isDigit_ascii _).token ha nofun))
  · refine ite_cases (fun hx => ?_)
      (ite_cases (fun _ => (eat isOctDigit_ascii _).token ha nofun) ((AsciiRun.refl inp pos).token ha nofun))
    have hx : AsciiRun inp pos (bump inp pos) := by
      rcases (by simpa using hx : nth inp pos 0 = 0x78 ∨ nth inp pos 0 = 0x58) with h | h <;>
        exact bump_asciiRun h (by decide)
    exact ite_cases (fun _ => (hx.trans (eat isHexDigit_ascii _)).token ha nofun) (hx.token ha nofun)
  · exact (((eat isDigit_ascii _).trans (bump_asciiRun (eq_of_beq hdot) (by decide))).trans
      (eat isDigit_ascii _)).token ha nofun

/-- Every arm of `dispatch` (the `match first { … }` of `next_token`); `pos` is just after `first`. -/
theorem dispatch_token (inp : Bytes) (st : LexState) (first : UInt8) (pos : Nat) (hle : pos ≤ inp.size)
    (h0 : 0 < pos) (hfirst : nth inp (pos - 1) 0 = first) : IsToken inp pos (dispatch inp st first pos) := by
  have after : first < 0x80 → AfterAscii inp pos := fun ha => ⟨h0, hle, hfirst ▸ ha⟩
  have num : ∀ lz, first < 0x80 → IsToken inp pos (number inp pos lz) :=
    fun lz ha => number_token inp pos lz (after ha)
  have here : ∀ {k}, first < 0x80 → k ≠ .eof → IsToken inp pos (k, pos) :=
    fun ha hk => (AsciiRun.refl inp pos).token (after ha) hk
  -- the arms in source order: path, white space, comment, string, cid, number (twice), glyph class, minus, one-byte
  -- token, number suffix, ident
  unfold dispatch
  refine ite_cases (fun _ => eatWhile_token pathCont_ascii hle nofun) ?_
  refine ite_cases (fun h => (eatWhile_asciiRun isAsciiWhitespace_ascii inp pos).token
    (after (isAsciiWhitespace_ascii h)) nofun) ?_
  refine ite_cases (fun _ => eatWhile_token commentCont_ascii hle nofun) ?_
  refine ite_cases (fun _ => ?string) ?_
  case string =>
    -- up to the closing quote (consumed), or to the end
    have hs : IsToken inp pos (.stringUnterminated, eatWhile stringCont stringCont_eof inp pos) :=
      eatWhile_token stringCont_ascii hle nofun
    exact ite_cases (fun hq => ⟨nofun, hs.advance.trans (bump_asciiRun (eq_of_beq hq) (by decide)).1,
      Or.inr (Or.inr (bump_afterAscii (eq_of_beq hq ▸ by decide) (eq_of_beq hq ▸ by decide)))⟩) hs
  refine ite_cases (fun h => (eatWhile_asciiRun isDigit_ascii inp pos).token
    (after (isDigit_ascii (Bool.and_eq_true_iff.1 h).1)) nofun) ?_
  refine ite_cases (fun h => num true (eq_of_beq h ▸ by decide)) ?_
  refine ite_cases (fun h => num false (isDigit_ascii h)) ?_
  refine ite_cases (fun _ => eatWhile_token identCont_ascii hle nofun) ?_
  refine ite_cases (fun h => ?minus) ?_
  case minus =>
    have ha : first < 0x80 := eq_of_beq h ▸ by decide
    exact ite_cases (fun _ => here ha nofun) (ite_cases (fun _ => num false ha) (here ha nofun))
  cases hp : punct first with
  | some k => exact here (punct_some first k hp).1 (punct_some first k hp).2
  | none =>
    refine ite_cases (fun h => here ?_ nofun) ?_
    · rcases (by simpa [or_assoc] using (Bool.and_eq_true_iff.1 h).1 : first = 0x6E ∨ first = 0x75 ∨ first = 0x64)
        with h | h | h <;> rw [h] <;> decide
    · exact ite_cases (fun _ => eatWhile_token identCont_ascii hle nofun)
        (eatWhile_token identCont_ascii hle (fromKeyword_ne_eof _))

/-- What one call of `next_token` can do: report `Eof` (at the end, or for `eofOnNul` on a sentinel byte), or bump one
    byte and return a token from there. -/
theorem nextTokenWith_cases (e : Bool) (inp : Bytes) (st : LexState) :
    ((inp.size ≤ st.pos ∨ (e = true ∧ nth inp st.pos 0 = EOF)) ∧
      (nextTokenWith e inp st).1 = .eof ∧ (nextTokenWith e inp st).2.pos = bump inp st.pos) ∨
    (st.pos < inp.size ∧ (e = true → nth inp st.pos 0 ≠ EOF) ∧
      IsToken inp (st.pos + 1) ((nextTokenWith e inp st).1, (nextTokenWith e inp st).2.pos)) := by
  unfold nextTokenWith
  dsimp only
  by_cases h : (decide (inp.size ≤ st.pos) || (e && nth inp st.pos 0 == EOF)) = true
  · rw [if_pos h]
    exact .inl ⟨by simpa using h, rfl, rfl⟩
  · rw [if_neg h]
    have h' : st.pos < inp.size ∧ (e = true → nth inp st.pos 0 ≠ EOF) := by simpa using h
    rw [bump_of_lt h'.1]
    exact .inr ⟨h'.1, h'.2, dispatch_token inp st _ _ h'.1 (Nat.succ_pos _) rfl⟩

/-- `lex_terminates`, step form: every call of `next_token` stays inside the input, and every token other
    than `Eof` consumes at least one byte.  (For `Eof` the position moves by 0 at the real end and by 1 on a
    NUL byte.) -/
theorem nextTokenWith_progress (e : Bool) (inp : Bytes) (st : LexState) (hle : st.pos ≤ inp.size) :
    st.pos ≤ (nextTokenWith e inp st).2.pos ∧ (nextTokenWith e inp st).2.pos ≤ inp.size ∧
    ((nextTokenWith e inp st).1 ≠ .eof → st.pos < (nextTokenWith e inp st).2.pos) := by
  rcases nextTokenWith_cases e inp st with ⟨_, hk, hp⟩ | ⟨hlt, _, hr⟩
  · rw [hk, hp]
    exact ⟨bump_le _ _, bump_le_size hle, fun h => absurd rfl h⟩
  · have h1 : st.pos + 1 ≤ (nextTokenWith e inp st).2.pos := hr.advance.1
    exact ⟨by omega, hr.advance.le_size hlt, fun _ => by omega⟩

/-- Run the lexer until it reports `Eof` (what `lexer::iter_tokens` and every `while !parser.at_eof()` loop
    do); the result is the list of `(kind, len)` before the `Eof` lexeme.  Total because of
    `nextTokenWith_progress`. -/
def lexAllWith (e : Bool) (inp : Bytes) (st : LexState) : List (Kind × Nat) :=
  if hle : st.pos ≤ inp.size then
    let r := nextTokenWith e inp st
    if hk : r.1 = .eof then []
    else (r.1, r.2.pos - st.pos) :: lexAllWith e inp r.2
  else []
termination_by inp.size - st.pos
decreasing_by
  have h := nextTokenWith_progress e inp st hle
  have h3 : st.pos < (nextTokenWith e inp st).2.pos := h.2.2 hk
  have h2 : (nextTokenWith e inp st).2.pos ≤ inp.size := h.2.1
  omega

/-- tokens of the whole input, lexer of the unchanged tree -/
def lexAll (inp : Bytes) : List (Kind × Nat) := lexAllWith true inp {}

/-- tokens of the whole input, lexer with the proposed fix -/
def lexAllFixed (inp : Bytes) : List (Kind × Nat) := lexAllWith false inp {}

/-- the byte offsets at which tokens end -/
def boundaries : Nat → List (Kind × Nat) → List Nat
  | _, [] => []
  | start, (_, len) :: rest => (start + len) :: boundaries (start + len) rest

def totalLen (toks : List (Kind × Nat)) : Nat := (toks.map (·.2)).sum

end Fontc.FeaLex
