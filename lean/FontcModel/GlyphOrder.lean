/-
  C06 — glyph set, glyph order, cmap, post names.

  Literal model of
    ufo2fontir/src/source.rs:542-578    `glyph_order`            (public.glyphOrder ∩ glyph set, then sorted rest)
    glyphs-reader/src/font.rs:2669-2690 `make_glyph_order`       (Glyphs' equivalent: custom order, then file order)
    fontir/src/ir.rs:51-144             `GlyphOrder` (an `IndexSet<GlyphName>`): insert / extend / shift_remove /
                                        set_glyph_id (move_index)
    fontir/src/glyph.rs:37-47           `name_for_derivative`
    fontir/src/glyph.rs:229-256         `prune_missing_components`
    fontir/src/glyph.rs:267-352         `flatten_all_non_export_components` (names and has-contours only)
    fontdrasil/src/util.rs:18-90        `depth_sorted_composite_glyphs`
    fontir/src/glyph.rs:172-206         `resolve_inconsistencies` (the queue that decides the order of derived glyphs)
    fontir/src/glyph.rs:679-698         `ensure_notdef_exists_and_is_gid_0`
    fontir/src/glyph.rs:822-945         `GlyphOrderWork::exec`
    fontbe/src/cmap.rs:33-57            `CmapWork::exec`  (+ the contract of write-fonts `Cmap::from_mappings`)
    fontbe/src/post.rs:38-82            `PostWork::exec`  (production-name renaming, de-duplication)

  Glyph names are `String`s (Rust `GlyphName` = `SmolStr`; its `Ord` is byte-wise on UTF-8, which is code point
  order = Lean's `String` order). Outlines, transforms and anchors are not modelled here (C03/C12/C10): a glyph is
  its name, export flag, codepoints, component base names and whether it has contours.
  Core Lean only: this file is linked into the native driver.
-/
import FontcModel.Basic

namespace Fontc.GlyphOrder

/-- `GlyphName::NOTDEF` -/
def notdef : String := ".notdef"

/-! ## `IndexSet<GlyphName>` (fontir/src/ir.rs:51) as a duplicate-free list -/

/-- `IndexSet::insert`: append unless already present. -/
def ixInsert (s : List String) (x : String) : List String := if x ∈ s then s else s ++ [x]

/-- `IndexSet::extend` / a `for_each(insert)` loop. -/
def ixExtend (s : List String) (xs : List String) : List String := xs.foldl ixInsert s

/-- `IndexSet::move_index(i, 0)`: take out the element at `i`, put it first, shift the others. -/
def ixMoveToFront (s : List String) (i : Nat) : List String :=
  match s[i]? with
  | some x => x :: s.eraseIdx i
  | none => s

/-- `IndexSet::get_index_of` -/
def ixIndexOf (x : String) : List String → Option Nat
  | [] => none
  | y :: ys => if y = x then some 0 else (ixIndexOf x ys).map (· + 1)

/-- `GlyphOrder::set_glyph_id(name, 0)` (ir.rs:134-143). -/
def setGlyphId0 (s : List String) (name : String) : List String :=
  match ixIndexOf name s with
  | some 0 => s
  | some i => ixMoveToFront s i
  | none =>
    -- insert, then the recursive call finds it at the last index
    let s' := ixInsert s name
    match ixIndexOf name s' with
    | some 0 => s'
    | some i => ixMoveToFront s' i
    | none => s'

/-- Specification vocabulary: the first occurrences of a list, in order. -/
def firstOcc : List String → List String
  | [] => []
  | x :: xs => x :: (firstOcc xs).filter (· ≠ x)

/-- `Vec::sort` on glyph names. -/
def sortNames (xs : List String) : List String := xs.mergeSort (fun a b => decide (a ≤ b))

/-! ## ufo2fontir `glyph_order` (source.rs:542-578) -/

/-- `declared`: `none` = `public.glyphOrder` absent or not an array; an entry `none` = a non-string array element.
    `names`: the glyph set (a `HashSet`; the list order stands for its unspecified iteration order). -/
def ufoGlyphOrder (declared : Option (List (Option String))) (names : List String) : List String :=
  -- :550-559  filter_map(as_string) . filter(contains) . for_each(remove from pending; insert)
  let decl := ((declared.getD []).filterMap id).filter (· ∈ names)
  let order := ixExtend [] decl
  let pending := names.filter (· ∉ decl)
  -- :562-564  leftover sorted, extend
  let order := ixExtend order (sortNames pending)
  -- :565-576  only reached with an empty glyph set (see `C06.ufo_glyph_order_fallback_dead`)
  if order.isEmpty then
    ixExtend (if notdef ∈ names then [notdef] else []) (names.filter (· ≠ notdef))
  else order

/-! ## glyphs-reader `make_glyph_order` (font.rs:2669-2690), then `.collect::<GlyphOrder>()` (glyphs2fontir source.rs:592) -/

/-- the `for name in custom_order { if valid_names.remove(&name) { push } }` loop -/
def takeValid : List String → List String → List String → List String
  | _, [], acc => acc
  | valid, n :: rest, acc => if n ∈ valid then takeValid (valid.filter (· ≠ n)) rest (acc ++ [n]) else takeValid valid rest acc

/-- `file`: glyph names in file order; `custom`: the `glyphOrder` custom parameter. -/
def glyphsMakeOrder (custom : Option (List String)) (file : List String) : List String :=
  let ordered := takeValid file (custom.getD []) []
  ordered ++ file.filter (· ∉ ordered)

/-- `font.glyph_order.iter().collect::<GlyphOrder>()` (an IndexSet: duplicates of a repeated file entry vanish). -/
def glyphsGlyphOrder (custom : Option (List String)) (file : List String) : List String :=
  ixExtend [] (glyphsMakeOrder custom file)

/-! ## IR glyphs -/

structure Glyph where
  name : String
  /-- `emit_to_binary` -/
  exported : Bool := true
  codepoints : List Nat := []
  /-- component base names (`Glyph::component_names`) -/
  components : List String := []
  hasContours : Bool := false
  /-- `!has_consistent_components() || has_overflowing_component_transforms()`: always decomposed -/
  mustDecompose : Bool := false
  deriving Repr, Inhabited, DecidableEq

/-- `context.glyphs`: name ↦ glyph, as an association list (newest entry first). -/
structure Table where
  entries : List Glyph

def Table.ofList (gs : List Glyph) : Table := ⟨gs⟩

/-- `context.glyphs.get` / `try_get_glyph` -/
def Table.get (t : Table) (n : String) : Option Glyph := t.entries.find? (fun g => decide (g.name = n))

/-- `context.glyphs.set(g)` -/
def Table.set (t : Table) (g : Glyph) : Table := ⟨g :: t.entries⟩

def Table.comps (t : Table) (n : String) : List String := ((t.get n).map (·.components)).getD []

def Table.isExport (t : Table) (n : String) : Bool := ((t.get n).map (·.exported)).getD false

/-! ### `prune_missing_components` (glyph.rs:229) -/

def pruneMissing (names : List String) (t : Table) : Table :=
  names.foldl (fun acc n =>
    match t.get n with
    | some g =>
      if g.components.all (fun c => (t.get c).isSome) then acc
      else acc.set { g with components := g.components.filter (fun c => (t.get c).isSome) }
    | none => acc) t

/-! ### `depth_sorted_composite_glyphs` (fontdrasil util.rs:18) -/

/-- component depth with the iteration bound as fuel: `none` = not determined (cycle or missing reference). -/
def depth (t : Table) : Nat → String → Option Nat
  | 0, _ => none
  | f + 1, n =>
    match t.get n with
    | none => none
    | some g =>
      if g.components.isEmpty then some 0
      else (g.components.foldl (fun acc c =>
        match acc, depth t f c with
        | some a, some d => some (max a d)
        | _, _ => none) (some 0)).map (· + 1)

def insertByKey (x : Nat × String) : List (Nat × String) → List (Nat × String)
  | [] => [x]
  | y :: ys => if x.1 < y.1 ∨ (x.1 = y.1 ∧ x.2 ≤ y.2) then x :: y :: ys else y :: insertByKey x ys

/-- names with a determined depth, sorted by (depth, name) (`by_depth.sort()`). -/
def depthSorted (names : List String) (t : Table) : List String :=
  let keyed := names.filterMap fun n => (depth t (names.length + 1) n).map fun d => (d, n)
  (keyed.foldl (fun acc x => insertByKey x acc) []).map (·.2)

/-! ### `flatten_all_non_export_components` (glyph.rs:267-352): names and has-contours only -/

/-- one glyph (`snap` = the snapshot taken before the loop, `cur` = the context being rewritten) -/
def flattenOne (snap cur : Table) (n : String) : Table :=
  match snap.get n with
  | none => cur
  | some g =>
    -- glyph_has_non_export_components (context.get_glyph(name).emit_to_binary: export flags never change)
    if g.components.any (fun c => !snap.isExport c) then
      cur.set { g with
        components := g.components.flatMap fun c => if snap.isExport c then [c] else cur.comps c
        hasContours := g.hasContours || g.components.any fun c =>
          !snap.isExport c && ((cur.get c).map (·.hasContours)).getD false }
    else cur

def flattenAll (order : List String) (t : Table) : Table := order.foldl (flattenOne t) t

/-! ### `name_for_derivative` (glyph.rs:37) and the same loop in post.rs:67 -/

/-- `format!("{name}.{n}")` -/
def suffixed (name : String) (n : Nat) : String := name ++ "." ++ toString n

/-- first `k ≥ n` with `suffixed name k` not in `used`. The Rust loops are unbounded `while`s; among any
    `used.length + 1` consecutive candidates one is free (`firstFree_not_mem`), so the bounded search is the same
    function and the `none` arm is dead. -/
def firstFree (used : List String) (name : String) (n : Nat) : Nat :=
  match (List.range (used.length + 1)).find? (fun j => suffixed name (n + j) ∉ used) with
  | some j => n + j
  | none => n + used.length + 1

def nameForDerivative (base : String) (inUse : List String) : String := suffixed base (firstFree inUse base 0)

/-! ### `resolve_inconsistencies` (glyph.rs:172-206) -/

inductive Op where
  | convertToContour
  | moveContoursToComponent
  deriving Repr, DecidableEq, Inhabited

/-- the inner `while let Some(component_name) = curr_components.pop()` walk: is a pending glyph reachable?
    `d` bounds the depth (the real walk does not terminate on a component cycle: C15). -/
def reachesPending (t : Table) (pending : List String) : Nat → List String → Bool
  | 0, _ => false
  | d + 1, cs => cs.any fun c => decide (c ∈ pending) || reachesPending t pending d (t.comps c)

structure RState where
  table : Table
  order : List String
  pending : List String
  todo : List (Op × Glyph)

/-- `apply_fix` (glyph.rs:913-918): what `convert_components_to_contours` / `move_contours_to_new_component`
    do to names, components and has-contours. `g` is the snapshot from `original_glyphs`. -/
def applyFix (st : RState) (op : Op) (g : Glyph) : RState :=
  match op with
  | .convertToContour =>
    { st with table := st.table.set { g with components := [], hasContours := true } }
  | .moveContoursToComponent =>
    -- split_glyph (glyph.rs:52-71)
    let newName := nameForDerivative g.name st.order
    let simple : Glyph := { g with name := newName, components := [], codepoints := [] }
    let composite : Glyph := { g with hasContours := false, components := g.components ++ [newName] }
    { st with order := ixInsert st.order newName, table := (st.table.set simple).set composite }

/-- the outer `'next_todo` loop; `fuel` bounds the number of iterations, `d` the walk depth.
    `none` = fuel exhausted (the real loop would spin forever: a pending glyph that reaches a pending glyph on a cycle). -/
def resolve (d : Nat) : Nat → RState → Option RState
  | 0, st => if st.todo.isEmpty then some st else none
  | fuel + 1, st =>
    match st.todo with
    | [] => some st
    | (op, g) :: rest =>
      if reachesPending st.table st.pending d g.components then
        -- `todo.push_back((op, glyph)); continue 'next_todo`
        resolve d fuel { st with todo := rest ++ [(op, g)] }
      else
        let st' := applyFix { st with todo := rest } op g
        resolve d fuel { st' with pending := st'.pending.filter (· ≠ g.name) }

/-! ### `GlyphOrderWork::exec` (glyph.rs:822-945) -/

structure Source where
  /-- every glyph of the source (`context.glyphs.all()`), names pairwise distinct -/
  glyphs : List Glyph
  /-- `context.preliminary_glyph_order` -/
  prelim : List String
  /-- `Flags::PREFER_SIMPLE_GLYPHS` -/
  preferSimple : Bool := true

structure Final where
  order : List String
  table : Table

/-- glyph.rs:854-861: drop what the source said not to export. `none`: a name without a glyph
    (`context.get_glyph` panics). -/
def keptOrder (prelim : List String) (t : Table) : Option (List String) :=
  if prelim.all (fun n => (t.get n).isSome) then some (prelim.filter t.isExport) else none

/-- glyph.rs:866-874: a glyph that still refers to a component outside the new order is decomposed
    (in the context only; `original_glyphs` keeps the snapshot the next step looks at).
    After `flattenAll` this only happens when the preliminary order omits an exported glyph. -/
def decomposeDangling (kept : List String) (t : Table) : Table :=
  kept.foldl (fun acc n =>
    match acc.get n with
    | some g => if g.components.any (· ∉ kept) then acc.set { g with components := [], hasContours := true } else acc
    | none => acc) t

/-- glyph.rs:882-908 (classification reads the snapshot `original_glyphs`, i.e. the table before `decomposeDangling`) -/
def todoOf (preferSimple : Bool) (kept : List String) (t : Table) : List (Op × Glyph) :=
  kept.filterMap fun n =>
    match t.get n with
    | none => none
    | some g =>
      if g.mustDecompose then some (.convertToContour, g)
      else if g.hasContours && !g.components.isEmpty then
        some (if preferSimple then .convertToContour else .moveContoursToComponent, g)
      else none

/-- glyph.rs:679-698 -/
def ensureNotdef (f : Final) : Final :=
  match ixIndexOf notdef f.order with
  | some _ => { f with order := setGlyphId0 f.order notdef }
  | none =>
    -- synthesize_notdef: a fresh contour glyph, no codepoints, no components
    { order := setGlyphId0 f.order notdef
      table := f.table.set { name := notdef, hasContours := true } }

def finalOrder (s : Source) : Option Final :=
  let names := s.glyphs.map (·.name)
  let t0 := pruneMissing names (Table.ofList s.glyphs)
  let t1 := flattenAll (depthSorted names t0) t0
  match keptOrder s.prelim t1 with
  | none => none
  | some kept =>
    let todo := todoOf s.preferSimple kept t1
    let n := todo.length
    match resolve (names.length + n + 1) ((n + 1) * (n + 1))
        { table := decomposeDangling kept t1, order := kept, pending := todo.map (·.2.name), todo } with
    | none => none
    | some st => some (ensureNotdef { order := st.order, table := st.table })

/-! ## which glyphs get compiled (fontc/src/workload.rs) -/

/-- The names that end up with a glyf fragment. A back-end glyph job exists for every source glyph; it is completed
    without running when the source glyph has `emit_to_binary == false` (workload.rs:357-384 `update_be_glyph_work`);
    when the glyph order is final, jobs are added for `final_glyph_order.difference(&preliminary_glyph_order)`
    (workload.rs:438-448). -/
def compiledNames (s : Source) (f : Final) : List String :=
  (s.glyphs.filter (·.exported)).map (·.name) ++ f.order.filter (· ∉ s.prelim)

/-- glyf assembly (`Be(GlyfFragment(name))` must be available for every name of the final order) -/
def allCompiled (s : Source) (f : Final) : Bool := f.order.all (· ∈ compiledNames s f)

/-! ## cmap (fontbe/src/cmap.rs:33-57) -/

/-- `(codepoint, gid)` for every glyph of the order, in order. -/
def cmapMappings (order : List String) (t : Table) : List (Nat × Nat) :=
  order.zipIdx.flatMap fun (n, gid) => (((t.get n).map (·.codepoints)).getD []).map fun cp => (cp, gid)

/-- The contract of write-fonts `Cmap::from_mappings` (external crate, cmap.rs:172-187): sort, dedup, fail with
    `CmapConflict` iff one codepoint is left with two different glyph ids; otherwise the table maps exactly the
    given pairs. -/
def fromMappings (m : List (Nat × Nat)) : Option (List (Nat × Nat)) :=
  if m.all (fun a => m.all fun b => a.1 != b.1 || a.2 == b.2) then some m else none

def buildCmap (f : Final) : Option (List (Nat × Nat)) := fromMappings (cmapMappings f.order f.table)

/-! ## post names (fontbe/src/post.rs:50-82) -/

/-- `name.retain(|c| c.is_ascii_alphanumeric() || c == '.' || c == '_')` -/
def sanitize (s : String) : String :=
  String.ofList (s.toList.filter fun c => c.isAlphanum || c == '.' || c == '_')

structure PostState where
  /-- the `seen` HashMap as an association list (newest first) -/
  seen : List (String × Nat) := []
  out : List String := []

def postStep (rename : List (String × String)) (st : PostState) (g : String) : PostState :=
  let name := sanitize ((rename.lookup g).getD g)
  match st.seen.lookup name with
  | some n =>
    let k := firstFree (st.seen.map (·.1)) name n
    let name' := suffixed name k
    { seen := (name', 1) :: (name, k + 1) :: st.seen, out := st.out ++ [name'] }
  | none => { seen := (name, 1) :: st.seen, out := st.out ++ [name] }

/-- `rename = none`: `static_metadata.postscript_names` is `None` (production names off, or no
    `public.postscriptNames` in the UFO lib): the glyph names as they are. -/
def postNames (rename : Option (List (String × String))) (order : List String) : List String :=
  match rename with
  | none => order
  | some r => (order.foldl (postStep r) {}).out

end Fontc.GlyphOrder
