/-
  C19 model: every narrowing on the path  source value → binary field, with its ACTUAL Rust semantics.

  Rust semantics modelled (the language reference, "Numeric cast" / arithmetic overflow):
    * float → integer `as`            truncates toward zero, then SATURATES            (`asI16`, `asU16`)
    * wider int → narrower int `as`   keeps the low bits, i.e. WRAPS                   (`wrapU16`, `wrapI16`)
    * `a + b`, `a - b` on u16 / i16   dev profile (overflow-checks on): PANIC on overflow;
                                      release profile: WRAP                             (`addU16`, `subU16`, `subI16`)
    * `try_into()` / `try_from`       checked; `.unwrap()` → panic, `.map_err(..)?` → error
    * `assert!`                       panics in both profiles

  Two pipelines: `fieldPipelineOld` = fontc 61b7940 (before the fixes), `fieldPipeline` = the current tree with the range
  checks of d8817db / 944e88e / f8fa190 in front of the narrowing sites below (section 3b).

  Where each field is narrowed (line numbers of fontc 61b7940, write-fonts 0.49.2, font-types 0.12.5):
    outline x / y           write-fonts tables/glyf/simple.rs:403-407  `pt.point.ot_round()` : (i16,i16); round.rs:17 `(x+0.5).floor() as i16`
    glyf point delta        write-fonts tables/glyf/simple.rs:113-114  `point.x - last_x` on i16 (unchecked `-`)
    contour end point       write-fonts tables/glyf/simple.rs:281      `(cur as u16 - 1)` (wrapping cast, then unchecked `-`)
    number of contours      write-fonts tables/glyf/simple.rs:268      `assert!(self.contours.len() < i16::MAX as usize)`
    component offset        fontbe/src/glyphs.rs:106-109               `e.ot_round()` : i16
    component 2x2 entry     fontir/src/ir.rs:1463-1490 (decompose when outside [-2,2]), fontbe/src/glyphs.rs:110-115
                            `F2Dot14::from_f64`, font-types fixed.rs:316-321 `(x*16384 + ±0.5) as i16`
    advance width / height  fontbe/src/metrics_and_limits.rs:332-337 `width.ot_round()` : u16; fontir/src/ir.rs:1827-1835 (height)
    lsb                     metrics_and_limits.rs:341 (= bbox.x_min, an i16 from `Bbox::from(Rect)`, write-fonts glyf.rs:81-90)
    tsb                     fontbe/src/vertical_metrics.rs:86-87       `vertical_origin - bbox.y_max` on i16 (unchecked `-`)
    min rsb / max extent    metrics_and_limits.rs:125-141              explicit clamp to i16
    kerning / anchor value  fontbe/src/features.rs:224-231             `.sum::<f64>().ot_round()` : i16
    kerning / anchor delta  fontbe/src/features.rs:244-247             `value.ot_round()` : i16
    gvar delta              write-fonts tables/gvar/iup.rs:439,566, fontbe/src/glyphs.rs:320 `delta.to_point().ot_round()` : (i16,i16)
    HVAR / VVAR delta       fontbe/src/metric_variations.rs:163-166    `values[0].ot_round()` : i16
    fontinfo metric         fontbe/src/os2.rs:259-279, metrics_and_limits.rs:355-364, post.rs:86-87 `ot_round()` : i16 / u16
    glyph count             metrics_and_limits.rs:405                  `glyph_order.len().try_into().unwrap()`
    long metric count       metrics_and_limits.rs:365-370              `try_into().map_err(OutOfBounds)?`
    maxp point / contour / component counts   metrics_and_limits.rs:198,199,212   `usize as u16`
    maxp composite totals   metrics_and_limits.rs:257-264              `acc.max_points + e.max_points` on u16 (unchecked `+`)

  Core Lean only: linked into the native driver.
-/
import FontcModel.Basic

namespace Fontc.Casts
open Fontc

/-! ## 0. Profiles and outcomes -/

/-- cargo's `dev` profile (overflow-checks = true) vs `release` (overflow-checks = false). -/
inductive Profile where
  | debug | release
  deriving DecidableEq, Repr, Inhabited

/-- How a pipeline ends. `ok v`: a font is emitted and a reader of the format decodes `v` from the field.
    `panic`: an arithmetic-overflow trap, `assert!` or `unwrap()` fires; fontc's worker catches it and the
    build FAILS ("A task panicked"). `err`: a checked conversion returns an `Error`; the build fails.
    `fallback`: the value is not stored at all — the glyph is decomposed to a plain outline (shape preserved). -/
inductive Outcome where
  | ok (v : Rat)
  | panic
  | err
  | fallback
  deriving DecidableEq, Repr, Inhabited

def Outcome.isOk : Outcome → Bool
  | .ok _ => true
  | _ => false

/-- A build that stops (panic or error) — both are "the build fails" to the user. -/
def Outcome.fails : Outcome → Bool
  | .panic => true
  | .err => true
  | _ => false

/-! ## 1. The primitive conversions -/

/-- truncation toward zero (the first step of a float → int `as`) -/
def truncI (x : Rat) : Int := if x < 0 then -((-x).floor) else x.floor

/-- Rust `x as i16` for a float `x` -/
def asI16 (x : Rat) : Int := satI16 (truncI x)
/-- Rust `x as u16` for a float `x` -/
def asU16 (x : Rat) : Int := satU16 (truncI x)

/-- `OtRound<i16> for f64`: `(x + 0.5).floor() as i16` -/
def otRoundI16 (x : Rat) : Int := satI16 (otRound x)
/-- `OtRound<u16> for f64`: `(x + 0.5).floor() as u16` -/
def otRoundU16 (x : Rat) : Int := satU16 (otRound x)

/-- `F2Dot14::from_f64(x)`: `(x * 16384.0 + (±0.5)) as i16`; the stored bits. -/
def f2dot14FromF64 (x : Rat) : Int :=
  asI16 (x * 16384 + (if 0 ≤ x then 1/2 else -1/2))

/-- what a reader decodes from 2.14 bits -/
def f2dot14ToRat (bits : Int) : Rat := (bits : Rat) / 16384

/-- round half away from zero (the un-saturated `F2Dot14::from_f64`) -/
def roundHalfAway (x : Rat) : Int := truncI (x + (if 0 ≤ x then 1/2 else -1/2))

def inI16 (v : Int) : Prop := -32768 ≤ v ∧ v ≤ 32767
def inU16 (v : Int) : Prop := 0 ≤ v ∧ v ≤ 65535
instance (v : Int) : Decidable (inI16 v) := by unfold inI16; infer_instance
instance (v : Int) : Decidable (inU16 v) := by unfold inU16; infer_instance

/-- `a + b` on u16 -/
def addU16 (p : Profile) (a b : Int) : Outcome :=
  if a + b ≤ 65535 then .ok ((a + b : Int) : Rat)
  else match p with
    | .debug => .panic
    | .release => .ok ((wrapU16 (a + b) : Int) : Rat)

/-- `a - b` on u16 -/
def subU16 (p : Profile) (a b : Int) : Outcome :=
  if 0 ≤ a - b then .ok ((a - b : Int) : Rat)
  else match p with
    | .debug => .panic
    | .release => .ok ((wrapU16 (a - b) : Int) : Rat)

/-- `a - b` on i16 -/
def subI16 (p : Profile) (a b : Int) : Outcome :=
  if inI16 (a - b) then .ok ((a - b : Int) : Rat)
  else match p with
    | .debug => .panic
    | .release => .ok ((wrapI16 (a - b) : Int) : Rat)

/-! ## 2. Multi-value stages (the parts of the path that are not a function of one number) -/

/-- `SimpleGlyph::compute_point_deltas` on one axis: the stored deltas of a coordinate sequence
    (`last` starts at 0). `none` = the i16 subtraction trapped (dev profile). -/
def encodeDeltas (p : Profile) : Int → List Int → Option (List Int)
  | _, [] => some []
  | last, x :: xs =>
    let d := x - last
    if inI16 d then (encodeDeltas p x xs).map (d :: ·)
    else match p with
      | .debug => none
      | .release => (encodeDeltas p x xs).map (wrapI16 d :: ·)

/-- what the OpenType spec (and FreeType / skrifa's `read_points_fast`) decode: the running sum of the
    stored deltas in a wide accumulator -/
def decodeDeltas : Int → List Int → List Int
  | _, [] => []
  | acc, d :: ds => (acc + d) :: decodeDeltas (acc + d) ds

/-- fold of `acc.max_points + e.max_points` over the components of one composite glyph -/
def foldAddU16 (p : Profile) : Int → List Int → Outcome
  | acc, [] => .ok (acc : Rat)
  | acc, e :: es =>
    if acc + e ≤ 65535 then foldAddU16 p (acc + e) es
    else match p with
      | .debug => .panic
      | .release => foldAddU16 p (wrapU16 (acc + e)) es

/-! ## 3. The table of fields -/

inductive Field where
  /-- x or y of an outline point (glyf simple glyph; also the glyph bbox → head xMin…, and lsb) -/
  | outlineCoord
  /-- stored difference of two successive point coordinates (input: the mathematical difference) -/
  | pointDelta
  /-- component x / y offset -/
  | compOffset
  /-- component 2×2 entry (2.14) -/
  | comp2x2
  /-- advance width (hmtx) / advance height (vmtx) -/
  | advance
  /-- left side bearing = xMin -/
  | lsb
  /-- top side bearing = vertical origin − yMax (input: the mathematical difference) -/
  | tsb
  /-- hhea minRightSideBearing / xMaxExtent (derived; input: the mathematical value) -/
  | rsbExtent
  /-- kerning value (default location) -/
  | kernValue
  /-- anchor x / y (default location) -/
  | anchorCoord
  /-- kerning / anchor delta in the GDEF variation store (input: the mathematical delta) -/
  | valueDelta
  /-- gvar point / component-offset delta -/
  | gvarDelta
  /-- HVAR / VVAR advance delta -/
  | hvarDelta
  /-- fontinfo number with a signed 16-bit field (ascender, typoAscender, underlinePosition …) -/
  | metricI16
  /-- fontinfo number with an unsigned 16-bit field (winAscent, winDescent) -/
  | metricU16
  /-- maxp.numGlyphs -/
  | glyphCount
  /-- hhea.numberOfHMetrics -/
  | longMetricCount
  /-- maxp.maxPoints / maxContours / maxComponentElements (per-glyph counts) -/
  | countU16
  /-- endPtsOfContours entry (input: the cumulative number of points, ≥ 1) -/
  | endPt
  /-- numberOfContours of a simple glyph -/
  | numContours
  /-- maxp.maxCompositePoints / maxCompositeContours of a composite (input: the true total over its components) -/
  | compositeTotal
  /-- bounding box entry of a COMPOSITE glyph (glyph header, head xMin…, and its lsb): computed from the transformed
      component outlines, `Bbox::from(Rect)` = `ot_round()` : i16 (fontbe/src/glyphs.rs compute_composite_bboxes) -/
  | compositeBbox
  deriving DecidableEq, Repr, Inhabited

def Field.all : List Field :=
  [.outlineCoord, .pointDelta, .compOffset, .comp2x2, .advance, .lsb, .tsb, .rsbExtent, .kernValue, .anchorCoord,
   .valueDelta, .gvarDelta, .hvarDelta, .metricI16, .metricU16, .glyphCount, .longMetricCount, .countU16, .endPt,
   .numContours, .compositeTotal, .compositeBbox]

/-- a count as the code sees it: a `usize` -/
def cnt (v : Rat) : Int := (v.floor.toNat : Int)

/-- `fieldPipelineOld f v p`: what the code did BEFORE the fixes d8817db / 944e88e / f8fa190 (fontc 61b7940) with source value `v`
    destined for field `f` under profile `p`. Kept for history: its counterexamples are the defects F7 / F8. -/
def fieldPipelineOld : Field → Rat → Profile → Outcome
  | .outlineCoord, v, _ => .ok (otRoundI16 v : Int)
  | .pointDelta, v, p => subI16 p v.floor 0
  | .compOffset, v, _ => .ok (otRoundI16 v : Int)
  | .comp2x2, v, _ => if -2 ≤ v ∧ v ≤ 2 then .ok (f2dot14ToRat (f2dot14FromF64 v)) else .fallback
  | .advance, v, _ => .ok (otRoundU16 v : Int)
  | .lsb, v, _ => .ok (otRoundI16 v : Int)
  | .tsb, v, p => subI16 p v.floor 0
  | .rsbExtent, v, _ => .ok (satI16 v.floor : Int)
  | .kernValue, v, _ => .ok (otRoundI16 v : Int)
  | .anchorCoord, v, _ => .ok (otRoundI16 v : Int)
  | .valueDelta, v, _ => .ok (otRoundI16 v : Int)
  | .gvarDelta, v, _ => .ok (otRoundI16 v : Int)
  | .hvarDelta, v, _ => .ok (otRoundI16 v : Int)
  | .metricI16, v, _ => .ok (otRoundI16 v : Int)
  | .metricU16, v, _ => .ok (otRoundU16 v : Int)
  | .glyphCount, v, _ => if cnt v ≤ 65535 then .ok (cnt v : Int) else .panic
  | .longMetricCount, v, _ => if cnt v ≤ 65535 then .ok (cnt v : Int) else .err
  | .countU16, v, _ => .ok (wrapU16 (cnt v) : Int)
  | .endPt, v, p => subU16 p (wrapU16 (cnt v)) 1
  | .numContours, v, _ => if cnt v ≤ 32766 then .ok (cnt v : Int) else .panic   -- `len < i16::MAX`
  | .compositeTotal, v, p => addU16 p 0 (cnt v)
  | .compositeBbox, v, _ => .ok (otRoundI16 v : Int)

/-- The value the field is MEANT to carry: the format's own rounding rule applied to the source value, in
    unbounded integers (no saturation, no wrap). -/
def ideal : Field → Rat → Rat
  | .outlineCoord, v | .compOffset, v | .advance, v | .lsb, v | .kernValue, v | .anchorCoord, v
  | .valueDelta, v | .gvarDelta, v | .hvarDelta, v | .metricI16, v | .metricU16, v | .compositeBbox, v => (otRound v : Int)
  | .comp2x2, v => ((roundHalfAway (v * 16384) : Int) : Rat) / 16384
  | .endPt, v => (cnt v - 1 : Int)
  | .pointDelta, v | .tsb, v | .rsbExtent, v => (v.floor : Int)
  | .glyphCount, v | .longMetricCount, v | .countU16, v | .numContours, v | .compositeTotal, v => (cnt v : Int)

/-- The explicit, decidable range predicate: the ideal value fits the field (and, for the three fields with a
    code-imposed limit tighter than the format's — 2×2 entries, contour count, end points — the code accepts it). -/
def Representable : Field → Rat → Prop
  | .outlineCoord, v | .compOffset, v | .lsb, v | .kernValue, v | .anchorCoord, v
  | .valueDelta, v | .gvarDelta, v | .hvarDelta, v | .metricI16, v | .compositeBbox, v => inI16 (otRound v)
  | .advance, v | .metricU16, v => inU16 (otRound v)
  | .pointDelta, v | .tsb, v | .rsbExtent, v => inI16 v.floor
  | .comp2x2, v => -2 ≤ v ∧ roundHalfAway (v * 16384) ≤ 32767
  | .glyphCount, v | .longMetricCount, v | .countU16, v | .compositeTotal, v => cnt v ≤ 65535
  | .endPt, v => 1 ≤ cnt v ∧ cnt v ≤ 65535
  | .numContours, v => cnt v ≤ 32766

instance (f : Field) (v : Rat) : Decidable (Representable f v) := by
  cases f <;> unfold Representable <;> infer_instance

/-- Fields whose pipeline contains an unchecked fixed-width `+` / `-`: the only ones on which the two build
    profiles can differ. -/
def profileSensitiveOld : Field → Bool
  | .pointDelta | .tsb | .endPt | .compositeTotal => true
  | _ => false

/-- The property, per field: the build fails, falls back, or the emitted value is the ideal one. -/
def RejectsOrExactOld (f : Field) (v : Rat) (p : Profile) : Prop :=
  match fieldPipelineOld f v p with
  | .ok w => w = ideal f v
  | _ => True

instance (f : Field) (v : Rat) (p : Profile) : Decidable (RejectsOrExactOld f v p) := by
  unfold RejectsOrExactOld; split <;> infer_instance

/-! ## 3b. The pipeline of the CURRENT code (after the fixes)

  d8817db  fontbe/src/glyphs.rs: `check_path_bounds` (outline coordinates of every master), `check_encodable` (successive
           point differences of the default outline, more than 65535 points), component offsets at the default
           location, every non-default gvar delta — `Error::OutOfBounds` instead of clamping / panicking / wrapping;
  944e88e  fontbe/src/metrics_and_limits.rs, vertical_metrics.rs, metric_variations.rs: advance width / height, HVAR / VVAR
           deltas, `u16::try_from` for the maxp counts, `checked_add` for the composite totals;
  f8fa190  fontbe/src/features.rs `round_to_i16` (+ `DeltaError::OutOfRange`): kerning / anchor values and deltas.
  NOT changed: top side bearing (unchecked i16 `-`), hhea/vhea min second side bearing and max extent (explicit clamp),
  composite bounding boxes (saturating), fontinfo metrics (saturating `ot_round()`), 2.14 saturation on [2-2^-15, 2]. -/

/-- a range check added by the fixes: the value or `Error::OutOfBounds` -/
def checkedI16 (r : Int) : Outcome := if inI16 r then .ok (r : Int) else .err
def checkedU16 (r : Int) : Outcome := if inU16 r then .ok (r : Int) else .err

/-- `fieldPipeline f v p`: what the code does NOW with source value `v` destined for field `f` under profile `p`. -/
def fieldPipeline : Field → Rat → Profile → Outcome
  | .outlineCoord, v, _ => checkedI16 (otRound v)
  | .pointDelta, v, _ => checkedI16 v.floor
  | .compOffset, v, _ => checkedI16 (otRound v)
  | .comp2x2, v, _ => if -2 ≤ v ∧ v ≤ 2 then .ok (f2dot14ToRat (f2dot14FromF64 v)) else .fallback
  | .advance, v, _ => checkedU16 (otRound v)
  -- xMin of a simple glyph: the minimum of coordinates that all passed `check_path_bounds`
  | .lsb, v, _ => checkedI16 (otRound v)
  | .tsb, v, p => subI16 p v.floor 0
  | .rsbExtent, v, _ => .ok (satI16 v.floor : Int)
  | .kernValue, v, _ => checkedI16 (otRound v)
  | .anchorCoord, v, _ => checkedI16 (otRound v)
  | .valueDelta, v, _ => checkedI16 (otRound v)
  | .gvarDelta, v, _ => checkedI16 (otRound v)
  | .hvarDelta, v, _ => checkedI16 (otRound v)
  | .metricI16, v, _ => .ok (otRoundI16 v : Int)
  | .metricU16, v, _ => .ok (otRoundU16 v : Int)
  | .glyphCount, v, _ => if cnt v ≤ 65535 then .ok (cnt v : Int) else .panic
  | .longMetricCount, v, _ => if cnt v ≤ 65535 then .ok (cnt v : Int) else .err
  | .countU16, v, _ => checkedU16 (cnt v)
  -- `assert!(!contour.is_empty())` (glyphs.rs) for 0 points; more than 65535 points rejected by `check_encodable`
  | .endPt, v, _ => if cnt v = 0 then .panic else if cnt v ≤ 65535 then .ok ((cnt v - 1 : Int) : Rat) else .err
  | .numContours, v, _ => if cnt v ≤ 32766 then .ok (cnt v : Int) else .panic   -- `len < i16::MAX`
  | .compositeTotal, v, _ => checkedU16 (cnt v)
  | .compositeBbox, v, _ => .ok (otRoundI16 v : Int)

/-- The fields the fixes did not touch and on which a differing value can still be emitted. -/
def isOpen : Field → Bool
  | .tsb | .rsbExtent | .compositeBbox | .metricI16 | .metricU16 | .comp2x2 => true
  | _ => false

/-- The only field that still contains an unchecked fixed-width subtraction. -/
def profileSensitive : Field → Bool
  | .tsb => true
  | _ => false

def Overflows : Field → Rat → Prop
  | .tsb, v => ¬ inI16 v.floor
  | _, _ => False

instance (f : Field) (v : Rat) : Decidable (Overflows f v) := by
  cases f <;> unfold Overflows <;> infer_instance

/-- The property, per field, of the current code: the build fails, falls back, or the emitted value is the ideal one. -/
def RejectsOrExact (f : Field) (v : Rat) (p : Profile) : Prop :=
  match fieldPipeline f v p with
  | .ok w => w = ideal f v
  | _ => True

instance (f : Field) (v : Rat) (p : Profile) : Decidable (RejectsOrExact f v p) := by
  unfold RejectsOrExact; split <;> infer_instance

/-- `checked_add` fold of the composite totals (saturate, remember the overflow, report it at the end). -/
def foldCheckedAdd : Int → Bool → List Int → Outcome
  | acc, ovf, [] => if ovf then .err else .ok (acc : Rat)
  | acc, ovf, e :: es => if acc + e ≤ 65535 then foldCheckedAdd (acc + e) ovf es else foldCheckedAdd 65535 true es

/-! ## 4. End-to-end predictions (compositions of the stages above) -/

/-- Value a reader finds at a NON-default master for a field stored as default + delta·1: `v0`, `v1` are the source
    values at the default and at that master; `d` is the narrowed default, the delta the narrowed difference between
    the rounded master value and `d`. -/
def atMasterI16Old (v0 v1 : Rat) : Int :=
  let d := otRoundI16 v0
  d + otRoundI16 ((otRound v1 - d : Int) : Rat)

/-- hmtx + HVAR at the second master: hmtx stores `otRoundU16 v0`; the HVAR delta is computed between the
    UNSATURATED rounded advances (`OtRound<f64>`, metric_variations.rs:106) and then narrowed to i16. -/
def advanceAtMasterOld (v0 v1 : Rat) : Int :=
  otRoundU16 v0 + otRoundI16 ((otRound v1 - otRound v0 : Int) : Rat)

/-! ## 5. Predicates used in the statements of FontcProps/C19.lean -/

/-- where an unchecked fixed-width `+`/`-` overflows (the only source of profile dependence) -/
def OverflowsOld : Field → Rat → Prop
  | .pointDelta, v | .tsb, v => ¬ inI16 v.floor
  | .endPt, v => wrapU16 (cnt v) = 0
  | .compositeTotal, v => 65535 < cnt v
  | _, _ => False

instance (f : Field) (v : Rat) : Decidable (OverflowsOld f v) := by
  cases f <;> unfold OverflowsOld <;> infer_instance


/-- the ten fields narrowed by `ot_round()` into an i16 (before the fixes) -/
def isI16Round : Field → Bool
  | .outlineCoord | .compOffset | .lsb | .kernValue | .anchorCoord | .valueDelta | .gvarDelta | .hvarDelta | .metricI16
  | .compositeBbox => true
  | _ => false

def isU16Round : Field → Bool
  | .advance | .metricU16 => true
  | _ => false


/-- all successive differences (starting from `last`) fit an i16 -/
def DiffsFit : Int → List Int → Prop
  | _, [] => True
  | last, x :: xs => inI16 (x - last) ∧ DiffsFit x xs

instance : (last : Int) → (xs : List Int) → Decidable (DiffsFit last xs)
  | _, [] => isTrue trivial
  | last, x :: xs => by
    unfold DiffsFit
    have := instDecidableDiffsFit x xs
    infer_instance


/-- the glyf encoder behind `check_encodable` (current code): rejected unless every successive difference fits -/
def encodeDeltasChecked (p : Profile) (xs : List Int) : Option (List Int) :=
  if DiffsFit 0 xs then encodeDeltas p 0 xs else none

/-- sum of a list of counts -/
def listSum : List Int → Int
  | [] => 0
  | x :: xs => x + listSum xs


end Fontc.Casts
